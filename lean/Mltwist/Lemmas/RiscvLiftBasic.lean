import Std.Data.String.ToNat
import Mltwist.Model.Riscv
import Mltwist.Spec.RiscvLift
import Mltwist.Lemmas.Gadgets
import Mltwist.Lemmas.RiscvFields
import Mltwist.Lemmas.TwosComplement
/-
C01 library: what the correctness proofs of the lifted RISC-V tables need before an instruction word is looked at.
The IR names of the reference's registers (model naming = specification naming); the reference's sign extension
(`rvsext_*`) and the cleared bit 0 of `jalr` (the bridges between the byte-counting gadget specifications and the bit-counting
reference are in `EvalBasic`); reference states and memory; and `Rel` after each kind of effect, where `applyOpt`/`ipOpt` read
one optional effect (`none` is the dropped write to `x0`).
All `RiscvLift*` files share the namespace `Mltwist.Lemmas.RiscvLift`.
-/
namespace Mltwist.Lemmas.RiscvLift
open Mltwist Mltwist.Riscv Mltwist.Spec.Rv Mltwist.Spec.Lift
open Mltwist.Lemmas.EvalBasic
open Mltwist.Lemmas.TwosComplement
open Mltwist.Lemmas.Bytes (trunc_of_lt trunc_trunc trunc_zero trunc_one trunc_eq_mod)

theorem xName_inj {n m : Nat} (h : xName n = xName m) : n = m := regName_inj.1 h

theorem xName_ne_csrName (n m : Nat) : xName n ≠ csrName m := by
  intro h
  have := congrArg String.toList h
  simp [xName, csrName, String.toList_append] at this

theorem xName_ne_ipKey (n : Nat) : xName n ≠ Spec.Lift.ipKey := by
  intro h
  have := congrArg String.toList h
  simp [xName, Spec.Lift.ipKey, String.toList_append] at this

theorem csrName_ne_ipKey (n : Nat) : csrName n ≠ Spec.Lift.ipKey := by
  intro h
  have := congrArg String.toList h
  simp [csrName, Spec.Lift.ipKey, String.toList_append] at this

theorem csrName_inj {n m : Nat} (h : csrName n = csrName m) : n = m := by
  unfold csrName at h
  have := Nat.repr_inj.mp ((String.append_right_inj _).mp h)
  split at this <;> split at this <;> omega

theorem regName_eq (n : Nat) : regName n = xName n := rfl
theorem memoryKey_eq : memoryKey = memKey := rfl
theorem ipKey_eq : Riscv.ipKey = Spec.Lift.ipKey := rfl

theorem rvsext_mod (xlen n v : Nat) : Spec.Rv.sext xlen n (v % 2 ^ n) = Spec.Rv.sext xlen n v := by
  unfold Spec.Rv.sext; rw [sx_mod]

theorem rvsext_lt (xlen n v : Nat) : Spec.Rv.sext xlen n v < 2 ^ xlen := wrap_lt _ _

theorem rvsext_self (n v : Nat) : Spec.Rv.sext n n v = v % 2 ^ n := wrap_sx v

/-- clearing bit 0 (`jalr`): and with `-2` -/
theorem and_neg_two {n x : Nat} (hn : 1 ≤ n) (hx : x < 2 ^ n) : x &&& (2 ^ n - 2) = x / 2 * 2 := by
  obtain ⟨m, rfl⟩ := Nat.exists_eq_add_of_le hn
  have e : 2 ^ (1 + m) - 2 = (2 ^ m - 1) * 2 := by rw [Nat.pow_add, Nat.pow_one, Nat.sub_mul, Nat.mul_comm]
  -- both sides are even, and their halves are `x / 2 &&& (2 ^ m - 1)` and `x / 2 < 2 ^ m`
  apply Nat.eq_of_testBit_eq
  intro i
  cases i with
  | zero => simp [e, Nat.testBit_zero]
  | succ i =>
    rw [Nat.testBit_and, e, Nat.testBit_succ, Nat.testBit_succ, Nat.testBit_succ, Nat.mul_div_cancel _ (by decide),
      Nat.mul_div_cancel _ (by decide), Nat.testBit_two_pow_sub_one]
    by_cases hi : i < m
    · simp [hi]
    · simp [hi, testBit_of_lt (i := i) (Nat.div_lt_of_lt_mul (by rwa [Nat.pow_add, Nat.pow_one] at hx)) (by omega)]

theorem wrap_neg_two {n : Nat} (hn : 1 ≤ n) : wrap n (-2) = 2 ^ n - 2 := by
  have h2 := Nat.two_pow_pred_mul_two hn
  have hp := Nat.two_pow_pos (n - 1)
  rw [wrap_of_neg (by omega) (by omega)]
  omega

@[simp] theorem St.get_zero (s : St) : s.get 0 = 0 := rfl

theorem St.get_of_ne {s : St} {r : Nat} (h : r ≠ 0) : s.get r = s.x r := by
  simp [St.get, h]

@[simp] theorem St.set_zero (s : St) (v : Nat) : s.set 0 v = s := rfl

@[simp] theorem St.set_pc (s : St) (r v : Nat) : (s.set r v).pc = s.pc := by
  unfold St.set; split <;> rfl
@[simp] theorem St.set_csr (s : St) (r v : Nat) : (s.set r v).csr = s.csr := by
  unfold St.set; split <;> rfl
@[simp] theorem St.set_mem (s : St) (r v : Nat) : (s.set r v).mem = s.mem := by
  unfold St.set; split <;> rfl
theorem St.set_x (s : St) (r v k : Nat) :
    (s.set r v).x k = if r ≠ 0 ∧ k = r then v else s.x k := by
  unfold St.set
  by_cases hr : r = 0
  · simp [hr]
  · by_cases hk : k = r <;> simp [hr, hk]

@[simp] theorem St.setCsr_pc (s : St) (n v : Nat) : (s.setCsr n v).pc = s.pc := rfl
@[simp] theorem St.setCsr_x (s : St) (n v : Nat) : (s.setCsr n v).x = s.x := rfl
@[simp] theorem St.setCsr_mem (s : St) (n v : Nat) : (s.setCsr n v).mem = s.mem := rfl
@[simp] theorem St.store_pc (s : St) (a v n : Nat) : (s.store a v n).pc = s.pc := rfl
@[simp] theorem St.store_x (s : St) (a v n : Nat) : (s.store a v n).x = s.x := rfl
@[simp] theorem St.store_csr (s : St) (a v n : Nat) : (s.store a v n).csr = s.csr := rfl

/-- writing a register and writing a CSR commute (the reference does CSR first, the lifter rd first) -/
theorem St.set_setCsr (s : St) (r v n c : Nat) : (s.set r v).setCsr n c = (s.setCsr n c).set r v := by
  by_cases h : r = 0
  · subst h; rfl
  · simp only [St.set, if_neg h]; rfl

theorem St.set_store (s : St) (r v a b n : Nat) : (s.set r v).store a b n = (s.store a b n).set r v := by
  by_cases h : r = 0
  · subst h; rfl
  · simp only [St.set, if_neg h]; rfl

theorem _root_.Mltwist.Spec.Lift.St.WF.get_lt {xlen : Nat} {s : St} (h : St.WF xlen s) (r : Nat) : s.get r < 2 ^ xlen := by
  unfold St.get; split
  · exact Nat.two_pow_pos _
  · exact h.x r

theorem _root_.Mltwist.Spec.Lift.St.WF.set {xlen : Nat} {s : St} (h : St.WF xlen s) (r : Nat) {v : Nat} (hv : v < 2 ^ xlen) :
    St.WF xlen (s.set r v) := by
  refine ⟨fun k => ?_, by simpa using h.csr, by simpa using h.pc⟩
  rw [St.set_x]; split
  · exact hv
  · exact h.x k

theorem _root_.Mltwist.Spec.Lift.St.WF.setCsr {xlen : Nat} {s : St} (h : St.WF xlen s) (n : Nat) {v : Nat} (hv : v < 2 ^ xlen) :
    St.WF xlen (s.setCsr n v) := by
  refine ⟨h.x, fun k => ?_, h.pc⟩
  show (if k = n then v else s.csr k) < _
  split
  · exact hv
  · exact h.csr k

theorem _root_.Mltwist.Spec.Lift.St.WF.store {xlen : Nat} {s : St} (h : St.WF xlen s) (a v n : Nat) :
    St.WF xlen (s.store a v n) := ⟨h.x, h.csr, h.pc⟩

theorem _root_.Mltwist.Spec.Lift.St.WF.withPc {xlen : Nat} {s : St} (h : St.WF xlen s) {p : Nat} (hp : p < 2 ^ xlen) :
    St.WF xlen { s with pc := p } := ⟨h.x, h.csr, hp⟩

theorem _root_.Mltwist.Spec.Lift.Rel.withPc {ρ : Env} {s : St} (h : Rel ρ s) (p : Nat) : Rel ρ { s with pc := p } :=
  ⟨h.x, h.csr, h.mem⟩

theorem load_lt (s : St) (a n : Nat) : s.load a n < 2 ^ (8 * n) := by
  induction n generalizing a with
  | zero => simp [St.load]
  | succ n ih =>
    have := Bytes.pow8_succ n
    have h1 := ih (a + 1)
    have h2 : s.mem a % 256 < 256 := Nat.mod_lt _ (by decide)
    simp only [St.load, this]
    omega

/-- the IR's byte-wise load (addresses mod 2^64) is the reference's load when the range does not
wrap around 2^64 -/
theorem loadBytes_eq_load {ρ : Env} {s : St} (h : Rel ρ s) (a n : Nat) (hn : a + n ≤ 2 ^ 64) :
    loadBytes (ρ.mem memKey) a n = s.load a n := by
  induction n generalizing a with
  | zero => rfl
  | succ n ih =>
    have ha : a < 2 ^ 64 := by omega
    simp only [loadBytes, St.load, Nat.mod_eq_of_lt ha, h.mem a ha, ih (a + 1) (by omega)]

/-- the IR's byte-wise store agrees with the reference's store (no wrap around 2^64); only the low
`n` bytes of the stored value matter -/
theorem storeMem_storeBytes {m1 m2 : Nat → Nat} (hm : ∀ a, a < 2 ^ 64 → m1 a % 256 = m2 a % 256)
    (A n : Nat) (hn : A + n ≤ 2 ^ 64) (v1 v2 : Nat) (hv : v1 % 2 ^ (8 * n) = v2 % 2 ^ (8 * n)) :
    ∀ a, a < 2 ^ 64 → storeMem m1 A v1 n a % 256 = Spec.Rv.storeBytes m2 A v2 n a % 256 := by
  induction n generalizing m1 m2 A v1 v2 with
  | zero => exact hm
  | succ n ih =>
    have hA : A < 2 ^ 64 := by omega
    rw [Bytes.pow8_succ] at hv
    have hb : v1 % 256 = v2 % 256 := by
      rw [← Nat.mod_mul_right_mod v1, hv, Nat.mod_mul_right_mod]
    have hd : v1 / 256 % 2 ^ (8 * n) = v2 / 256 % 2 ^ (8 * n) := by
      rw [← Nat.mod_mul_right_div_self, hv, Nat.mod_mul_right_div_self]
    simp only [storeMem, Spec.Rv.storeBytes, Nat.mod_eq_of_lt hA]
    apply ih _ (A + 1) (by omega) _ _ hd
    intro a ha
    by_cases hk : a = A
    · simp [hk, hb]
    · simp [hk, hm a ha]

/-- apply one optional effect (`none` = the dropped write to `x0`) -/
def applyOpt (pre cur : Env) : Option Effect → Env
  | none => cur
  | some ef => applyEffect pre cur ef

/-- the effect of one optional effect on the next instruction pointer -/
def ipOpt (pre : Env) (ip : Nat) : Option Effect → Nat
  | some (.regStore v k w) => if k = Spec.Lift.ipKey then trunc w (v.eval pre) else ip
  | _ => ip

theorem regStore_cases (e : Expr) (i : Ins) (W : Nat) :
    regNum .rd i.value = 0 ∧ Riscv.regStore e i W = none ∨
      regNum .rd i.value ≠ 0 ∧
        Riscv.regStore e i W = some (.regStore e (xName (regNum .rd i.value)) W) := by
  unfold Riscv.regStore
  by_cases h : regNum .rd i.value = 0
  · exact Or.inl ⟨h, if_pos h⟩
  · exact Or.inr ⟨h, if_neg h⟩

/-- a read of `x0` is the constant zero (one byte wide), of any other register a `regLoad` node of the width asked for -/
theorem regLoad_cases (r : Reg) (i : Ins) (W : Nat) :
    regNum r i.value = 0 ∧ regLoad r i W = .zero ∨
      regNum r i.value ≠ 0 ∧ regLoad r i W = .regLoad (xName (regNum r i.value)) W := by
  unfold regLoad
  by_cases h : regNum r i.value = 0
  · exact Or.inl ⟨h, if_pos h⟩
  · exact Or.inr ⟨h, if_neg h⟩

theorem width_regLoad (r : Reg) (i : Ins) (W : Nat) : (regLoad r i W).width = if regNum r i.value = 0 then 1 else W := by
  rcases regLoad_cases r i W with ⟨h0, he⟩ | ⟨h0, he⟩ <;> rw [he]
  · rw [if_pos h0]; rfl
  · rw [if_neg h0]; rfl

theorem width_regLoad_pos (r : Reg) (i : Ins) {W : Nat} (hW : 1 ≤ W) : 1 ≤ (regLoad r i W).width := by
  rw [width_regLoad]; split <;> omega

theorem width_regLoad_le (r : Reg) (i : Ins) {W : Nat} (hW : 1 ≤ W) : (regLoad r i W).width ≤ W := by
  rw [width_regLoad]; split <;> omega

theorem branchCmp_eq (f : CondF) (b : Bool) (i : Ins) (w : Nat) :
    branchCmp f b i w = .regStore (f (regLoad .rs1 i w) (regLoad .rs2 i w)
      (bif b then addrImmConst .B i w else addrConst (i.addr + 4) w)
      (bif b then addrConst (i.addr + 4) w else addrImmConst .B i w) w) Riscv.ipKey w := by
  cases b <;> rfl

theorem foldl_filterMap_id {α β : Type} (f : β → α → β) (g : β → Option α → β)
    (hn : ∀ b, g b none = b) (hs : ∀ b a, g b (some a) = f b a) (l : List (Option α)) (b : β) :
    (l.filterMap id).foldl f b = l.foldl g b := by
  induction l generalizing b with
  | nil => rfl
  | cons x l ih =>
    cases x with
    | none => simp [hn, ih]
    | some a => simp [hs, ih]

theorem applyEffects_filterMap (ρ : Env) (l : List (Option Effect)) :
    Env.applyEffects ρ (l.filterMap id) = l.foldl (applyOpt ρ) ρ :=
  foldl_filterMap_id (applyEffect ρ) (applyOpt ρ) (fun _ => rfl) (fun _ _ => rfl) l ρ

theorem nextIp_filterMap (ρ : Env) (l : List (Option Effect)) (fall : Nat) :
    nextIp ρ (l.filterMap id) fall = l.foldl (ipOpt ρ) fall := by
  unfold nextIp
  apply foldl_filterMap_id
  · intro b; rfl
  · intro b a; cases a <;> rfl

theorem mem_validEffects {e : Entry} {i : Ins} {ef : Effect} : ef ∈ e.validEffects i ↔ some ef ∈ e.effects i := by
  simp only [Entry.validEffects, List.mem_filterMap, id_eq, exists_eq_right]

@[simp] theorem ipOpt_none (pre : Env) (ip : Nat) : ipOpt pre ip none = ip := rfl
@[simp] theorem ipOpt_memStore (pre : Env) (ip : Nat) (v a : Expr) (n : Nat) :
    ipOpt pre ip (some (Riscv.memStore v a n)) = ip := rfl
@[simp] theorem ipOpt_ip (pre : Env) (ip : Nat) (v : Expr) (W : Nat) :
    ipOpt pre ip (some (.regStore v Riscv.ipKey W)) = trunc W (v.eval pre) := by
  simp [ipOpt, ipKey_eq]
@[simp] theorem ipOpt_regStore (pre : Env) (ip : Nat) (v : Expr) (i : Ins) (W : Nat) :
    ipOpt pre ip (Riscv.regStore v i W) = ip := by
  rcases regStore_cases v i W with ⟨_, h⟩ | ⟨_, h⟩ <;> rw [h]
  · rfl
  · exact (if_neg (xName_ne_ipKey _) :
      ite (xName (regNum .rd i.value) = Spec.Lift.ipKey) (trunc W (v.eval pre)) ip = ip)
@[simp] theorem ipOpt_csr (pre : Env) (ip : Nat) (v : Expr) (n W : Nat) :
    ipOpt pre ip (some (.regStore v (csrName n) W)) = ip := by
  simp [ipOpt, csrName_ne_ipKey]

@[simp] theorem applyOpt_none (pre cur : Env) : applyOpt pre cur none = cur := rfl

theorem _root_.Mltwist.Spec.Lift.Rel.regKey {cur : Env} {t t' : St} (h : Rel cur t) {k : String} {v : Nat}
    (hx : ∀ n, 1 ≤ n → n < 32 → t'.x n = if xName n = k then v else t.x n)
    (hc : ∀ n, n < 4096 → t'.csr n = if csrName n = k then v else t.csr n) (hm : t'.mem = t.mem) :
    Rel { cur with reg := fun k' => if k' = k then v else cur.reg k' } t' := by
  refine ⟨fun n h1 h2 => ?_, fun n hn => ?_, fun a ha => hm ▸ h.mem a ha⟩
  · rw [hx n h1 h2, ← h.x n h1 h2]
  · rw [hc n hn, ← h.csr n hn]

theorem _root_.Mltwist.Spec.Lift.Rel.regWrite {pre cur : Env} {t : St} (h : Rel cur t) {n : Nat} (h1 : 1 ≤ n)
    (e : Expr) (W : Nat) :
    Rel (applyEffect pre cur (.regStore e (xName n) W)) (t.set n (trunc W (e.eval pre))) := by
  refine h.regKey (fun k _ _ => ?_) (fun k _ => ?_) (St.set_mem ..)
  · rw [St.set_x]
    by_cases hk : k = n
    · rw [hk, if_pos ⟨Nat.ne_of_gt h1, rfl⟩, if_pos rfl]
    · rw [if_neg fun hh => hk hh.2, if_neg fun hh => hk (xName_inj hh)]
  · rw [St.set_csr, if_neg (Ne.symm (xName_ne_csrName n k))]

theorem _root_.Mltwist.Spec.Lift.Rel.regStore {pre cur : Env} {t : St} (h : Rel cur t) (e : Expr) (a w W : Nat) {v : Nat}
    (hv : trunc W (e.eval pre) = v) :
    Rel (applyOpt pre cur (Riscv.regStore e ⟨a, w⟩ W)) (t.set (rd w) v) := by
  subst hv
  rcases regStore_cases e ⟨a, w⟩ W with ⟨h0, hs⟩ | ⟨h0, hs⟩ <;> rw [hs]
  · rw [show rd w = 0 from h0]; exact h
  · exact h.regWrite (Nat.pos_of_ne_zero h0) e W

theorem _root_.Mltwist.Spec.Lift.Rel.ipWrite {pre cur : Env} {t : St} (h : Rel cur t) (e : Expr) (W : Nat) :
    Rel (applyOpt pre cur (some (.regStore e Riscv.ipKey W))) t :=
  h.regKey (fun k _ _ => (if_neg (xName_ne_ipKey k)).symm) (fun k _ => (if_neg (csrName_ne_ipKey k)).symm) rfl

theorem _root_.Mltwist.Spec.Lift.Rel.csrWrite {pre cur : Env} {t : St} (h : Rel cur t) (n : Nat)
    (e : Expr) (W : Nat) {v : Nat} (hv : trunc W (e.eval pre) = v) :
    Rel (applyOpt pre cur (some (.regStore e (csrName n) W))) (t.setCsr n v) := by
  subst hv
  refine h.regKey (fun k _ _ => (if_neg (xName_ne_csrName k n)).symm) (fun k _ => ?_) rfl
  show (if k = n then _ else _) = _
  by_cases hkn : k = n
  · rw [hkn, if_pos rfl, if_pos rfl]
  · rw [if_neg hkn, if_neg fun hh => hkn (csrName_inj hh)]

/-- the IR stores the low `n` bytes of the value, the reference the low `n` bytes of `b` -/
theorem _root_.Mltwist.Spec.Lift.Rel.memStore {pre cur : Env} {t : St} (h : Rel cur t) (v addr : Expr) (n : Nat) {A b : Nat}
    (hA : addr.eval pre = A) (hlt : A < 2 ^ 64) (hn : A + n ≤ 2 ^ 64)
    (hv : trunc n (v.eval pre) = b % 2 ^ (8 * n)) :
    Rel (applyOpt pre cur (some (Riscv.memStore v addr n))) (t.store A b n) := by
  subst hA
  refine ⟨h.x, h.csr, fun a ha => ?_⟩
  simp only [applyOpt, Riscv.memStore, applyEffect, memoryKey_eq, if_true, St.store,
    Nat.mod_eq_of_lt hlt]
  exact storeMem_storeBytes h.mem _ n hn _ _ (by rw [← trunc_eq_mod, trunc_trunc, hv]) a ha

end Mltwist.Lemmas.RiscvLift
