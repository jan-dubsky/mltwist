import Mltwist.Lemmas.MemView
import Mltwist.Lemmas.BytesMemOps
import Mltwist.Lemmas.Transform
import Mltwist.Lemmas.SparseMissing
import Mltwist.Lemmas.OverlayInst
/-
C32: the memories that show their byte maps (normal blocks `bl` with `Coh mem bl σ`).  The byte memory of C15 (directly: its
addresses need no bound, which the memory laws of C16 ask for); through `coh_of_laws`, every memory
that obeys the memory laws of C16 and whose loaded expressions are closed and well formed (they fold
to constants); the sparse memory of C14 whose stored expressions are closed and well formed (constants:
what the emulator stores) is an instance (`ofSparse_eq`, `sparseBytes_eq`, `abs_bounded`).
-/
namespace Mltwist.Lemmas.MemView
open Mltwist Mltwist.MemView

theorem normalR_of_normal {m : List Interval.Intv} (h : Interval.Normal m) (h0 : ∀ i ∈ m, 0 ≤ i.1) :
    NormalR (m.map toRange) := by
  obtain ⟨hne, hp⟩ := (Lemmas.Interval.normal_iff m).mp h
  refine normalR_iff.mpr ⟨?_, List.pairwise_map.mpr (hp.imp_of_mem fun {i j} hi hj hij => ?_)⟩
  · intro b hb
    obtain ⟨i, hi, rfl⟩ := List.mem_map.mp hb
    have := hne i hi
    have := h0 i hi
    simp only [toRange]
    omega
  · have := hne i hi
    have := h0 i hi
    have := h0 j hj
    simp only [toRange]
    omega

theorem memR_map_toRange {m : List Interval.Intv} (h0 : ∀ i ∈ m, 0 ≤ i.1) (a : Nat) :
    MemR a (m.map toRange) ↔ Interval.Mem (a : Int) m := by
  unfold MemR Interval.Mem
  constructor
  · rintro ⟨b, hb, h1, h2⟩
    obtain ⟨i, hi, rfl⟩ := List.mem_map.mp hb
    have := h0 i hi
    simp only [toRange] at h1 h2
    exact ⟨i, hi, by omega, by omega⟩
  · rintro ⟨i, hi, h1, h2⟩
    have := h0 i hi
    exact ⟨toRange i, List.mem_map.mpr ⟨i, hi, rfl⟩, by simp only [toRange]; omega,
      by simp only [toRange]; omega⟩

theorem normalR_of_intervals {m : List Interval.Intv} {S : Nat → Prop}
    (h : Lemmas.Interval.NormalOf m fun x => 0 ≤ x ∧ S x.toNat) :
    NormalR (m.map toRange) ∧ ∀ a, MemR a (m.map toRange) ↔ S a := by
  have h0 : ∀ i ∈ m, 0 ≤ i.1 := fun i hi =>
    ((h.mem i.1).mp ⟨i, hi, Int.le_refl _, Lemmas.Interval.normal_nonempty h.normal i hi⟩).1
  exact ⟨normalR_of_normal h.normal h0, fun a => by rw [memR_map_toRange h0, h.mem]; simp⟩

/-- the bytes of a load of width 1 -/
theorem forall_lt_one {P : Nat → Prop} {a : Nat} (h : P a) : ∀ i, i < 1 → P (a + i) := fun i hi => by
  obtain rfl : i = 0 := Nat.lt_one_iff.mp hi
  exact h

theorem ofBytes_coh (bs : List BytesMem.Block) (h : BytesSpec.Inv bs) :
    ∃ bl, NormalR bl ∧ Coh (ofBytes bs) bl (BytesSpec.ofBlocks bs) ∧
      ∀ a, MemR a bl ↔ BytesSpec.ofBlocks bs a ≠ none := by
  obtain ⟨hN, hmem⟩ := normalR_of_intervals (S := fun a => BytesSpec.ofBlocks bs a ≠ none)
    (Lemmas.BytesMem.blocks_spec bs h)
  refine ⟨_, hN, ⟨rfl, ?_, ?_⟩, hmem⟩
  · intro a ha
    have hpres := (hmem a).mp ha
    obtain ⟨r, hr, hiff, hval⟩ := Lemmas.BytesMem.load_spec bs h a 1 (Nat.le_refl _)
    have hsome : r.isSome = true := hiff.mpr (forall_lt_one (P := fun x => BytesSpec.ofBlocks bs x ≠ none) hpres)
    obtain ⟨v, rfl⟩ := Option.isSome_iff_exists.mp hsome
    obtain ⟨hlen, hv⟩ := hval v rfl
    have hv0 := hv 0 (by omega)
    match v, hlen, hv0 with
    | [b], _, hv0 =>
      refine ⟨b, [], ?_, ?_⟩
      · simp only [ofBytes, hr, Transform.constFold_const]
      · simpa using hv0.symm
  · intro a ha
    exact Classical.not_not.mp fun hne => ha ((hmem a).mpr hne)

open Mltwist.Sparse Mltwist.Spec.Sparse Mltwist.Lemmas.Sparse
open Mltwist.Lemmas.Transform

/-- closed and well-formed -/
def CW (e : Expr) : Prop := e.closed = true ∧ e.wf = true

/-- the valuation used to read off the (constant) bytes -/
def ρ0 : Env := ⟨fun _ => 0, fun _ _ => 0⟩

/-- the byte map of a sparse memory of closed expressions -/
def sparseBytes (t : Tree) : Nat → Option UInt8 := fun a =>
  match Sparse.abs t a with
  | none => none
  | some c => some (UInt8.ofNat (byteVal ρ0 c))

/-- What the memory view reads of a memory given by its queries: `Blocks().Intervals()` and, per
address, the bytes of the constant `ConstFold(Load(a, 1))`.  `MemView.ofSparse` and `ofMem` of the
composition are this record for their views. -/
def ofView (v : Overlay.View) : Mem where
  blocks := match v.blocks with
    | .ok l => some (l.map toRange)
    | .error _ => none
  load1 a := match v.load a 1 with
    | .ok (some e) =>
      match constFold e with
      | .const bs => some bs
      | _ => none
    | _ => none

/-- the bytes of an abstract memory of constants (evaluated under any valuation) -/
def bytesOf (A : Spec.Overlay.AbsMem) : Nat → Option UInt8 := fun a => (A a).map fun x => UInt8.ofNat (x ρ0)

/-- A memory that obeys the memory laws of C16 for the byte map `A`, none of whose present bytes sits at
the top of the address space and all of whose loaded expressions are closed and well formed, shows the
bytes of `A`: `ConstFold(Load(a, 1))` is the one-byte constant of the byte at `a`. -/
theorem coh_of_laws {v : Overlay.View} {A : Spec.Overlay.AbsMem} (laws : Overlay.MemLaws v A)
    (hb : ∀ a, A a ≠ none → a + 1 < 2 ^ 64) (hshape : Lemmas.Overlay.Loads CW v) :
    ∃ bl, NormalR bl ∧ Bounded bl ∧ Coh (ofView v) bl (bytesOf A) ∧ ∀ a, MemR a bl ↔ A a ≠ none := by
  obtain ⟨l, hl, hn, hmem⟩ := laws.blocks
  obtain ⟨hN, hmemR⟩ := normalR_of_intervals (S := fun a => A a ≠ none) ⟨hn, hmem⟩
  refine ⟨l.map toRange, hN, fun b hbm => ?_, ⟨by simp only [ofView, hl], ?_, ?_⟩, hmemR⟩
  · -- the last address of a block is stored
    have := (normalR_iff.mp hN).1 b hbm
    have := hb (b.2 - 1) ((hmemR _).mp ⟨b, hbm, by omega, by omega⟩)
    omega
  · intro a ha
    have hpres := (hmemR a).mp ha
    have hd : InDom a 1 := ⟨Nat.le_refl _, by omega, hb a hpres⟩
    obtain ⟨r, hr, hiff, hval⟩ := laws.load a 1 hd
    have hsome : r ≠ none := hiff.mpr (forall_lt_one (P := fun x => A x ≠ none) hpres)
    cases r with
    | none => exact absurd rfl hsome
    | some e =>
      obtain ⟨hw, hev⟩ := hval e rfl
      obtain ⟨hc, hwf⟩ := hshape a 1 e hd hr
      have hbs := constFold_closed_eq ρ0 e hc hwf
      rw [hw, hev ρ0] at hbs
      refine ⟨UInt8.ofNat (Spec.Overlay.loadVal ρ0 A a 1 % 256), [], by simp only [ofView, hr, hbs]; rfl, ?_⟩
      cases hA : A a with
      | none => exact absurd hA hpres
      | some x =>
        rw [bytesOf, Lemmas.Overlay.loadVal_one, hA, Option.map_some, Spec.Overlay.byteOf,
          Nat.mod_eq_of_lt (laws.bytewise a x hA ρ0)]
  · intro a ha
    rw [bytesOf, Classical.not_not.mp (fun h => ha ((hmemR a).mpr h)), Option.map_none]

theorem ofSparse_eq (t : Tree) : ofSparse t = ofView (Overlay.sparseView t) := by
  simp only [ofSparse, ofView, Overlay.sparseView]
  congr 1
  · cases Sparse.blocks t <;> rfl
  · funext a
    rcases Sparse.load t a 1 with _ | _ | _ <;> rfl

theorem sparseBytes_eq (t : Tree) : sparseBytes t = bytesOf (Spec.Overlay.ofSparse (Sparse.abs t)) := by
  funext a
  unfold sparseBytes bytesOf Spec.Overlay.ofSparse
  cases Sparse.abs t a <;> rfl

/-- a stored address lies in an interval of the tree, whose end is an address -/
theorem abs_bounded {t : Tree} (hinv : Inv t) {a : Nat} (ha : Sparse.abs t a ≠ none) : a + 1 < 2 ^ 64 := by
  rcases abs_cases t a with ⟨hn, _⟩ | ⟨kv, hkv, hc, _⟩
  · exact absurd hn ha
  · have := good_lin (hinv.2 kv hkv)
    unfold Contains at hc
    omega

end Mltwist.Lemmas.MemView
