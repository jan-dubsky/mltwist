import Mltwist.Spec.BasicBlock
import Mltwist.Lemmas.Const
import Mltwist.Lemmas.SortSearch
/-
C08, the ingredients of `basicblock.Parse` one by one: the sort, the binary search, the insertion shift of
`blocks.split`, `jumps`.  The idea that carries the rest: every splitting stage is `Spec.groups` for a cut
relation (`gapB` for `splitByAddress`, `jmpB` for `splitByJumps`, `atAddr A` for `blocks.split(A)`), and one
stage after another is `groups` for the `||` of the cuts (`groups_flatMap_groups`).
-/
namespace Mltwist.Lemmas.BasicBlock
open Mltwist Mltwist.BasicBlock Mltwist.BasicBlock.Spec Mltwist.Lemmas

theorem sortIns_perm (l : List Ins) : (sortIns l).Perm l :=
  InsertSort.sort_perm (p := fun a b : Ins => a.addr < b.addr) (ins := insertSorted) (fun _ => rfl)
    (fun _ _ _ => rfl) l

theorem sortIns_sorted (l : List Ins) : (sortIns l).Pairwise fun a b => a.addr ≤ b.addr :=
  InsertSort.sort_sorted (p := fun a b : Ins => a.addr < b.addr) (ins := insertSorted) (fun _ => rfl)
    (fun _ _ _ => rfl) Nat.le_of_lt Nat.le_of_not_lt Nat.le_trans l

theorem searchLoop_zero (f : Nat → Except Fail Bool) (i j : Nat) : searchLoop f 0 i j = .ok i := rfl

theorem searchLoop_ge (f : Nat → Except Fail Bool) (fuel i j : Nat) (h : ¬ i < j) :
    searchLoop f (fuel + 1) i j = .ok i := by
  rw [searchLoop, if_neg h]

theorem searchLoop_lt (f : Nat → Except Fail Bool) (fuel i j : Nat) (b : Bool) (h : i < j)
    (hb : f ((i + j) / 2) = .ok b) :
    searchLoop f (fuel + 1) i j =
      if b then searchLoop f fuel i ((i + j) / 2) else searchLoop f fuel ((i + j) / 2 + 1) j := by
  rw [searchLoop, if_pos h]
  simp only [hb, bind, Except.bind]
  cases b <;> rfl

theorem search_total (f : Nat → Except Fail Bool) (n : Nat)
    (hf : ∀ i, i < n → ∃ v, f i = .ok v) : ∃ k, search n f = .ok k ∧ k ≤ n :=
  Search.search_total searchLoop_zero searchLoop_ge searchLoop_lt f n hf

theorem search_list {α : Type} (l : List α) (f : Nat → Except Fail Bool) (q : α → Bool)
    (hf : ∀ i (h : i < l.length), f i = .ok (q l[i]))
    (hmono : l.Pairwise fun x y => q x = true → q y = true) :
    ∃ pre post, l = pre ++ post ∧ search l.length f = .ok pre.length ∧
      (∀ x ∈ pre, q x = false) ∧ ∀ x ∈ post, q x = true :=
  Search.search_list searchLoop_zero searchLoop_ge searchLoop_lt l f q hf hmono

/-- the lookups of `internal/deps` run this loop too -/
theorem search_find? {α : Type} (l : List α) (f : Nat → Except Fail Bool) (p r : α → Bool)
    (hf : ∀ i (h : i < l.length), f i = .ok (p l[i]))
    (hmono : l.Pairwise fun x y => p x = true → p y = true ∧ r y = false)
    (hrp : ∀ x ∈ l, r x = true → p x = true) :
    ∃ k, search l.length f = .ok k ∧ k ≤ l.length ∧
      (∀ h : k < l.length, p l[k] = true) ∧ l.find? r = l[k]?.filter r :=
  Search.search_find? searchLoop_zero searchLoop_ge searchLoop_lt l f p r hf hmono hrp

theorem groups_cons_cut {cut : Ins → Ins → Bool} {a b : Ins} (h : cut a b = true) (rest : List Ins) :
    groups cut (a :: b :: rest) = [a] :: groups cut (b :: rest) := by
  rw [groups, if_pos h]

theorem groups_cons_join {cut : Ins → Ins → Bool} {a b : Ins} (h : cut a b = false) {rest g : List Ins}
    {gs : List (List Ins)} (hg : groups cut (b :: rest) = g :: gs) :
    groups cut (a :: b :: rest) = (a :: g) :: gs := by
  rw [groups, if_neg (by rw [h]; exact Bool.false_ne_true), hg]

theorem groups_cons_head (cut : Ins → Ins → Bool) (b : Ins) (rest : List Ins) :
    ∃ g gs, groups cut (b :: rest) = (b :: g) :: gs := by
  induction rest generalizing b with
  | nil => exact ⟨[], [], rfl⟩
  | cons c rest ih =>
    obtain ⟨g, gs, h⟩ := ih c
    cases hc : cut b c
    · exact ⟨c :: g, gs, groups_cons_join hc h⟩
    · exact ⟨[], _, groups_cons_cut hc rest⟩

theorem groups_induct (cut : Ins → Ins → Bool) {motive : List Ins → List (List Ins) → Prop}
    (nil : motive [] []) (one : ∀ a, motive [a] [[a]])
    (cut_ : ∀ a b rest, cut a b = true → motive (b :: rest) (groups cut (b :: rest)) →
      motive (a :: b :: rest) ([a] :: groups cut (b :: rest)))
    (join : ∀ a b rest g gs, cut a b = false → groups cut (b :: rest) = (b :: g) :: gs →
      motive (b :: rest) ((b :: g) :: gs) → motive (a :: b :: rest) ((a :: b :: g) :: gs)) :
    ∀ l, motive l (groups cut l)
  | [] => nil
  | [a] => one a
  | a :: b :: rest => by
    have ih := groups_induct cut nil one cut_ join (b :: rest)
    obtain ⟨g, gs, h⟩ := groups_cons_head cut b rest
    cases hc : cut a b
    · rw [h] at ih
      exact groups_cons_join hc h ▸ join a b rest g gs hc h ih
    · exact groups_cons_cut hc rest ▸ cut_ a b rest hc ih

theorem groups_flatten (cut : Ins → Ins → Bool) (l : List Ins) : (groups cut l).flatten = l :=
  groups_induct cut (motive := fun l G => G.flatten = l) rfl (fun _ => rfl)
    (fun _ _ _ _ ih => by simp [ih]) (fun _ _ _ _ _ _ _ ih => by simpa using ih) l

theorem groups_ne_nil (cut : Ins → Ins → Bool) (l : List Ins) : ∀ g ∈ groups cut l, g ≠ [] :=
  groups_induct cut (motive := fun _ G => ∀ g ∈ G, g ≠ []) nofun (fun _ => by simp)
    (fun _ _ _ _ ih => List.forall_mem_cons.2 ⟨List.cons_ne_nil _ _, ih⟩)
    (fun _ _ _ _ _ _ _ ih => List.forall_mem_cons.2 ⟨List.cons_ne_nil _ _, (List.forall_mem_cons.1 ih).2⟩) l

/-- adjacent instructions: `a.End() == b.Begin()` -/
def Contig : List Ins → Prop
  | a :: b :: rest => a.end_ = b.addr ∧ Contig (b :: rest)
  | _ => True

/-- the cut relation cuts wherever `End()` of one instruction is not `Begin()` of the next -/
def CutsGaps (cut : Ins → Ins → Bool) : Prop := ∀ a b, a.end_ ≠ b.addr → cut a b = true

theorem CutsGaps.or_left {cut : Ins → Ins → Bool} (h : CutsGaps cut) (c : Ins → Ins → Bool) :
    CutsGaps fun a b => cut a b || c a b :=
  fun a b hab => by simp only [h a b hab, Bool.true_or]

theorem groups_contig (cut : Ins → Ins → Bool) (hc : CutsGaps cut) (l : List Ins) :
    ∀ g ∈ groups cut l, Contig g :=
  groups_induct cut (motive := fun _ G => ∀ g ∈ G, Contig g) nofun (fun _ => by simp [Contig])
    (fun _ _ _ _ ih => List.forall_mem_cons.2 ⟨trivial, ih⟩)
    (fun a b _ _ _ hcut _ ih =>
      have ⟨h1, h2⟩ := List.forall_mem_cons.1 ih
      List.forall_mem_cons.2 ⟨⟨Classical.byContradiction fun hne => (by rw [hc a b hne] at hcut; cases hcut), h1⟩, h2⟩) l

theorem groups_flatMap_groups (c1 c2 : Ins → Ins → Bool) (l : List Ins) :
    (groups c1 l).flatMap (groups c2) = groups (fun a b => c1 a b || c2 a b) l := by
  refine groups_induct c1
    (motive := fun l G => G.flatMap (groups c2) = groups (fun a b => c1 a b || c2 a b) l)
    rfl (fun _ => rfl) (fun a b rest h1 ih => by simp [groups, h1, ← ih]) (fun a b rest g gs h1 _ ih => ?_) l
  simp only [List.flatMap_cons] at ih ⊢
  obtain ⟨g2, gs2, h2⟩ := groups_cons_head c2 b g
  cases h2c : c2 a b
  · rw [h2] at ih
    simp [groups, h1, h2c, h2, ← ih]
  · simp [groups, h1, h2c, ← ih]

/-- the one cut `blocks.split(A)` adds: before the instruction at address `A` -/
def atAddr (A : Nat) : Ins → Ins → Bool := fun _ b => b.addr == A

theorem groups_atAddr_none (A : Nat) (h : List Ins) (hne : h ≠ [])
    (hA : ∀ b ∈ h.tail, b.addr ≠ A) : groups (atAddr A) h = [h] := by
  induction h with
  | nil => exact absurd rfl hne
  | cons a rest ih =>
    cases rest with
    | nil => rfl
    | cons b rest =>
      have hb : b.addr ≠ A := hA b (by simp)
      exact groups_cons_join (by simp [atAddr, hb])
        (ih (by simp) fun c hc => hA c (by simp at hc ⊢; exact Or.inr hc))

theorem groups_atAddr_split (A : Nat) (s : List Ins) (x : Ins) (t : List Ins) (hs : s ≠ [])
    (hx : x.addr = A) (hs' : ∀ b ∈ s.tail, b.addr ≠ A) (ht : ∀ b ∈ t, b.addr ≠ A) :
    groups (atAddr A) (s ++ x :: t) = [s, x :: t] := by
  induction s with
  | nil => exact absurd rfl hs
  | cons a rest ih =>
    cases rest with
    | nil =>
      exact (groups_cons_cut (by simp [atAddr, hx]) t).trans
        (by rw [groups_atAddr_none A (x :: t) (by simp) (by simpa using ht)])
    | cons b rest =>
      have hb : b.addr ≠ A := hs' b (by simp)
      exact groups_cons_join (by simp [atAddr, hb])
        (ih (by simp) fun c hc => hs' c (by simp at hc ⊢; exact Or.inr hc))

/-- the cuts of `splitByAddress` (an address gap) and of `splitByJumps` (after an instruction with jumps) -/
def gapB : Ins → Ins → Bool := fun a b => decide (a.end_ ≠ b.addr)
def jmpB : Ins → Ins → Bool := fun a _ => decide (a.jumps.length > 0)

/-! A loop that gathers the current run in `cur` and closes it after `a` when `cut a b` holds for the next
instruction `b`, or when the input ends, computes `groups cut`.  Like the sort and the search, the loops of the model
enter through their equations. -/
section Loop

variable {cut : Ins → Ins → Bool} {L : List Ins → List Ins → List (List Ins)}
  (hone : ∀ cur a, L cur [a] = [cur ++ [a]])
  (hcons : ∀ cur a b rest, L cur (a :: b :: rest) =
    if cut a b then (cur ++ [a]) :: L [] (b :: rest) else L (cur ++ [a]) (b :: rest))
include hone hcons

theorem loop_eq_groups (cur : List Ins) (a : Ins) (rest g : List Ins) (gs : List (List Ins))
    (h : groups cut (a :: rest) = (a :: g) :: gs) : L cur (a :: rest) = (cur ++ a :: g) :: gs := by
  induction rest generalizing cur a g gs with
  | nil =>
    simp [groups] at h
    simp [hone, h]
  | cons b rest ih =>
    obtain ⟨g', gs', h'⟩ := groups_cons_head cut b rest
    rw [hcons]
    -- in both cases `simp at h` leaves the two equations that say what `g` and `gs` are
    cases hc : cut a b
    · simp [groups, hc, h'] at h
      obtain ⟨rfl, rfl⟩ := h
      simp [ih (cur ++ [a]) b g' gs' h']
    · simp [groups, hc] at h
      obtain ⟨rfl, rfl⟩ := h
      simp [ih [] b g' gs' h', h']

theorem groups_of_loop (hnil : L [] [] = []) : ∀ l, L [] l = groups cut l
  | [] => hnil
  | a :: rest => by
    obtain ⟨g, gs, h⟩ := groups_cons_head cut a rest
    rw [loop_eq_groups hone hcons [] a rest g gs h, h]
    rfl

end Loop

theorem splitByAddress_eq (l : List Ins) : splitByAddress l = groups gapB l :=
  groups_of_loop (fun _ _ => rfl)
    (fun cur a b rest => by by_cases h : a.end_ = b.addr <;> simp [splitByAddressLoop, gapB, h]) rfl l

theorem splitByJumps_eq (l : List Ins) : splitByJumps l = groups jmpB l :=
  groups_of_loop (fun cur a => by by_cases h : a.jumps.length > 0 <;> simp [splitByJumpsLoop, h])
    (fun cur a b rest => by rw [splitByJumpsLoop]; simp [jmpB]) rfl l

/-- the cut relation after the first two stages -/
def cut0 : Ins → Ins → Bool := fun a b => gapB a b || jmpB a b

theorem pipeline_eq (l : List Ins) :
    pipelineStage splitByJumps (pipelineStage splitByAddress [l]) = groups cut0 l := by
  have : splitByJumps = groups jmpB := funext splitByJumps_eq
  simp only [pipelineStage, List.flatMap_cons, List.flatMap_nil, List.append_nil, splitByAddress_eq, this]
  exact groups_flatMap_groups gapB jmpB l

theorem shiftLoop_lt (lo i : Nat) (l : List Block) (h : i < lo) : shiftLoop lo i l = l := by
  cases i with
  | zero => rfl
  | succ i =>
    rw [shiftLoop]
    have : ¬ (i + 1 ≥ lo) := by omega
    simp [this]

/-- The loop `for i := len-1; i >= lo; i-- { bs[i] = bs[i-1] }` on `P ++ Q ++ z :: R` with `lo` one past `P` and `i` at
`z`: every element of `Q` moves one place to the right, the last of them onto the appended zero block `z`.  What then stands
where `Q` began (its first element a second time, or `z` when `Q` is empty) is left open: `blocks.split` overwrites it. -/
theorem shiftLoop_spec (P : List Block) : ∀ (n : Nat) (Q R : List Block) (z : Block), Q.length = n →
    ∃ x, shiftLoop (P.length + 1) (P.length + n) (P ++ Q ++ z :: R) = P ++ x :: Q ++ R := by
  intro n
  induction n with
  | zero =>
    intro Q R z hn
    obtain rfl := List.length_eq_zero_iff.1 hn
    exact ⟨z, by rw [shiftLoop_lt _ _ _ (by omega)]; simp⟩
  | succ n ih =>
    intro Q R z hn
    obtain ⟨Q', y, rfl⟩ : ∃ Q' y, Q = Q' ++ [y] := by
      rcases List.eq_nil_or_concat Q with rfl | ⟨Q', y, rfl⟩
      · cases hn
      · exact ⟨Q', y, List.concat_eq_append⟩
    have hn' : Q'.length = n := by simpa using hn
    obtain ⟨x, hx⟩ := ih Q' (y :: R) y hn'
    refine ⟨x, ?_⟩
    -- one round of the loop copies `y` onto `z`
    have e : (P ++ (Q' ++ [y]) ++ z :: R).set (P.length + n + 1) ((P ++ (Q' ++ [y]) ++ z :: R).getD (P.length + n) default) =
        P ++ Q' ++ y :: y :: R := by
      have a : P ++ (Q' ++ [y]) ++ z :: R = (P ++ Q') ++ y :: z :: R := by simp
      rw [a, List.getD_eq_getElem?_getD, List.getElem?_append_right (by simp [hn']),
        List.set_append_right _ _ (by simp [hn'])]
      simp [hn']
    rw [← Nat.add_assoc, shiftLoop, if_pos (by omega), e, hx]
    simp

theorem insertShift_append (P Q : List Block) (y b1 b2 : Block) :
    insertShift (P ++ y :: Q) P.length b1 b2 = P ++ b1 :: b2 :: Q := by
  obtain ⟨x, hx⟩ := shiftLoop_spec (P ++ [y]) Q.length Q [] default rfl
  have hl : (P ++ y :: Q ++ [default]).length - 1 = (P ++ [y]).length + Q.length := by simp; omega
  have hL : P ++ y :: Q ++ [default] = P ++ [y] ++ Q ++ [default] := by simp
  unfold insertShift
  dsimp only
  rw [hl, hL, show P.length + 2 = (P ++ [y]).length + 1 by simp, hx]
  simp

theorem insertShift_eq (bs : List Block) (idx : Nat) (b1 b2 : Block) (h : idx < bs.length) :
    insertShift bs idx b1 b2 = bs.take idx ++ b1 :: b2 :: bs.drop (idx + 1) := by
  have := insertShift_append (bs.take idx) (bs.drop (idx + 1)) bs[idx] b1 b2
  rwa [List.getElem_cons_drop, List.take_append_drop, List.length_take_of_le (Nat.le_of_lt h)] at this

theorem constUint8 (bs : List UInt8) :
    Const.constUint 8 bs = (leToNat bs % 2 ^ 64, decide (leToNat bs < 2 ^ 64)) :=
  Lemmas.Const.constUint_spec 8 bs (by decide)

theorem filterJumps_eq (endA : Nat) (es : List Expr) :
    filterJumps endA es = (es.map constFold).filter fun e => !isAddr endA e := by
  induction es with
  | nil => rfl
  | cons e es ih =>
    simp only [filterJumps, List.map_cons, List.filter_cons]
    cases h : constFold e with
    | const bs =>
      simp only [constUint8, isAddr, ih]
      by_cases hh : leToNat bs % 2 ^ 64 = endA
      · simp [hh]
      · simp [hh]
    | _ => simp [isAddr, ih]

theorem jumps_spec (addr len : Nat) (efs : List Effect) :
    jumps addr len efs = realTargets addr len efs := by
  unfold realTargets
  induction efs with
  | nil => rfl
  | cons ef efs ih =>
    cases ef with
    | memStore v k a w => simpa [jumps, ipValues] using ih
    | regStore v k w =>
      simp only [jumps, ipValues, List.filter_append, ih]
      by_cases hk : k = ipKey
      · have hk' : k = "#r:w:ip" := hk
        simp [hk, filterJumps_eq, M, ipKey]
      · have hk' : ¬ k = "#r:w:ip" := hk
        simp [hk, hk']

theorem constTarget_eq (e : Expr) : constTarget e = constAddr e := by
  cases e with
  | const bs =>
    simp only [constTarget, constAddr, constUint8]
    by_cases h : leToNat bs < 2 ^ 64
    · simp [h, Nat.mod_eq_of_lt h]
    · simp [h]
  | _ => rfl

end Mltwist.Lemmas.BasicBlock
