import Mltwist.Model.Format
import Mltwist.Spec.Format
/-
Proofs for C29 (help-text wrapping).  Core Lean only.

For `chars = n ≥ 1` a round of the loop cuts a line off the remaining text (`Cut`, `cutLine_cases`); `Lines n rest bs`
is the resulting decomposition of the text into line bodies, and the model's loop terminates with exactly the
rendering of such a decomposition (`formatLoop_ok`).  The clauses of the specification are proved by induction on
`Lines`, the word clause through the executable checker, which is shown sound (`check_sound`) and to accept the
model's output (`format_check`).  Last, the rounds outside the precondition `chars ≥ 1`.
-/
namespace Mltwist.Lemmas.Format
open Mltwist.Format
open Mltwist.Spec.Format (splitLines splitLinesAux words wordsAux noSpace takeWord splitOK pieces
  body Wrapped Pre check wordsKeptB)

theorem space_eq : Spec.Format.space = space := rfl
theorem nl_eq : Spec.Format.nl = nl := rfl

theorem findFrom_spec (s : Str) (i : Nat) :
    (findFrom s i = -1 ∧ ∀ j, 1 ≤ j → j ≤ i → s.getD j 0 ≠ space) ∨
    (∃ k : Nat, findFrom s i = (k : Int) ∧ 1 ≤ k ∧ k ≤ i ∧ s.getD k 0 = space) := by
  induction i with
  | zero => left; exact ⟨rfl, fun j h1 h2 => by omega⟩
  | succ i ih =>
    unfold findFrom
    by_cases h : s.getD (i + 1) 0 = space
    · right; exact ⟨i + 1, by rw [if_pos h], by omega, by omega, h⟩
    · simp only [h, if_false]
      rcases ih with ⟨h1, h2⟩ | ⟨k, h1, h2, h3, h4⟩
      · left
        refine ⟨h1, fun j hj1 hj2 => ?_⟩
        by_cases hj : j = i + 1
        · subst hj; exact h
        · exact h2 j hj1 (by omega)
      · right; exact ⟨k, h1, h2, by omega, h4⟩

/-- `findWordDelimSpace` answers `-1` or an index in `1 … len(s)-1` holding a space (the Go doc comment) -/
theorem findWordDelimSpace_spec (s : Str) :
    (findWordDelimSpace s = -1 ∧ ∀ j, 1 ≤ j → j ≤ s.length - 1 → s.getD j 0 ≠ space) ∨
    (∃ k : Nat, findWordDelimSpace s = (k : Int) ∧ 1 ≤ k ∧ k ≤ s.length - 1 ∧ s.getD k 0 = space) :=
  findFrom_spec s (s.length - 1)

/-- how the cut position was chosen: all that remains if it fits; else the last space among `rest[1..n]`; else,
without such a space, `n` -/
inductive CutHow (n : Nat) (rest : Str) (k : Nat) : Prop
  | all : rest.length ≤ n → k = rest.length → CutHow n rest k
  | atSpace : n < rest.length → rest.getD k 0 = space → CutHow n rest k
  | hard : n < rest.length → k = n → (∀ j, 1 ≤ j → j ≤ n → rest.getD j 0 ≠ space) → CutHow n rest k

/-- The cut position `k` of a round on the text `rest` for `chars = n`: at least one byte, at most `n`. -/
structure Cut (n : Nat) (rest : Str) (k : Nat) : Prop where
  pos : 1 ≤ k
  le_chars : k ≤ n
  le_length : k ≤ rest.length
  how : CutHow n rest k

theorem Cut.length_take {n k : Nat} {rest : Str} (h : Cut n rest k) : (rest.take k).length = k :=
  List.length_take_of_le h.le_length

theorem getD_take (l : Str) (m j : Nat) (h : j < m) : (l.take m).getD j 0 = l.getD j 0 := by
  simp [List.getD_eq_getElem?_getD, h]

theorem cutLine_cases (n : Nat) (hn : 1 ≤ n) (rest : Str) (hne : rest ≠ []) :
    ∃ k, Cut n rest k ∧ cutLine (n : Int) rest = some (rest.take k) := by
  have hpos : 1 ≤ rest.length := List.length_pos_iff.2 hne
  unfold cutLine
  simp only
  by_cases hlen : n < rest.length
  · have htl : (rest.take (n + 1)).length - 1 = n := by rw [List.length_take]; omega
    rw [if_pos (by omega), if_neg (by omega), show ((n : Int) + 1).toNat = n + 1 by omega]
    rcases findWordDelimSpace_spec (rest.take (n + 1)) with ⟨h3, h4⟩ | ⟨k, h3, h4, h5, h6⟩
    · rw [h3, if_pos rfl, if_neg (by omega), Int.toNat_natCast]
      exact ⟨n, ⟨hn, Nat.le_refl _, by omega, .hard hlen rfl fun j hj1 hj2 => by
        rw [← getD_take rest (n + 1) j (by omega)]
        exact h4 j hj1 (by omega)⟩, rfl⟩
    · rw [htl] at h5
      rw [getD_take _ _ _ (by omega)] at h6
      rw [h3, if_neg (by omega), if_neg (by omega), Int.toNat_natCast]
      exact ⟨k, ⟨h4, h5, by omega, .atSpace hlen h6⟩, rfl⟩
  · rw [if_neg (by omega)]
    exact ⟨rest.length, ⟨hpos, by omega, Nat.le_refl _, .all (by omega) rfl⟩, by rw [List.take_length]⟩

/-- the bytes written for the line bodies `bs` -/
def render (tabs : Nat) (bs : List Str) : Str :=
  (bs.map fun b => List.replicate tabs tab ++ b ++ [nl]).flatten

/-- what remains after a line of `k` bytes: `i += len(str)`, then the space-skipping loop -/
def after (rest : Str) (k : Nat) : Str := (rest.drop k).dropWhile (· == space)

/-- decomposition of the remaining text into line bodies by successive cuts -/
inductive Lines (n : Nat) : Str → List Str → Prop
  | nil : Lines n [] []
  | step (rest : Str) (k : Nat) (bs : List Str) :
      Cut n rest k → Lines n (after rest k) bs → Lines n rest (rest.take k :: bs)

theorem length_after_le (rest : Str) (k : Nat) : (after rest k).length ≤ rest.length - k := by
  have := (List.dropWhile_sublist (· == space) (l := rest.drop k)).length_le
  rwa [List.length_drop] at this

/-- the fuel never runs out — for every input, also outside the precondition: a round either ends the
loop, panics, is recognised as repeating for ever, or consumes at least one byte -/
theorem formatLoop_ne_outOfFuel (indent chars : Int) :
    ∀ (fuel : Nat) (rest sb : Str), rest.length < fuel →
      formatLoop indent chars fuel rest sb ≠ .outOfFuel := by
  intro fuel
  induction fuel with
  | zero => intro rest sb h; omega
  | succ fuel ih =>
    intro rest sb h
    unfold formatLoop
    by_cases h0 : rest.length = 0
    · simp [h0]
    · simp only [h0, if_false]
      cases hc : cutLine chars rest with
      | none => simp
      | some str =>
        simp only
        split
        · simp
        · rename_i hne
          apply ih
          have h1 := length_after_le rest str.length
          unfold after at h1
          omega

theorem format_ne_outOfFuel (s : Str) (indent width : Int) : format s indent width ≠ .outOfFuel :=
  formatLoop_ne_outOfFuel _ _ _ _ _ (Nat.lt_succ_self _)

theorem formatLoop_step (indent chars : Int) (fuel : Nat) {rest str : Str} (sb : Str) (hne : rest ≠ [])
    (hc : cutLine chars rest = some str) (hadv : (after rest str.length).length ≠ rest.length) :
    formatLoop indent chars (fuel + 1) rest sb =
      formatLoop indent chars fuel (after rest str.length) (sb ++ List.replicate indent.toNat tab ++ str ++ [nl]) := by
  rw [formatLoop, if_neg (mt List.eq_nil_of_length_eq_zero hne)]
  simp only [hc]
  exact if_neg hadv

theorem formatLoop_ok (indent : Int) (n : Nat) (hn : 1 ≤ n) :
    ∀ (fuel : Nat) (rest sb : Str), rest.length < fuel →
      ∃ bs, Lines n rest bs ∧
        formatLoop indent (n : Int) fuel rest sb = .ok (sb ++ render indent.toNat bs)
  | 0, _, _, h => absurd h (Nat.not_lt_zero _)
  | fuel + 1, rest, sb, h => by
    by_cases hne : rest = []
    · subst hne
      exact ⟨[], Lines.nil, by simp [formatLoop, render]⟩
    · obtain ⟨k, hcut, hc⟩ := cutLine_cases n hn rest hne
      have hlen := hcut.length_take
      have hk1 := hcut.pos
      have hk3 := hcut.le_length
      have hal := length_after_le rest k
      obtain ⟨bs, hl, hf⟩ := formatLoop_ok indent n hn fuel (after rest k)
        (sb ++ List.replicate indent.toNat tab ++ rest.take k ++ [nl]) (by omega)
      refine ⟨rest.take k :: bs, Lines.step rest k bs hcut hl, ?_⟩
      rw [formatLoop_step indent n fuel sb hne hc (by rw [hlen]; omega), hlen, hf]
      simp [render, List.append_assoc]

theorem head?_dropWhile_space (l : Str) : (l.dropWhile (· == space)).head? ≠ some space := by
  have := List.head?_dropWhile_not (· == space) l
  intro h
  rw [h] at this
  exact absurd this (by decide)

theorem pre_after (rest : Str) (k : Nat) (h : Pre rest) : Pre (after rest k) := by
  refine ⟨head?_dropWhile_space _, fun hm => h.2 ?_⟩
  exact List.mem_of_mem_drop ((List.dropWhile_sublist _).subset hm)

/-- a line body for `chars = n`: between 1 and `n` bytes, no newline, no space in front -/
structure IsBody (n : Nat) (b : Str) : Prop where
  pos : 1 ≤ b.length
  le_chars : b.length ≤ n
  no_nl : nl ∉ b
  head : b.head? ≠ some space

theorem lines_bodies (n : Nat) (rest : Str) (bs : List Str) (hl : Lines n rest bs) (hg : Pre rest) :
    ∀ b ∈ bs, IsBody n b := by
  induction hl with
  | nil => intro b hb; cases hb
  | step rest k bs hcut _ ih =>
    intro b hb
    rcases List.mem_cons.1 hb with rfl | hb
    · have hk1 := hcut.pos
      refine ⟨hcut.length_take.symm ▸ hk1, hcut.length_take.symm ▸ hcut.le_chars,
        fun hm => hg.2 (List.mem_of_mem_take hm), ?_⟩
      cases rest with
      | nil => exact absurd hcut.le_length (by simp; omega)
      | cons c cs =>
        cases k with
        | zero => omega
        | succ k => simpa [space_eq] using hg.1
    · exact ih (pre_after _ _ hg) b hb

theorem noSpace_append (a b : Str) : noSpace (a ++ b) = noSpace a ++ noSpace b := by
  simp [noSpace]

theorem noSpace_dropWhile (l : Str) : noSpace (l.dropWhile (· == space)) = noSpace l := by
  induction l with
  | nil => rfl
  | cons c cs ih =>
    by_cases h : c = space
    · subst h
      simpa [List.dropWhile_cons, noSpace, space_eq] using ih
    · simp [h]

theorem noSpace_after (rest : Str) (k : Nat) :
    noSpace (rest.take k) ++ noSpace (after rest k) = noSpace rest := by
  unfold after
  rw [noSpace_dropWhile, ← noSpace_append, List.take_append_drop]

theorem lines_content (n : Nat) (rest : Str) (bs : List Str) (hl : Lines n rest bs) :
    noSpace bs.flatten = noSpace rest := by
  induction hl with
  | nil => rfl
  | step rest k bs _ _ ih =>
    rw [List.flatten_cons, noSpace_append, ih, noSpace_after]

theorem splitLinesAux_line (l : Str) (hl : nl ∉ l) (r cur : Str) :
    splitLinesAux (l ++ nl :: r) cur = (splitLinesAux r []).map ((cur ++ l) :: ·) := by
  induction l generalizing cur with
  | nil => simp [splitLinesAux, nl_eq]
  | cons c cs ih =>
    have hc : c ≠ nl := fun e => hl (by simp [e])
    have hcs : nl ∉ cs := fun e => hl (by simp [e])
    simp only [List.cons_append, splitLinesAux, nl_eq, hc, if_false]
    rw [ih hcs]
    simp

theorem splitLines_render (tabs : Nat) (bs : List Str) (h : ∀ b ∈ bs, nl ∉ b) :
    splitLines (render tabs bs) = some (bs.map (List.replicate tabs tab ++ ·)) := by
  unfold splitLines
  induction bs with
  | nil => simp [render, splitLinesAux]
  | cons b bs ih =>
    have hb : nl ∉ List.replicate tabs tab ++ b := by
      intro hm
      rcases List.mem_append.1 hm with hm | hm
      · have := List.eq_of_mem_replicate hm
        exact absurd this (by decide)
      · exact h b (by simp) hm
    have ih' := ih (fun b' hb' => h b' (by simp [hb']))
    have : render tabs (b :: bs) = (List.replicate tabs tab ++ b) ++ nl :: render tabs bs := by
      simp [render, List.append_assoc]
    rw [this, splitLinesAux_line _ hb, ih']
    simp

theorem body_tabs (tabs : Nat) (b : Str) : body tabs (List.replicate tabs tab ++ b) = b := by
  unfold body
  exact List.drop_left' (by simp)

theorem map_body_tabs (tabs : Nat) (bs : List Str) :
    (bs.map (List.replicate tabs tab ++ ·)).map (body tabs) = bs := by
  induction bs with
  | nil => rfl
  | cons b bs ih => simp only [List.map_cons, body_tabs, ih]

theorem wordsAux_append_space (a b cur : Str) :
    wordsAux (a ++ space :: b) cur = wordsAux a cur ++ words b := by
  induction a generalizing cur with
  | nil =>
    simp only [List.nil_append, wordsAux, space_eq, if_true, words]
    split <;> simp
  | cons c cs ih =>
    simp only [List.cons_append, wordsAux]
    split
    · split
      · rw [ih]
      · rw [ih]; simp
    · rw [ih]

theorem words_append_space (a b : Str) : words (a ++ space :: b) = words a ++ words b :=
  wordsAux_append_space a b []

theorem wordsAux_nonspace (w : Str) (hw : ∀ c ∈ w, c ≠ space) (b cur : Str) :
    wordsAux (w ++ b) cur = wordsAux b (cur ++ w) := by
  induction w generalizing cur with
  | nil => simp
  | cons c cs ih =>
    have hc : c ≠ Spec.Format.space := hw c (by simp)
    simp only [List.cons_append, wordsAux, hc, if_false]
    rw [ih (fun c' hc' => hw c' (by simp [hc']))]
    simp

theorem words_nonspace (w : Str) (hw : ∀ c ∈ w, c ≠ space) (hne : w ≠ []) : words w = [w] := by
  have := wordsAux_nonspace w hw [] []
  simp only [List.append_nil, List.nil_append] at this
  unfold words
  rw [this]
  simp [wordsAux, hne]

theorem words_dropWhile (l : Str) : words (l.dropWhile (· == space)) = words l := by
  induction l with
  | nil => rfl
  | cons c cs ih =>
    by_cases h : c = space
    · subst h
      simp only [List.dropWhile_cons, beq_self_eq_true, if_true]
      rw [ih]
      simp [words, wordsAux, space_eq]
    · simp [h]

/-- a text starting with a non-space byte: its first word continues whatever word is being read -/
theorem wordsAux_cons_nonspace (b : Str) : ∀ (c : UInt8), c ≠ space →
    ∃ (w : Str) (ws : List Str), ∀ cur, wordsAux (c :: b) cur = (cur ++ c :: w) :: ws := by
  induction b with
  | nil =>
    intro c hc
    refine ⟨[], [], fun cur => ?_⟩
    have hc' : c ≠ Spec.Format.space := hc
    simp [wordsAux, hc']
  | cons d b ih =>
    intro c hc
    have hc' : c ≠ Spec.Format.space := hc
    by_cases hd : d = space
    · subst hd
      refine ⟨[], words b, fun cur => ?_⟩
      simp [wordsAux, hc, space_eq, words]
    · obtain ⟨w, ws, h⟩ := ih d hd
      refine ⟨d :: w, ws, fun cur => ?_⟩
      have := h (cur ++ [c])
      simp only [wordsAux, hc', if_false]
      simp only [wordsAux] at this
      rw [this]
      simp

theorem splitOK_append (n : Nat) (ws1 ws2 ps2 : List Str) :
    splitOK n (ws1 ++ ws2) (ws1 ++ ps2) = splitOK n ws2 ps2 := by
  induction ws1 with
  | nil => rfl
  | cons w ws ih => simp [splitOK, takeWord, ih]

theorem splitOK_glue (n : Nat) (p v : Str) (ws ps : List Str) (hp : p ≠ []) (hv : v ≠ [])
    (h : splitOK n (v :: ws) ps = true) (hlen : n < (p ++ v).length) :
    splitOK n ((p ++ v) :: ws) (p :: ps) = true := by
  have h1 : ¬ (p = p ++ v) := fun e => hv (List.self_eq_append_right.mp e)
  have hvl : 0 < v.length := List.length_pos_iff.2 hv
  have h2 : p ≠ [] ∧ p.length < (p ++ v).length ∧ (p ++ v).take p.length = p :=
    ⟨hp, by rw [List.length_append]; omega, List.take_left' rfl⟩
  have h3 : (p ++ v).drop p.length = v := List.drop_left' rfl
  unfold splitOK at h ⊢
  unfold takeWord
  rw [if_neg h1, if_pos h2, h3]
  cases ht : takeWord v ps with
  | none => rw [ht] at h; simp at h
  | some mr =>
    obtain ⟨m, r⟩ := mr
    rw [ht] at h
    simp only [Option.map_some]
    simp only [Bool.and_eq_true] at h ⊢
    refine ⟨?_, h.2⟩
    rw [List.length_append] at hlen
    simp [hlen]

theorem getD_eq_getElem (l : Str) (k : Nat) (h : k < l.length) : l.getD k 0 = l[k] := by
  simp [List.getD_eq_getElem?_getD, h]

theorem drop_of_getD (l : Str) (k : Nat) (h : k < l.length) :
    l.drop k = l.getD k 0 :: l.drop (k + 1) := by
  rw [getD_eq_getElem l k h]
  exact List.drop_eq_getElem_cons h

theorem take_nonspace (l : Str) (n : Nat) (hh : l.head? ≠ some space)
    (h : ∀ j, 1 ≤ j → j ≤ n → l.getD j 0 ≠ space) : ∀ c ∈ l.take n, c ≠ space := by
  intro c hc
  obtain ⟨i, hi, rfl⟩ := List.getElem_of_mem hc
  rw [List.length_take] at hi
  rw [List.getElem_take]
  cases i with
  | zero =>
    intro e
    apply hh
    cases l with
    | nil => simp at hi
    | cons a as => simp at e; simp [e]
  | succ i =>
    have := h (i + 1) (by omega) (by omega)
    rwa [getD_eq_getElem l (i + 1) (by omega)] at this

theorem lines_words (n : Nat) (rest : Str) (bs : List Str) (hl : Lines n rest bs) (hg : Pre rest) :
    splitOK n (words rest) (pieces bs) = true := by
  induction hl with
  | nil => rfl
  | step rest k bs hcut _ ih =>
    have ih := ih (pre_after _ _ hg)
    have hp : pieces (rest.take k :: bs) = words (rest.take k) ++ pieces bs := by simp [pieces]
    rw [hp]
    have hk1 := hcut.pos
    have hk2 := hcut.le_chars
    have hlen := hcut.length_take
    cases hcut.how with
    | all _ h2 => -- the last line: everything that remains
      subst h2
      have ha : after rest rest.length = [] := by simp [after]
      rw [ha] at ih
      rw [List.take_length]
      have := splitOK_append n (words rest) [] (pieces bs)
      rw [List.append_nil] at this
      rw [this]
      exact ih
    | atSpace h1 h2 => -- no word is touched
      have hk : k < rest.length := by omega
      have hd := drop_of_getD rest k hk
      rw [h2] at hd
      have hw : words rest = words (rest.take k) ++ words (after rest k) := by
        unfold after
        rw [hd]
        simp only [List.dropWhile_cons, beq_self_eq_true, if_true]
        rw [words_dropWhile, ← words_append_space, ← hd, List.take_append_drop]
      rw [hw, splitOK_append]
      exact ih
    | hard h1 h2 h3 => -- the first word is longer than `n` and is split after `n` bytes
      subst h2
      have hns := take_nonspace rest k hg.1 h3
      have hd := drop_of_getD rest k h1
      have hc : rest.getD k 0 ≠ space := h3 k hk1 (Nat.le_refl _)
      generalize rest.getD k 0 = c at hd hc
      have haf : after rest k = c :: rest.drop (k + 1) := by
        unfold after
        rw [hd]
        simp [hc]
      obtain ⟨w', ws, hW⟩ := wordsAux_cons_nonspace (rest.drop (k + 1)) c hc
      have hne' : rest.take k ≠ [] := List.ne_nil_of_length_pos (hlen.symm ▸ hk1)
      have hw1 : words (after rest k) = (c :: w') :: ws := by
        rw [haf]
        simpa [words] using hW []
      have hw2 : words rest = (rest.take k ++ c :: w') :: ws := by
        have e : rest = rest.take k ++ c :: rest.drop (k + 1) := by
          rw [← hd, List.take_append_drop]
        have := wordsAux_nonspace (rest.take k) hns (c :: rest.drop (k + 1)) []
        rw [← e] at this
        unfold words
        rw [this, hW]
        simp
      rw [hw1] at ih
      rw [hw2, words_nonspace _ hns hne']
      exact splitOK_glue k (rest.take k) (c :: w') ws (pieces bs) hne' (by simp) ih
        (by rw [List.length_append, hlen]; simp)

theorem takeWord_spec (ps : List Str) : ∀ (w : Str) (m : Nat) (r : List Str),
    takeWord w ps = some (m, r) → ∃ g : List Str, ps = g ++ r ∧ g.flatten = w ∧ g.length = m := by
  induction ps with
  | nil => intro w m r h; simp [takeWord] at h
  | cons p ps ih =>
    intro w m r h
    unfold takeWord at h
    by_cases h1 : p = w
    · rw [if_pos h1] at h
      simp only [Option.some.injEq, Prod.mk.injEq] at h
      exact ⟨[p], by simp [h.2], by simp [h1], h.1⟩
    · rw [if_neg h1] at h
      by_cases h2 : p ≠ [] ∧ p.length < w.length ∧ w.take p.length = p
      · rw [if_pos h2] at h
        cases ht : takeWord (w.drop p.length) ps with
        | none => rw [ht] at h; simp at h
        | some mr =>
          obtain ⟨m', r'⟩ := mr
          rw [ht] at h
          simp only [Option.map_some, Option.some.injEq, Prod.mk.injEq] at h
          obtain ⟨g, hg1, hg2, hg3⟩ := ih _ _ _ ht
          refine ⟨p :: g, by simp [hg1, h.2], ?_, by simp [hg3, h.1]⟩
          rw [List.flatten_cons, hg2]
          have e := List.take_append_drop p.length w
          rw [h2.2.2] at e
          exact e
      · rw [if_neg h2] at h
        simp at h

theorem splitOK_sound (n : Nat) (ws : List Str) : ∀ ps : List Str, splitOK n ws ps = true →
    ∃ groups : List (List Str), groups.flatten = ps ∧ groups.map List.flatten = ws ∧
      ∀ g ∈ groups, g.length = 1 ∨ n < g.flatten.length := by
  induction ws with
  | nil =>
    intro ps h
    simp only [splitOK, List.isEmpty_iff] at h
    exact ⟨[], by simp [h], rfl, fun g hg => by cases hg⟩
  | cons w ws ih =>
    intro ps h
    unfold splitOK at h
    cases ht : takeWord w ps with
    | none => rw [ht] at h; simp at h
    | some mr =>
      obtain ⟨m, r⟩ := mr
      rw [ht] at h
      simp only [Bool.and_eq_true, Bool.or_eq_true, beq_iff_eq, decide_eq_true_eq] at h
      obtain ⟨g, hg1, hg2, hg3⟩ := takeWord_spec ps w m r ht
      obtain ⟨groups, hG1, hG2, hG3⟩ := ih r h.2
      refine ⟨g :: groups, by simp [hG1, hg1], by simp [hG2, hg2], ?_⟩
      intro g' hg'
      rcases List.mem_cons.1 hg' with rfl | hg'
      · rcases h.1 with h | h
        · left; omega
        · right; rw [hg2]; exact h
      · exact hG3 g' hg'

theorem ite_some_eq_none {α : Type} {c : Prop} [Decidable c] (x : α) (r : Option α) :
    (if c then some x else r) = none ↔ ¬c ∧ r = none := by
  split <;> simp [*]

theorem check_eq_none_iff (s : Str) (indent chars : Nat) (out : Str) :
    check s indent chars out = none ↔ ∃ ls, splitLines out = some ls ∧
      (∀ l ∈ ls, l.take indent = List.replicate indent Spec.Format.tab) ∧
      (∀ b ∈ ls.map (body indent), 1 ≤ b.length) ∧ (∀ b ∈ ls.map (body indent), b.length ≤ chars) ∧
      noSpace (ls.map (body indent)).flatten = noSpace s ∧
      wordsKeptB chars s (ls.map (body indent)) = true := by
  unfold check
  cases splitLines out with
  | none => simp
  | some ls =>
    simp only [ite_some_eq_none, Classical.not_not, Option.some.injEq, exists_eq_left', and_true, ne_eq]

theorem check_sound (s : Str) (indent chars : Nat) (out : Str) (h : check s indent chars out = none) :
    Wrapped s indent chars out := by
  obtain ⟨ls, hsp, h1, h2, h3, h4, h5⟩ := (check_eq_none_iff s indent chars out).1 h
  exact ⟨ls, hsp, fun l hl => ⟨h1 l hl, h2 _ (List.mem_map_of_mem hl), h3 _ (List.mem_map_of_mem hl)⟩, h4,
    splitOK_sound _ _ _ h5⟩

theorem format_lines (s : Str) (indent width : Int) (hc : 1 ≤ width - indent * tabWidth) :
    ∃ bs, Lines (width - indent * tabWidth).toNat s bs ∧ format s indent width = .ok (render indent.toNat bs) := by
  obtain ⟨bs, h1, h2⟩ := formatLoop_ok indent (width - indent * tabWidth).toNat (by omega) (s.length + 1) s []
    (Nat.lt_succ_self _)
  rw [Int.toNat_of_nonneg (by omega)] at h2
  exact ⟨bs, h1, h2⟩

theorem format_terminates (s : Str) (indent width : Int) (hc : 1 ≤ width - indent * tabWidth) :
    ∃ out, format s indent width = .ok out :=
  let ⟨_, _, h⟩ := format_lines s indent width hc
  ⟨_, h⟩

theorem format_out (s : Str) (indent width : Int) (hc : 1 ≤ width - indent * tabWidth)
    (out : Str) (h : format s indent width = .ok out) :
    ∃ bs, Lines (width - indent * tabWidth).toNat s bs ∧ out = render indent.toNat bs := by
  obtain ⟨bs, hl, hf⟩ := format_lines s indent width hc
  exact ⟨bs, hl, (Outcome.ok.inj (h.symm.trans hf))⟩

theorem format_check (s : Str) (indent width : Int) (hc : 1 ≤ width - indent * tabWidth) (hs : Pre s)
    (out : Str) (h : format s indent width = .ok out) :
    check s indent.toNat (width - indent * tabWidth).toNat out = none := by
  obtain ⟨bs, hl, rfl⟩ := format_out s indent width hc out h
  have hb := lines_bodies _ s bs hl hs
  refine (check_eq_none_iff _ _ _ _).2 ⟨_, splitLines_render _ bs (fun b hb' => (hb b hb').no_nl), ?_, ?_⟩
  · intro l hl'
    obtain ⟨b, _, rfl⟩ := List.mem_map.1 hl'
    exact List.take_left' (by simp)
  · rw [map_body_tabs]
    exact ⟨fun b hb' => (hb b hb').pos, fun b hb' => (hb b hb').le_chars, lines_content _ s bs hl,
      lines_words _ s bs hl hs⟩

theorem cutLine_neg (chars : Int) (hc : chars < 0) (rest : Str) : cutLine chars rest = none := by
  unfold cutLine
  have h1 : (rest.length : Int) > chars := by omega
  simp only [h1, if_true]
  by_cases h2 : chars + 1 < 0
  · simp [h2]
  · have h3 : chars = -1 := by omega
    subst h3
    simp [findWordDelimSpace, findFrom]

theorem cutLine_zero (rest : Str) (hne : rest ≠ []) : cutLine 0 rest = some [] := by
  unfold cutLine
  have hpos : 0 < rest.length := List.length_pos_iff.2 hne
  have h1 : (rest.length : Int) > 0 := by omega
  have h2 : (rest.take 1).length - 1 = 0 := by rw [List.length_take]; omega
  have h3 : findWordDelimSpace (rest.take 1) = -1 := by
    unfold findWordDelimSpace
    rw [h2]
    rfl
  simp only [h1, if_true]
  simp [h3]

theorem dropWhile_nonspace (l : Str) (h : ∃ c ∈ l, c ≠ space) :
    ∃ d ds, l.dropWhile (· == space) = d :: ds ∧ d ≠ space := by
  induction l with
  | nil => obtain ⟨c, hc, _⟩ := h; cases hc
  | cons a as ih =>
    by_cases ha : a = space
    · subst ha
      obtain ⟨c, hc, hcs⟩ := h
      rcases List.mem_cons.1 hc with rfl | hc
      · exact absurd rfl hcs
      · simpa using ih ⟨c, hc, hcs⟩
    · exact ⟨a, as, by simp [ha], ha⟩

theorem formatLoop_zero (indent : Int) (fuel : Nat) (rest sb : Str) (hne : rest ≠ []) :
    formatLoop indent 0 (fuel + 1) rest sb =
      if (rest.dropWhile (· == space)).length = rest.length then .diverges
      else formatLoop indent 0 fuel (rest.dropWhile (· == space)) (sb ++ List.replicate indent.toNat tab ++ [nl]) := by
  rw [formatLoop, if_neg (mt List.eq_nil_of_length_eq_zero hne)]
  simp only [cutLine_zero rest hne, List.length_nil, List.drop_zero, List.append_nil]

theorem format_diverges (s : Str) (indent width : Int) (hc : width - indent * tabWidth = 0)
    (hs : ∃ c ∈ s, c ≠ space) : format s indent width = .diverges := by
  obtain ⟨d, ds, hd, hdn⟩ := dropWhile_nonspace s hs
  have hne : s ≠ [] := by rintro rfl; obtain ⟨_, h, _⟩ := hs; cases h
  obtain ⟨m, hm⟩ := Nat.exists_eq_succ_of_ne_zero (mt List.eq_nil_of_length_eq_zero hne)
  unfold format
  rw [hc, formatLoop_zero _ _ _ _ hne]
  split
  · rfl
  · -- the spaces at the front are skipped; the next round starts at a byte that is not a space, and does not advance
    rw [hm, hd, formatLoop_zero _ _ _ _ (List.cons_ne_nil _ _), List.dropWhile_cons_of_neg (by simpa using hdn),
      if_pos rfl]

theorem dropWhile_all_space (l : Str) (h : ∀ c ∈ l, c = space) : l.dropWhile (· == space) = [] := by
  induction l with
  | nil => rfl
  | cons a as ih =>
    have ha : a = space := h a (by simp)
    subst ha
    simpa using ih (fun c hc => h c (by simp [hc]))

end Mltwist.Lemmas.Format
