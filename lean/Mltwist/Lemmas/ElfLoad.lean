import Mltwist.Lemmas.ElfMemory
/-
C20: `internal/elf/parser.go`.  `MachineCode` and `Memory` are each a loop over the sections / program
headers of the view (`codeBlocks`, `memBlocks`: the images the specification names, or the first failure)
followed by `nonEmptyMemory`; what follows from that shape is stated once (`Loads`), over any loop and any list
of images, and the theorems about the two functions are its instances.
-/
namespace Mltwist.Lemmas.Elf
open Mltwist Mltwist.Elf Mltwist.Elf.Spec

/-- What is known of a loader `f` that is a loop over the headers followed by `nonEmptyMemory`: `R` says that the
loop gets through (it then delivers `imgs`), `E` which errors the loop itself reports. -/
structure Loads (R : Prop) (E : Err → Prop) (f : Except Err (List Block)) (imgs : List Block) : Prop where
  ok : ∀ bs, f = .ok bs → R ∧ bs = sortByBegin imgs ∧ bs.Perm imgs ∧ Tidy bs ∧ bs ≠ []
  rejects : ¬ NoOverlap imgs → ∃ e, f = .error e
  accepts : R → imgs ≠ [] → (∀ b ∈ imgs, b.2 ≠ []) → Fits imgs → NoOverlap imgs → f = .ok (sortByBegin imgs)
  errors : ∀ e, f = .error e → E e ∨ e = .empty ∨ e = .wrap ∨ e = .overlap

theorem Loads.tidy {R : Prop} {E : Err → Prop} {f : Except Err (List Block)} {imgs bs : List Block}
    (h : Loads R E f imgs) (hb : f = .ok bs) : Tidy bs := (h.ok bs hb).2.2.2.1

theorem and_four_eq_zero_iff (n : Nat) : n &&& 4 = 0 ↔ n / 4 % 2 = 0 := by
  have h4 : (4 : Nat) = 2 ^ 2 := rfl
  have hb : n.testBit 2 = decide (n / 4 % 2 = 1) := by
    rw [Nat.testBit_eq_decide_div_mod_eq]
  constructor
  · intro h
    have : (n &&& 4).testBit 2 = false := by rw [h]; simp
    rw [Nat.testBit_and, h4, Nat.testBit_two_pow_self, Bool.and_true, hb] at this
    have := of_decide_eq_false this
    omega
  · intro h
    apply Nat.eq_of_testBit_eq
    intro i
    rw [Nat.testBit_and, h4, Nat.testBit_two_pow, Nat.zero_testBit]
    by_cases hi : 2 = i
    · subst hi
      rw [hb]; simp; omega
    · simp [hi]

theorem skip_false_iff (s : Section) : skipMachineCodeSection s = false ↔ Qualifies s := by
  unfold skipMachineCodeSection Qualifies shtProgbits shfExecinstr
  have h4 := and_four_eq_zero_iff s.flags
  by_cases h1 : s.typ ≠ 1 ∨ s.size = 0
  · rw [if_pos h1]
    constructor
    · intro h; cases h
    · rintro ⟨a, b, _, _⟩
      rcases h1 with h1 | h1
      · exact absurd a h1
      · exact absurd h1 b
  · rw [if_neg h1]
    have h1' : s.typ = 1 ∧ s.size ≠ 0 := by omega
    by_cases h2 : s.addr = 0
    · rw [if_pos h2]
      constructor
      · intro h; cases h
      · rintro ⟨_, _, c, _⟩; exact absurd h2 c
    · rw [if_neg h2]
      by_cases h3 : s.flags &&& 4 = 0
      · rw [if_pos h3]
        constructor
        · intro h; cases h
        · rintro ⟨_, _, _, d⟩
          have := h4.1 h3
          omega
      · rw [if_neg h3]
        constructor
        · intro _
          refine ⟨h1'.1, h1'.2, h2, ?_⟩
          have : ¬ s.flags / 4 % 2 = 0 := fun h => h3 (h4.2 h)
          omega
        · intro _; rfl

theorem codeBlocks_spec : ∀ ss : List Section,
    (Readable ss ∧
      codeBlocks ss = .ok ((ss.filter fun s => decide (Qualifies s)).map fun s => (s.addr, s.data.getD []))) ∨
    (¬ Readable ss ∧ ∃ e, codeBlocks ss = .error e ∧ (e = .read ∨ e = .size))
  | [] => Or.inl ⟨nofun, rfl⟩
  | s :: ss => by
    have hcons : Readable (s :: ss) ↔ _ ∧ Readable ss := List.forall_mem_cons
    rw [hcons]
    unfold codeBlocks
    by_cases hq : Qualifies s
    · rw [(skip_false_iff s).2 hq]
      simp only [Bool.false_eq_true, if_false]
      cases hd : s.data with
      | none =>
        refine Or.inr ⟨fun hr => ?_, _, rfl, Or.inl rfl⟩
        obtain ⟨d, h, _⟩ := hr.1 hq
        cases h
      | some d =>
        simp only
        by_cases hl : d.length ≠ s.sizeAfter
        · rw [if_pos hl]
          refine Or.inr ⟨fun hr => ?_, _, rfl, Or.inr rfl⟩
          obtain ⟨d', h, h'⟩ := hr.1 hq
          cases h
          exact hl h'
        · rw [if_neg hl]
          rcases codeBlocks_spec ss with ⟨hr, hok⟩ | ⟨hnr, e, he, hE⟩
          · rw [hok]
            exact Or.inl ⟨⟨fun _ => ⟨d, rfl, by omega⟩, hr⟩, by simp [hq, hd]⟩
          · rw [he]
            exact Or.inr ⟨fun hr => hnr hr.2, e, rfl, hE⟩
    · rw [Bool.of_not_eq_false (mt (skip_false_iff s).1 hq)]
      simp only [if_true]
      rcases codeBlocks_spec ss with ⟨hr, hok⟩ | ⟨hnr, e, he, hE⟩
      · rw [hok]
        exact Or.inl ⟨⟨fun h => absurd h hq, hr⟩, by simp [hq]⟩
      · exact Or.inr ⟨fun hr => hnr hr.2, e, he, hE⟩

theorem fill_eq (d : List UInt8) (n : Nat) :
    (if n > 0 then d ++ List.replicate n (0 : UInt8) else d) = d ++ List.replicate n 0 := by
  by_cases h : n > 0
  · rw [if_pos h]
  · rw [if_neg h]
    have : n = 0 := by omega
    subst this; simp

theorem missingOf_eq {memsz len : Nat} (h1 : memsz < 2 ^ 64) (h2 : len ≤ memsz) :
    missingOf memsz len = memsz - len := by
  unfold missingOf M
  have hl : len % 2 ^ 64 = len := Nat.mod_eq_of_lt (by omega)
  rw [Nat.mod_eq_of_lt h1, hl]
  have : memsz + 2 ^ 64 - len = (memsz - len) + 2 ^ 64 := by omega
  rw [this, Nat.add_mod_right]
  exact Nat.mod_eq_of_lt (by omega)

/-- the errors of the loop of `Memory`: a header with `Memsz < Filesz`, unreadable contents, or a zero fill
beyond what the allocator grants -/
abbrev MemErr (lim : Nat) (ps : List Prog) (e : Err) : Prop :=
  e = .memsz ∨ e = .read ∨ (e = .alloc ∧ ∃ p ∈ ps, p.typ = 1 ∧ ∃ d, p.data = some d ∧ p.memsz - d.length > lim)

/-- the two facts about a header are what `ViewOK` grants: `Memsz` is a `uint64` value, the reader delivers
at most `Filesz` bytes -/
theorem memBlocks_spec (lim : Nat) : ∀ ps : List Prog,
    (∀ p ∈ ps, p.memsz < 2 ^ 64 ∧ ∀ d, p.data = some d → d.length ≤ p.filesz) →
    (Loadable lim ps ∧ memBlocks lim ps = .ok ((ps.filter fun p => decide (p.typ = 1)).map segImage)) ∨
    (¬ Loadable lim ps ∧ ∃ e, memBlocks lim ps = .error e ∧ MemErr lim ps e)
  | [], _ => Or.inl ⟨nofun, rfl⟩
  | p :: ps, hps => by
    have hp := hps p (List.mem_cons_self ..)
    have ih := memBlocks_spec lim ps fun x hx => hps x (List.mem_cons_of_mem _ hx)
    have hcons : Loadable lim (p :: ps) ↔ _ ∧ Loadable lim ps := List.forall_mem_cons
    have hlift {e : Err} : MemErr lim ps e → MemErr lim (p :: ps) e :=
      Or.imp_right (Or.imp_right (And.imp_right (Exists.imp fun _ => And.imp_left (List.mem_cons_of_mem _))))
    rw [hcons]
    unfold memBlocks ptLoad
    by_cases ht : p.typ ≠ 1
    · rw [if_pos ht]
      rcases ih with ⟨hl, hok⟩ | ⟨hnl, e, he, hE⟩
      · rw [hok]
        exact Or.inl ⟨⟨fun h => absurd h ht, hl⟩, by simp [ht]⟩
      · exact Or.inr ⟨fun hl => hnl hl.2, e, he, hlift hE⟩
    · rw [if_neg ht]
      have ht1 : p.typ = 1 := by omega
      by_cases hm : p.memsz < p.filesz
      · rw [if_pos hm]
        refine Or.inr ⟨fun hl => ?_, _, rfl, Or.inl rfl⟩
        have := (hl.1 ht1).1
        omega
      · rw [if_neg hm]
        cases hd : p.data with
        | none =>
          refine Or.inr ⟨fun hl => ?_, _, rfl, Or.inr (Or.inl rfl)⟩
          obtain ⟨_, d, h, _⟩ := hl.1 ht1
          cases h
        | some d =>
          have hdl := hp.2 d hd
          dsimp only
          rw [missingOf_eq hp.1 (by omega)]
          by_cases ha : p.memsz - d.length > lim
          · rw [if_pos ha]
            refine Or.inr ⟨fun hl => ?_, _, rfl, Or.inr (Or.inr ⟨rfl, p, by simp, ht1, d, hd, ha⟩)⟩
            obtain ⟨_, d', h, h'⟩ := hl.1 ht1
            cases h
            omega
          · rw [if_neg ha]
            rcases ih with ⟨hl, hok⟩ | ⟨hnl, e, he, hE⟩
            · rw [hok, fill_eq]
              exact Or.inl ⟨⟨fun _ => ⟨by omega, d, rfl, by omega⟩, hl⟩, by simp [ht1, segImage, hd]⟩
            · rw [he]
              exact Or.inr ⟨fun hl => hnl hl.2, e, rfl, hlift hE⟩

theorem nonEmptyMemory_spec (l : List Block) (hs : Sane l) :
    (l = [] ∧ nonEmptyMemory l = .error .empty) ∨
    (l ≠ [] ∧ nonEmptyMemory l = .ok (sortByBegin l) ∧ Tidy (sortByBegin l)) ∨
    (l ≠ [] ∧ nonEmptyMemory l = .error .wrap ∧ ¬ Fits l) ∨
    (l ≠ [] ∧ nonEmptyMemory l = .error .overlap ∧ Fits l ∧ ¬ Tidy (sortByBegin l)) := by
  unfold nonEmptyMemory
  by_cases h : l.length = 0
  · rw [if_pos h]
    left; exact ⟨List.length_eq_zero_iff.1 h, rfl⟩
  · rw [if_neg h]
    have hne : l ≠ [] := fun he => h (by rw [he]; rfl)
    right
    rcases newMemory_spec l hs with h | h | h
    · exact Or.inl ⟨hne, h⟩
    · exact Or.inr (Or.inl ⟨hne, h⟩)
    · exact Or.inr (Or.inr ⟨hne, h⟩)

theorem sane_codeImages (v : View) (hv : ViewOK v) : Sane (codeImages v) := by
  intro b hb
  unfold codeImages at hb
  obtain ⟨s, hs, rfl⟩ := List.mem_map.1 hb
  have hs' := (List.mem_filter.1 hs).1
  refine ⟨hv.secAddr s hs', ?_⟩
  cases hd : s.data with
  | none => simp [M]
  | some d => simpa [M] using hv.secData s hs' d hd

theorem sane_loadImages (lim : Nat) (v : View) (hv : ViewOK v) (hl : Loadable lim v.progs) :
    Sane (loadImages v) := by
  intro b hb
  unfold loadImages at hb
  obtain ⟨p, hp, rfl⟩ := List.mem_map.1 hb
  obtain ⟨hp', h1⟩ := List.mem_filter.1 hp
  have h1' : p.typ = 1 := by simpa using h1
  obtain ⟨hm, d, hd, _⟩ := hl p hp' h1'
  have hle := Nat.le_trans (hv.progData p hp' d hd) hm
  unfold segImage
  simp only [hd, Option.getD_some, List.length_append, List.length_replicate]
  refine ⟨(hv.progAddr p hp').1, ?_⟩
  have := (hv.progAddr p hp').2
  unfold M; omega

theorem loads_of_loop {R : Prop} {E : Err → Prop} {loop : Except Err (List Block)} {imgs : List Block}
    (h : (R ∧ loop = .ok imgs) ∨ (¬ R ∧ ∃ e, loop = .error e ∧ E e)) (hs : R → Sane imgs) :
    Loads R E (match (generalizing := false) loop with | .error e => .error e | .ok bs => nonEmptyMemory bs)
      imgs := by
  rcases h with ⟨hr, rfl⟩ | ⟨hnr, e, rfl, hE⟩
  · have hp := sortByBegin_perm imgs
    change Loads R E (nonEmptyMemory imgs) imgs
    rcases nonEmptyMemory_spec imgs (hs hr) with ⟨he, h⟩ | ⟨hne, h, ht⟩ | ⟨_, h, hnf⟩ | ⟨_, h, _, hnt⟩
    all_goals rw [h]
    · exact ⟨nofun, fun _ => ⟨_, rfl⟩, fun _ hne => absurd he hne, fun _ h => by cases h; exact .inr (.inl rfl)⟩
    · refine ⟨fun bs h => ?_, fun hno => ?_, fun _ _ _ _ _ => rfl, nofun⟩
      · cases h
        exact ⟨hr, rfl, hp, ht, fun hnil => hne (hnil ▸ hp.symm).eq_nil⟩
      · exact absurd ((noOverlap_perm hp).1 (noOverlap_of_tidy ht)) hno
    · exact ⟨nofun, fun _ => ⟨_, rfl⟩, fun _ _ _ hf => absurd hf hnf, fun _ h => by cases h; exact .inr (.inr (.inl rfl))⟩
    · exact ⟨nofun, fun _ => ⟨_, rfl⟩, fun _ _ hb hf hno => absurd (sorted_tidy_of_noOverlap imgs hf hb hno) hnt,
        fun _ h => by cases h; exact .inr (.inr (.inr rfl))⟩
  · exact ⟨nofun, fun _ => ⟨e, rfl⟩, fun hr => absurd hr hnr, fun e' h => by cases h; exact Or.inl hE⟩

theorem machineCode_loads (v : View) (hv : ViewOK v) :
    Loads (Readable v.sections) (fun e => e = .read ∨ e = .size) (machineCode v) (codeImages v) :=
  loads_of_loop (codeBlocks_spec v.sections) fun _ => sane_codeImages v hv

theorem memory_loads (lim : Nat) (v : View) (hv : ViewOK v) :
    Loads (Loadable lim v.progs) (MemErr lim v.progs) (memory lim v) (loadImages v) :=
  loads_of_loop (memBlocks_spec lim v.progs fun p hp => ⟨(hv.progAddr p hp).2, hv.progData p hp⟩)
    (sane_loadImages lim v hv)

theorem load_some {lim : Nat} {w : View} {l : Loaded} (h : load lim (some w) = .ok l) :
    l = ⟨w.entry, machineCode w, memory lim w⟩ := by
  simp only [load] at h
  cases hp : newParser w with
  | error e => rw [hp] at h; cases h
  | ok u => rw [hp] at h; cases h; rfl

end Mltwist.Lemmas.Elf
