import Mltwist.Model.NumParse
import Mltwist.Spec.NumParse
import Mltwist.Lemmas.Const
import Mltwist.Lemmas.Gadgets
import Mltwist.Lemmas.Transform
-- `2 ^ 64` in this module and in Props/C30 is Mathlib's `Monoid.npow`; that needs these imports
import Mathlib.Tactic.Ring
import Mathlib.Tactic.Linarith
import Mathlib.Tactic.SplitIfs
/-
Proofs for C30: the two input parsers against the reference grammar.  Digits are compared through
their byte ranges, the two prefix scanners through the executable oracles of the grammar
(`addrValue`, `lineValue`), which are shown to decide it.
-/
namespace Mltwist.Lemmas.NumParse
open Mltwist Mltwist.NumParse Mltwist.Spec.NumParse
open Mltwist.Lemmas.Transform Mltwist.Lemmas.EvalBasic

/-- both opened namespaces have a `Str`; this one is meant below -/
abbrev Str := List UInt8

/-- the bases of the grammar: those for which `Spec.NumParse.digitOf` has digits -/
abbrev GBase (b : Nat) : Prop := b ∈ [2, 8, 10, 16]

theorem gb2 : GBase 2 := by decide
theorem gb8 : GBase 8 := by decide
theorem gb10 : GBase 10 := by decide
theorem gb16 : GBase 16 := by decide

/-- The reference digits of each base of the grammar are the model's digits below the base: the
two tables are compared on all 256 bytes, by evaluation. -/
theorem digit_table : ∀ n < 256, ∀ b, GBase b →
    digitOf b (UInt8.ofNat n) = (digitVal n).filter (· < b) := by
  decide +kernel

theorem digit_agree {b : Nat} (hb : GBase b) (c : UInt8) :
    digitOf b c = (digitVal c.toNat).filter (· < b) := by
  have := digit_table c.toNat c.toNat_lt b hb
  rwa [UInt8.ofNat_toNat] at this

theorem digitOf_gbase {b : Nat} {c : UInt8} {d : Nat} (h : digitOf b c = some d) : GBase b := by
  unfold digitOf at h
  split_ifs at h <;> simp [GBase, *]

theorem digitOf_lt {b : Nat} {c : UInt8} {d : Nat} (h : digitOf b c = some d) : d < b := by
  rw [digit_agree (digitOf_gbase h), Option.filter_eq_some_iff] at h
  simpa using h.2

/-- a digit of a base up to ten is none of the prefix letters and no sign -/
theorem digit_le_nine {b : Nat} (hb : b ≤ 10) {c : UInt8} {d : Nat} (h : digitOf b c = some d) :
    0x30 ≤ c.toNat ∧ c.toNat ≤ 0x39 := by
  rw [digit_agree (digitOf_gbase h), Option.filter_eq_some_iff] at h
  obtain ⟨hd, hlt⟩ := h
  unfold digitVal at hd
  simp only [decide_eq_true_eq] at hlt
  split_ifs at hd <;> first | omega | (cases hd; omega)

theorem digitOf_und (b : Nat) : digitOf b 0x5f = none := by
  simp [digitOf, binDigit, octDigit, decDigit, hexDigit]

theorem loop_step {b : Nat} (hb : GBase b) (c : UInt8) (cs : Str) (n : Nat) :
    digitsLoop b (c :: cs) n =
      match digitOf b c with
      | some d => digitsLoop b cs (n * b + d)
      | none => none := by
  rw [digit_agree hb]
  simp only [digitsLoop]
  cases digitVal c.toNat with
  | none => rfl
  | some d => by_cases h : d < b <;> simp [Option.filter, h]

theorem digitsLoop_eq {b : Nat} (hb : GBase b) (s : Str) (n : Nat) :
    digitsLoop b s n = (digits b s).map fun ds => n * b ^ ds.length + valueOf b ds := by
  induction s generalizing n with
  | nil => simp [digitsLoop, digits, valueOf]
  | cons c cs ih =>
    rw [loop_step hb]
    simp only [digits]
    cases hd : digitOf b c with
    | none => simp
    | some d =>
      simp only [ih]
      cases hds : digits b cs with
      | none => simp
      | some ds =>
        simp only [Option.map_some, valueOf, List.length_cons, Option.some.injEq]
        ring

theorem digits_induction {b : Nat} {P : Str → List Nat → Prop} (nil : P [] [])
    (cons : ∀ {c cs d ds}, digitOf b c = some d → digits b cs = some ds → P cs ds →
      P (c :: cs) (d :: ds)) : ∀ {s ds}, digits b s = some ds → P s ds
  | [], _, h => by cases h; exact nil
  | c :: cs, ds, h => by
    simp only [digits] at h
    cases hd : digitOf b c with
    | none => simp [hd] at h
    | some d =>
      cases hds : digits b cs with
      | none => simp [hd, hds] at h
      | some ds' =>
        simp only [hd, hds, Option.some.injEq] at h
        subst h
        exact cons hd hds (digits_induction nil cons hds)

theorem digits_length {b : Nat} {s : Str} {ds : List Nat} (h : digits b s = some ds) :
    ds.length = s.length :=
  digits_induction (P := fun s ds => ds.length = s.length) rfl
    (fun _ _ ih => congrArg (· + 1) ih) h

theorem valueOf_lt {b : Nat} {s : Str} {ds : List Nat} (h : digits b s = some ds) :
    valueOf b ds < b ^ ds.length :=
  digits_induction (P := fun _ ds => valueOf b ds < b ^ ds.length) (Nat.one_pos)
    (fun {_ _ d ds} hd _ ih =>
      calc d * b ^ ds.length + valueOf b ds
          < d * b ^ ds.length + b ^ ds.length := Nat.add_lt_add_left ih _
        _ = (d + 1) * b ^ ds.length := (Nat.succ_mul ..).symm
        _ ≤ b * b ^ ds.length := Nat.mul_le_mul_right _ (digitOf_lt hd)
        _ = b ^ (ds.length + 1) := Nat.pow_succ'.symm) h

/-- digits after sign and prefix: the scanner of `math/big` = reference numeral -/
theorem scan_numeral {b : Nat} (hb : GBase b) (s : Str) :
    (if s.isEmpty then none else digitsLoop b s 0) = numeral b s := by
  unfold numeral
  by_cases he : s.isEmpty
  · simp [he]
  · simp only [he, Bool.false_eq_true, if_false, digitsLoop_eq hb]
    cases digits b s <;> simp

theorem parseUint_eq {b : Nat} (hb : GBase b) (s : Str) :
    parseUint s b = (numeral b s).bind fun v => if v < 2 ^ 64 then some v else none := by
  rw [← scan_numeral hb]
  unfold parseUint
  by_cases he : s.isEmpty
  · simp [he]
  · simp only [he, Bool.false_eq_true, if_false]
    cases digitsLoop b s 0 <;> rfl

theorem numeral_iff {b : Nat} {s : Str} {v : Nat} : numeral b s = some v ↔ Numeral b s v := by
  unfold numeral Numeral
  by_cases he : s.isEmpty
  · have : s = [] := List.isEmpty_iff.mp he
    simp [this]
  · have hne : s ≠ [] := fun h => he (by simp [h])
    simp only [he, Bool.false_eq_true, if_false, Option.map_eq_some_iff]
    exact ⟨fun h => ⟨hne, h⟩, fun h => h.2⟩

theorem numeral_head {b : Nat} (hb : b ≤ 10) {c : UInt8} {r : Str} {v : Nat}
    (h : Numeral b (c :: r) v) : 0x30 ≤ c.toNat ∧ c.toNat ≤ 0x39 := by
  obtain ⟨_, ds, hds, _⟩ := h
  simp only [digits] at hds
  cases hd : digitOf b c with
  | none => simp [hd] at hds
  | some d => exact digit_le_nine hb hd

theorem hasPrefix2_cons (c0 c : UInt8) (r : Str) (p0 p q : UInt8) :
    hasPrefix2 (c0 :: c :: r) [p0, p] [p0, q] = (c0 == p0 && (c == p || c == q)) := by
  simp [hasPrefix2, Bool.and_or_distrib_left]

/-- the base and the digits `parseAddr` hands to `ParseUint` are those of the oracle -/
theorem addrBase_spec (s : Str) :
    GBase (addrBase s).1 ∧ addrValue s = numeral (addrBase s).1 (addrBase s).2 := by
  match s with
  | [] => exact ⟨gb10, rfl⟩
  | [c] => exact ⟨gb10, rfl⟩
  | c0 :: c :: r =>
    by_cases h0 : c0 = 0x30
    · -- behind `0` both run through the same tests of the second byte
      subst h0
      simp only [addrBase, hasPrefix2_cons, addrValue, beq_self_eq_true, Bool.true_and,
        Bool.or_eq_true, beq_iff_eq, List.length_cons, List.drop_succ_cons, List.drop_zero,
        List.head?_cons, Nat.lt_add_left_iff_pos, Nat.succ_pos, decide_true, if_true, gt_iff_lt]
      split_ifs
      exacts [⟨gb16, rfl⟩, ⟨gb2, rfl⟩, ⟨gb8, rfl⟩]
    · simp [addrBase, hasPrefix2_cons, addrValue, h0]

theorem parseAddr_eq (s : Str) :
    parseAddr s = match addrExpected s with
      | some v => .ok v
      | none => .err := by
  obtain ⟨hb, hv⟩ := addrBase_spec s
  unfold parseAddr addrExpected
  rw [hv]
  generalize addrBase s = p at hb
  obtain ⟨b, ds⟩ := p
  simp only [parseUint_eq hb]
  cases numeral b ds <;> rfl

theorem parseAddr_no_panic (s : Str) : parseAddr s ≠ .panic := by
  rw [parseAddr_eq]
  cases addrExpected s <;> simp

theorem ne_of_toNat_ne {a b : UInt8} (h : a.toNat ≠ b.toNat) : a ≠ b := fun e => h (by rw [e])

theorem decShape_single (c : UInt8) : DecShape [c] := by
  by_cases hc : c = 0x30
  · exact Or.inr (by rw [hc])
  · exact Or.inl (by simpa using hc)

theorem decShape_cons2 {c0 c : UInt8} {r : Str} : DecShape (c0 :: c :: r) ↔ c0 ≠ 0x30 := by
  simp [DecShape]

theorem digit_not_prefix {c : UInt8} (h : 0x30 ≤ c.toNat ∧ c.toNat ≤ 0x39) :
    ¬ (c = 0x78 ∨ c = 0x58) ∧ ¬ (c = 0x62 ∨ c = 0x42) ∧ ¬ (c = 0x6f ∨ c = 0x4f) := by
  refine ⟨?_, ?_, ?_⟩ <;> rintro (rfl | rfl) <;> exact absurd h.2 (by decide)

/- `addrValue_iff` and `magValue_iff`: from the oracle to the grammar along the tests of the oracle; back,
behind a literal prefix the oracle is evaluated, and the first digit of an unprefixed octal
numeral fails every prefix test. -/

theorem addrValue_iff (s : Str) (v : Nat) : addrValue s = some v ↔ AddrDenotes s v := by
  constructor
  · intro h
    match s, h with
    | [], h => exact absurd h (by simp [addrValue, numeral])
    | [c], h => exact .dec (numeral_iff.mp h) (decShape_single c)
    | c0 :: c :: r, h =>
      simp only [addrValue] at h
      split_ifs at h with h0 h1 h2
      · subst h0; exact .hex h1 (numeral_iff.mp h)
      · subst h0; exact .bin h2 (numeral_iff.mp h)
      · subst h0; exact .oct (numeral_iff.mp h)
      · exact .dec (numeral_iff.mp h) (decShape_cons2.mpr h0)
  · intro h
    cases h with
    | hex hp hn => rcases hp with rfl | rfl <;> exact numeral_iff.mpr hn
    | bin hp hn => rcases hp with rfl | rfl <;> exact numeral_iff.mpr hn
    | oct hn =>
      obtain ⟨c, r, rfl⟩ := List.exists_cons_of_ne_nil hn.1
      obtain ⟨n1, n2, _⟩ := digit_not_prefix (numeral_head (by decide) hn)
      simp only [addrValue, n1, n2, if_true, if_false]
      exact numeral_iff.mpr hn
    | dec hn hs =>
      match s, hn, hs with
      | [], hn, _ => exact absurd rfl hn.1
      | [c], hn, _ => exact numeral_iff.mpr hn
      | c0 :: c :: r, hn, hs =>
        simp only [addrValue, decShape_cons2.mp hs, if_false]
        exact numeral_iff.mpr hn

theorem addrExpected_eq_some {s : Str} {v : Nat} :
    addrExpected s = some v ↔ AddrDenotes s v ∧ v < 2 ^ 64 := by
  rw [← addrValue_iff]
  unfold addrExpected
  cases addrValue s with
  | none => simp
  | some x =>
    by_cases hx : x < 2 ^ 64
    · simp only [hx, if_true, Option.some.injEq]
      exact ⟨fun e => ⟨e, e ▸ hx⟩, fun e => e.1⟩
    · simp only [hx, if_false, reduceCtorEq, Option.some.injEq, false_iff, not_and]
      rintro rfl
      exact hx

theorem magValue_iff (s : Str) (v : Nat) : magValue s = some v ↔ MagDenotes s v := by
  constructor
  · intro h
    match s, h with
    | [], h => exact absurd h (by simp [magValue, numeral])
    | [c], h => exact .dec (numeral_iff.mp h) (decShape_single c)
    | c0 :: c :: r, h =>
      simp only [magValue] at h
      split_ifs at h with h0 h1 h2 h3
      · subst h0; exact .hex h1 (numeral_iff.mp h)
      · subst h0; exact .bin h2 (numeral_iff.mp h)
      · subst h0; exact .octO h3 (numeral_iff.mp h)
      · subst h0; exact .oct (numeral_iff.mp h)
      · exact .dec (numeral_iff.mp h) (decShape_cons2.mpr h0)
  · intro h
    cases h with
    | hex hp hn => rcases hp with rfl | rfl <;> exact numeral_iff.mpr hn
    | bin hp hn => rcases hp with rfl | rfl <;> exact numeral_iff.mpr hn
    | octO hp hn => rcases hp with rfl | rfl <;> exact numeral_iff.mpr hn
    | oct hn =>
      obtain ⟨c, r, rfl⟩ := List.exists_cons_of_ne_nil hn.1
      obtain ⟨n1, n2, n3⟩ := digit_not_prefix (numeral_head (by decide) hn)
      simp only [magValue, n1, n2, n3, if_true, if_false]
      exact numeral_iff.mpr hn
    | dec hn hs =>
      match s, hn, hs with
      | [], hn, _ => exact absurd rfl hn.1
      | [c], hn, _ => exact numeral_iff.mpr hn
      | c0 :: c :: r, hn, hs =>
        simp only [magValue, decShape_cons2.mp hs, if_false]
        exact numeral_iff.mpr hn

theorem magDenotes_head {c : UInt8} {r : Str} {v : Nat} (h : MagDenotes (c :: r) v) :
    0x30 ≤ c.toNat ∧ c.toNat ≤ 0x39 := by
  cases h with
  | hex _ _ => decide
  | bin _ _ => decide
  | octO _ _ => decide
  | oct _ => decide
  | dec hn _ => exact numeral_head (by decide) hn

theorem magDenotes_ne_nil {v : Nat} : ¬ MagDenotes [] v := by
  intro h
  cases h with
  | dec hn _ => exact hn.1 rfl

theorem lineValue_iff (s : Str) (n : Int) : lineValue s = some n ↔ ValueDenotes s n := by
  constructor
  · intro h
    match s, h with
    | [], h => exact absurd h (by simp [lineValue])
    | c :: r, h =>
      simp only [lineValue] at h
      split_ifs at h with hp hm
      all_goals obtain ⟨v, hv, rfl⟩ := Option.map_eq_some_iff.mp h
      · subst hp; exact .plus ((magValue_iff _ _).mp hv)
      · subst hm; exact .minus ((magValue_iff _ _).mp hv)
      · exact .plain ((magValue_iff _ _).mp hv)
  · intro h
    cases h with
    | plain hm =>
      match s, hm with
      | [], hm => exact absurd hm magDenotes_ne_nil
      | c :: r, hm =>
        have hr := magDenotes_head hm
        have n1 : c ≠ 0x2b := by rintro rfl; exact absurd hr.1 (by decide)
        have n2 : c ≠ 0x2d := by rintro rfl; exact absurd hr.1 (by decide)
        simp only [lineValue, n1, n2, if_false, (magValue_iff _ _).mpr hm, Option.map_some]
    | plus hm => simp only [lineValue, if_true, (magValue_iff _ _).mpr hm, Option.map_some]
    | minus hm =>
      have : (0x2d : UInt8) ≠ 0x2b := by decide
      simp only [lineValue, this, if_true, if_false, (magValue_iff _ _).mpr hm, Option.map_some]

/-- the base and the digits found by `nat.scan` are those of the oracle -/
theorem scanPrefix_spec (s : Str) :
    GBase (scanPrefix s).1 ∧ magValue s = numeral (scanPrefix s).1 (scanPrefix s).2 := by
  unfold scanPrefix magValue
  match s with
  | [] => exact ⟨gb10, rfl⟩
  | [c] => exact ⟨gb10, rfl⟩
  | c0 :: c :: r =>
    by_cases h0 : c0 = 0x30
    · by_cases h1 : c = 0x78 ∨ c = 0x58
      · have n2 : ¬ (c = 0x62 ∨ c = 0x42) := by
          rcases h1 with h | h <;> subst h <;> decide
        have n3 : ¬ (c = 0x6f ∨ c = 0x4f) := by
          rcases h1 with h | h <;> subst h <;> decide
        simpa only [h0, h1, n2, n3, if_true, if_false, and_true] using gb16
      · by_cases h2 : c = 0x62 ∨ c = 0x42
        · simpa only [h0, h1, h2, if_true, if_false, and_true] using gb2
        · by_cases h3 : c = 0x6f ∨ c = 0x4f
          · simpa only [h0, h1, h2, h3, if_true, if_false, and_true] using gb8
          · simpa only [h0, h1, h2, h3, if_true, if_false, and_true] using gb8
    · simpa only [h0, if_false, and_true] using gb10

theorem setString0_mag (neg : Bool) (s1 : Str) :
    (let (b, s2) := scanPrefix s1
     if s2.isEmpty then none
     else
      match digitsLoop b s2 0 with
      | none => none
      | some n => some (if neg then -(n : Int) else (n : Int))) =
    (magValue s1).map fun (v : Nat) => if neg then -(v : Int) else (v : Int) := by
  obtain ⟨hb, hv⟩ := scanPrefix_spec s1
  rw [hv, ← scan_numeral hb]
  generalize scanPrefix s1 = p
  obtain ⟨b, s2⟩ := p
  by_cases he : s2.isEmpty
  · simp [he]
  · simp only [he, Bool.false_eq_true, if_false]
    cases digitsLoop b s2 0 <;> rfl

theorem setString0_eq (s : Str) : setString0 s = lineValue s := by
  unfold setString0 lineValue scanSign
  match s with
  | [] => simp [scanPrefix]
  | c :: r =>
    by_cases hm : c = 0x2d
    · subst hm
      have : (0x2d : UInt8) ≠ 0x2b := by decide
      simp only [if_true, this, if_false]
      exact setString0_mag true r
    · by_cases hp : c = 0x2b
      · simp only [hp, if_true]
        exact setString0_mag false r
      · simp only [hm, hp, if_false]
        exact setString0_mag false (c :: r)

/-- no underscore: `readValue` rejects a line with an underscore before `SetString` (which would accept it between
digits) sees it; what the grammar denotes has none -/
def NoUnd (s : Str) : Prop := ∀ c ∈ s, c ≠ (0x5f : UInt8)

theorem noUnd_nil : NoUnd [] := fun _ h => nomatch h

theorem noUnd_cons {c : UInt8} {s : Str} (hc : c ≠ 0x5f) (hs : NoUnd s) : NoUnd (c :: s) := by
  intro x hx
  rcases List.mem_cons.mp hx with rfl | hx
  · exact hc
  · exact hs x hx

theorem digits_noUnd {b : Nat} {s : Str} {ds : List Nat} (h : digits b s = some ds) : NoUnd s :=
  digits_induction (P := fun s _ => NoUnd s) noUnd_nil
    (fun hd _ ih => noUnd_cons (fun e => by rw [e, digitOf_und] at hd; cases hd) ih) h

theorem numeral_noUnd {b : Nat} {s : Str} {v : Nat} (h : Numeral b s v) : NoUnd s := by
  obtain ⟨_, ds, hds, _⟩ := h
  exact digits_noUnd hds

theorem numeral_lt {b : Nat} {s : Str} {v : Nat} (h : Numeral b s v) : v < b ^ s.length := by
  obtain ⟨_, ds, hds, rfl⟩ := h
  rw [← digits_length hds]
  exact valueOf_lt hds

theorem magDenotes_numeral {s : Str} {v : Nat} (h : MagDenotes s v) :
    ∃ pre r b, s = pre ++ r ∧ NoUnd pre ∧ b ≤ 16 ∧ Numeral b r v := by
  have z : (0x30 : UInt8) ≠ 0x5f := by decide
  cases h with
  | hex hp hn =>
    refine ⟨[0x30, _], _, 16, rfl, noUnd_cons z (noUnd_cons ?_ noUnd_nil), by decide, hn⟩
    rcases hp with rfl | rfl <;> decide
  | bin hp hn =>
    refine ⟨[0x30, _], _, 2, rfl, noUnd_cons z (noUnd_cons ?_ noUnd_nil), by decide, hn⟩
    rcases hp with rfl | rfl <;> decide
  | octO hp hn =>
    refine ⟨[0x30, _], _, 8, rfl, noUnd_cons z (noUnd_cons ?_ noUnd_nil), by decide, hn⟩
    rcases hp with rfl | rfl <;> decide
  | oct hn => exact ⟨[0x30], _, 8, rfl, noUnd_cons z noUnd_nil, by decide, hn⟩
  | dec hn _ => exact ⟨[], _, 10, rfl, noUnd_nil, by decide, hn⟩

theorem magDenotes_noUnd {s : Str} {v : Nat} (h : MagDenotes s v) : NoUnd s := by
  obtain ⟨pre, r, b, rfl, hpre, _, hn⟩ := magDenotes_numeral h
  intro c hc
  rcases List.mem_append.mp hc with hc | hc
  · exact hpre c hc
  · exact numeral_noUnd hn c hc

theorem magDenotes_lt {s : Str} {v : Nat} (h : MagDenotes s v) : v < 16 ^ s.length := by
  obtain ⟨pre, r, b, rfl, _, hb, hn⟩ := magDenotes_numeral h
  calc v < b ^ r.length := numeral_lt hn
    _ ≤ 16 ^ r.length := Nat.pow_le_pow_left hb _
    _ ≤ 16 ^ (pre ++ r).length := Nat.pow_le_pow_right (by decide) (by simp)

theorem valueDenotes_noUnd {s : Str} {n : Int} (h : ValueDenotes s n) : NoUnd s ∧ s ≠ [] := by
  cases h with
  | plain hm =>
    refine ⟨magDenotes_noUnd hm, ?_⟩
    rintro rfl; exact magDenotes_ne_nil hm
  | plus hm => exact ⟨noUnd_cons (by decide) (magDenotes_noUnd hm), by simp⟩
  | minus hm => exact ⟨noUnd_cons (by decide) (magDenotes_noUnd hm), by simp⟩

theorem any_und_false {s : Str} (h : NoUnd s) : s.any (· == (0x5f : UInt8)) = false := by
  rw [List.any_eq_false]
  intro x hx
  simpa using h x hx

theorem valueDenotes_lt {s : Str} {n : Int} (h : ValueDenotes s n) : n.natAbs < 256 ^ s.length := by
  have key : ∀ {r : Str} {v : Nat}, MagDenotes r v → r.length ≤ s.length → v < 256 ^ s.length := by
    intro r v hm hl
    have h1 := magDenotes_lt hm
    have h2 : 16 ^ r.length ≤ 256 ^ s.length :=
      Nat.le_trans (Nat.pow_le_pow_right (by decide) hl) (Nat.pow_le_pow_left (by decide) _)
    omega
  cases h with
  | plain hm => simpa using key hm (Nat.le_refl _)
  | plus hm => simpa using key hm (by simp)
  | minus hm => simpa using key hm (by simp)

theorem leToNat_minLE (f n : Nat) (h : n < 256 ^ f) : leToNat (minLE f n) = n := by
  induction f generalizing n with
  | zero => simp at h; subst h; rfl
  | succ f ih =>
    unfold minLE
    by_cases h0 : n = 0
    · simp [h0]
    · simp only [h0, if_false, leToNat]
      rw [ih (n / 256) (by rw [Nat.pow_succ] at h; omega)]
      have : (UInt8.ofNat (n % 256)).toNat = n % 256 := by
        simp [UInt8.toNat_ofNat']
      rw [this]; omega

/-- the folded subtraction `0 - abs` at width `w` -/
theorem fold_neg (w a : Nat) (hw1 : 1 ≤ w) (hw : w ≤ 255) :
    constFold (Tools.sub Expr.zero (.const (natToLE w a)) w) =
      .const (natToLE w (Spec.ofInt w (-(a : Int)))) := by
  have hwf : (Tools.sub Expr.zero (.const (natToLE w a)) w).wf = true := by
    simp [Tools.sub, Tools.negate, Tools.bitNot, Tools.ones, Expr.wf, Expr.zero, Expr.one, hw1, hw]
  have hcl : (Tools.sub Expr.zero (.const (natToLE w a)) w).closed = true := by
    simp [Tools.sub, Tools.negate, Tools.bitNot, Tools.ones, Expr.closed, Expr.zero, Expr.one]
  rw [constFold_closed_eq ⟨fun _ => 0, fun _ _ => 0⟩ _ hcl hwf, Gadgets.eval_sub]
  show Expr.const (natToLE w _) = _
  simp only [Expr.eval, eval_zero, Bytes.trunc_zero, Bytes.leToNat_natToLE]
  congr 1
  unfold Spec.sub
  rw [Int.natCast_zero, Int.zero_sub, ← ofInt_neg_natCast, ofInt_neg_natCast w a]
  rfl

theorem fold_neg_zero (a : Nat) :
    constFold (Tools.sub Expr.zero (.const (natToLE 0 a)) 0) = .const [] := by
  show constFold (Tools.sub Expr.zero (.const []) 0) = .const []
  decide

theorem readValue_eq (w : Nat) (hw : w ≤ 255) (line : Str) :
    readValue w line = match valueExpected w line with
      | some bs => .ok bs
      | none => .err := by
  unfold readValue valueExpected
  rw [setString0_eq]
  cases hv : lineValue line with
  | none =>
    simp only [Option.map_none]
    split_ifs <;> rfl
  | some n =>
    have hd := (lineValue_iff _ _).mp hv
    obtain ⟨hnu, hne⟩ := valueDenotes_noUnd hd
    have hlt := valueDenotes_lt hd
    have he : line.isEmpty = false := List.isEmpty_eq_false_iff.mpr hne
    simp only [he, any_und_false hnu, Bool.false_eq_true, if_false, Option.map_some]
    have habs : Const.newConst (minLE line.length n.natAbs) w = natToLE w n.natAbs := by
      rw [Const.newConst_spec, leToNat_minLE _ _ hlt]
    rw [habs]
    by_cases hn : n ≥ 0
    · simp only [hn, if_true]
      congr 1
      obtain ⟨a, rfl⟩ := Int.eq_ofNat_of_zero_le hn
      rw [ofInt_natCast, Bytes.natToLE_trunc, Int.natAbs_natCast]
    · simp only [hn, if_false]
      have hneg : (-(n.natAbs : Int)) = n := by omega
      rcases Nat.eq_zero_or_pos w with h0 | h1
      · subst h0
        rw [fold_neg_zero]
        rfl
      · rw [fold_neg w _ h1 hw, hneg]

theorem valueExpected_eq_some {w : Nat} {line c : Str} :
    valueExpected w line = some c ↔ ∃ n, ValueDenotes line n ∧ c = natToLE w (Spec.ofInt w n) := by
  unfold valueExpected
  simp only [← lineValue_iff]
  cases lineValue line with
  | none => simp
  | some n => simp [eq_comm]

theorem readValue_no_panic (w : Nat) (hw : w ≤ 255) (line : Str) : readValue w line ≠ .panic := by
  rw [readValue_eq w hw]
  cases valueExpected w line <;> simp

end Mltwist.Lemmas.NumParse
