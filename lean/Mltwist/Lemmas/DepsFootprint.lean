import Mltwist.Lemmas.DepsView
/-
Bridging lemmas between the footprints of the model (`Model/Deps.lean`: `inputRegs`, `outputRegs`,
`loads`, `stores`, `keySet`, `findAll`) and those of the specification (`Spec/Deps.lean`:
`regReads`, `memReads`, `SIns.regIn` …) through the view `Ins.toS`, and `Conflict` on two model
instructions in the model's own terms (`MConflict`; registers and memories are one key space `Key`).
-/
namespace Mltwist.Lemmas.Deps
open Mltwist Mltwist.Deps Mltwist.Deps.Spec

theorem mem_findAll_regLoad (k : String) (e : Expr) :
    k ∈ (findAll .regLoad e).filterMap regLoadKey ↔ k ∈ regReads e := by
  induction e with
  | const bs => simp [findAll, Expr.kind, regReads]
  | binary op x y w ihx ihy =>
    simp only [findAll, Expr.kind, regReads, List.filterMap_append, List.mem_append, ihx, ihy]
    simp
  | less x y t f w ihx ihy iht ihf =>
    simp only [findAll, Expr.kind, regReads, List.filterMap_append, List.mem_append, ihx, ihy,
      iht, ihf]
    simp
  | memLoad key x w ihx =>
    simp only [findAll, Expr.kind, regReads, List.filterMap_append, List.mem_append, ihx]
    simp
  | regLoad key w => simp [findAll, Expr.kind, regReads, regLoadKey]

theorem mem_findAll_memLoad (k : String) (e : Expr) :
    k ∈ (findAll .memLoad e).filterMap memLoadKey ↔ k ∈ memReads e := by
  induction e with
  | const bs => simp [findAll, Expr.kind, memReads]
  | binary op x y w ihx ihy =>
    simp only [findAll, Expr.kind, memReads, List.filterMap_append, List.mem_append, ihx, ihy]
    simp
  | less x y t f w ihx ihy iht ihf =>
    simp only [findAll, Expr.kind, memReads, List.filterMap_append, List.mem_append, ihx, ihy,
      iht, ihf]
    simp
  | memLoad key x w ihx =>
    simp only [findAll, Expr.kind, memReads, List.filterMap_append, List.mem_append, ihx]
    simp [memLoadKey]
  | regLoad key w => simp [findAll, Expr.kind, memReads]

theorem mem_insertKey (k a : String) (s : List String) : k ∈ insertKey a s ↔ k ∈ s ∨ k = a := by
  unfold insertKey
  split
  · constructor
    · exact Or.inl
    · rintro (h | rfl) <;> assumption
  · simp

theorem nodup_insertKey (a : String) (s : List String) (h : s.Nodup) : (insertKey a s).Nodup := by
  unfold insertKey
  split
  · exact h
  · rename_i hn
    rw [List.nodup_append]
    refine ⟨h, by simp, ?_⟩
    intro x hx y hy
    simp at hy
    subst hy
    rintro rfl
    exact hn hx

theorem mem_foldl_insertKey (k : String) (ks acc : List String) :
    k ∈ ks.foldl (fun s k => insertKey k s) acc ↔ k ∈ acc ∨ k ∈ ks := by
  induction ks generalizing acc with
  | nil => simp
  | cons a ks ih =>
    simp only [List.foldl_cons, ih, mem_insertKey, List.mem_cons]
    constructor
    · rintro ((h | h) | h)
      · exact Or.inl h
      · exact Or.inr (Or.inl h)
      · exact Or.inr (Or.inr h)
    · rintro (h | h | h)
      · exact Or.inl (Or.inl h)
      · exact Or.inl (Or.inr h)
      · exact Or.inr h

theorem nodup_foldl_insertKey (ks acc : List String) (h : acc.Nodup) :
    (ks.foldl (fun s k => insertKey k s) acc).Nodup := by
  induction ks generalizing acc with
  | nil => exact h
  | cons a ks ih => exact ih _ (nodup_insertKey a acc h)

theorem mem_keySet (k : String) (l : List String) : k ∈ keySet l ↔ k ∈ l := by
  simp [keySet, mem_foldl_insertKey]

theorem nodup_keySet (l : List String) : (keySet l).Nodup :=
  nodup_foldl_insertKey l [] List.nodup_nil

theorem effRegReads_eq (ef : Effect) : effRegReads ef = ef.exprs.flatMap regReads := by
  cases ef <;> simp [effRegReads, Effect.exprs]

theorem effMemReads_eq (ef : Effect) : effMemReads ef = ef.exprs.flatMap memReads := by
  cases ef <;> simp [effMemReads, Effect.exprs]

theorem mem_inputRegs (k : String) (efs : List Effect) :
    k ∈ inputRegs efs ↔ k ∈ efs.flatMap effRegReads := by
  simp only [inputRegs, exprsMany, mem_keySet, List.mem_flatMap, effRegReads_eq,
    mem_findAll_regLoad]
  exact ⟨fun ⟨ex, ⟨ef, h1, h2⟩, h3⟩ => ⟨ef, h1, ex, h2, h3⟩,
    fun ⟨ef, h1, ex, h2, h3⟩ => ⟨ex, ⟨ef, h1, h2⟩, h3⟩⟩

theorem mem_loads (k : String) (efs : List Effect) :
    k ∈ Deps.loads efs ↔ k ∈ efs.flatMap effMemReads := by
  simp only [Deps.loads, exprsMany, List.mem_flatMap, effMemReads_eq, mem_findAll_memLoad]
  exact ⟨fun ⟨ex, ⟨ef, h1, h2⟩, h3⟩ => ⟨ef, h1, ex, h2, h3⟩,
    fun ⟨ef, h1, ex, h2, h3⟩ => ⟨ex, ⟨ef, h1, h2⟩, h3⟩⟩

theorem mem_outputRegs (k : String) (efs : List Effect) :
    k ∈ outputRegs efs ↔ k ∈ efs.flatMap effRegWrites := by
  unfold outputRegs
  rw [mem_keySet]
  simp only [List.mem_flatMap, List.mem_filterMap]
  refine exists_congr fun ef => and_congr_right fun _ => ?_
  -- for a register store both sides say that `k` is its key, for a memory store both are false
  cases ef <;> simp [effRegWrites, eq_comm]

theorem mem_stores (k : String) (efs : List Effect) :
    k ∈ Deps.stores efs ↔ k ∈ efs.flatMap effMemWrites := by
  unfold Deps.stores
  simp only [List.mem_flatMap, List.mem_filterMap]
  refine exists_congr fun ef => and_congr_right fun _ => ?_
  cases ef <;> simp [effMemWrites, eq_comm]

theorem mem_inRegs_toS (n : Nat) (i : Ins) (k : String) : k ∈ i.inRegs ↔ k ∈ (i.toS n).regIn :=
  mem_inputRegs k i.effects

theorem mem_outRegs_toS (n : Nat) (i : Ins) (k : String) : k ∈ i.outRegs ↔ k ∈ (i.toS n).regOut :=
  mem_outputRegs k i.effects

theorem mem_loads_toS (n : Nat) (i : Ins) (k : String) : k ∈ i.loads ↔ k ∈ (i.toS n).memIn :=
  mem_loads k i.effects

theorem mem_stores_toS (n : Nat) (i : Ins) (k : String) : k ∈ i.stores ↔ k ∈ (i.toS n).memOut :=
  mem_stores k i.effects

theorem nodup_outRegs (i : Ins) : i.outRegs.Nodup := nodup_keySet _

theorem nodup_inRegs (i : Ins) : i.inRegs.Nodup := nodup_keySet _

theorem isMemAccess_iff (n : Nat) (i : Ins) :
    isMemAccess i = true ↔ ((∃ k, k ∈ (i.toS n).memOut) ∨ ∃ k, k ∈ (i.toS n).memIn) := by
  unfold isMemAccess
  simp only [Bool.or_eq_true, decide_eq_true_eq, gt_iff_lt, List.length_pos_iff_exists_mem,
    mem_loads_toS n, mem_stores_toS n]

theorem isMemAccess_toS (n : Nat) (i : Ins) : isMemAccess i = (i.toS n).memAccess := by
  rw [Bool.eq_iff_iff, isMemAccess_iff n]
  unfold SIns.memAccess
  simp only [Bool.or_eq_true, Bool.not_eq_true', List.isEmpty_eq_false_iff_exists_mem]
  exact Or.comm

theorem insMemOrder_toS (n : Nat) (i : Ins) : insMemOrder i = (i.toS n).memOrder := rfl

theorem insSpecial_toS (n : Nat) (i : Ins) : insSpecial i = (i.toS n).special := by
  unfold insSpecial SIns.special Ins.syscall Ins.cpuStateChange Ins.toS
  exact Bool.or_comm _ _

theorem term_toS (n : Nat) (i : Ins) : (i.toS n).term = true ↔ i.id + 1 = n ∧ i.jumpTargets ≠ [] := by
  simp [Ins.toS]

theorem ipKey_eq : Deps.ipKey = Mltwist.Spec.Lift.ipKey := rfl

theorem ipKey_mem_outRegs_iff (n : Nat) (i : Ins) :
    Deps.ipKey ∈ i.outRegs ↔ (i.toS n).writesIp = true := by
  rw [mem_outRegs_toS n]
  unfold SIns.writesIp
  rw [ipKey_eq]
  simp

theorem memAccess_of_mem_stores (n : Nat) (i : Ins) (k : String) (h : k ∈ i.stores) :
    (i.toS n).memAccess = true := by
  rw [← isMemAccess_toS, isMemAccess_iff n]
  exact Or.inl ⟨k, (mem_stores_toS n i k).1 h⟩

theorem memAccess_of_mem_loads (n : Nat) (i : Ins) (k : String) (h : k ∈ i.loads) :
    (i.toS n).memAccess = true := by
  rw [← isMemAccess_toS, isMemAccess_iff n]
  exact Or.inr ⟨k, (mem_loads_toS n i k).1 h⟩

/-- A key of one of the two key spaces: a register (`false`) or a memory (`true`).  The finders treat
both alike, so the lemmas about them are stated once, for a key of either space. -/
abbrev Key := Bool × String

/-- the instruction reads the key -/
def rdOf : Key → Ins → Prop
  | (false, r), a => r ∈ a.inRegs
  | (true, r), a => r ∈ a.loads

/-- the instruction writes the key -/
def wrOf : Key → Ins → Prop
  | (false, r), a => r ∈ a.outRegs
  | (true, r), a => r ∈ a.stores

theorem exists_key {p : Key → Prop} : (∃ s, p s) ↔ (∃ r, p (false, r)) ∨ ∃ r, p (true, r) := by
  simp only [Prod.exists, Bool.exists_bool]

/-- the clauses RAW, WAW, WAR of `Conflict` for one key -/
def KeyClash (s : Key) (x y : Ins) : Prop :=
  (wrOf s x ∧ rdOf s y) ∨ (wrOf s x ∧ wrOf s y) ∨ (rdOf s x ∧ wrOf s y)

/-- the two memory-ordering clauses of `Conflict` -/
def MoClash (x y : Ins) : Prop :=
  (insMemOrder x = true ∧ (isMemAccess y = true ∨ insMemOrder y = true)) ∨
    (insMemOrder y = true ∧ isMemAccess x = true)

namespace KeyClash
variable {s : Key} {x y : Ins}

theorem raw (hx : wrOf s x) (hy : rdOf s y) : KeyClash s x y := .inl ⟨hx, hy⟩

theorem waw (hx : wrOf s x) (hy : wrOf s y) : KeyClash s x y := .inr (.inl ⟨hx, hy⟩)

theorem war (hx : rdOf s x) (hy : wrOf s y) : KeyClash s x y := .inr (.inr ⟨hx, hy⟩)

end KeyClash

/-- the clauses of `Conflict` for two instructions of a block of `n` instructions, one constructor
for each finder (or part of a finder) that answers for it -/
inductive MConflict (n : Nat) (x y : Ins) : Prop
  | key (s : Key) (h : KeyClash s x y)
  | special (h : insSpecial x = true ∨ insSpecial y = true)
  | memOrder (h : MoClash x y)
  | term (h : (y.toS n).term = true)
  | writesIp (h : Deps.ipKey ∈ x.outRegs ∨ Deps.ipKey ∈ y.outRegs)

theorem conflict_toS_iff (n : Nat) (x y : Ins) : Conflict (x.toS n) (y.toS n) ↔ MConflict n x y := by
  have hm : MConflict n x y ↔ (∃ s, KeyClash s x y) ∨ (insSpecial x = true ∨ insSpecial y = true) ∨
      MoClash x y ∨ (y.toS n).term = true ∨ (Deps.ipKey ∈ x.outRegs ∨ Deps.ipKey ∈ y.outRegs) := by
    constructor
    · intro h
      cases h with
      | key s h => exact .inl ⟨s, h⟩
      | special h => exact .inr (.inl h)
      | memOrder h => exact .inr (.inr (.inl h))
      | term h => exact .inr (.inr (.inr (.inl h)))
      | writesIp h => exact .inr (.inr (.inr (.inr h)))
    · rintro (⟨s, h⟩ | h | h | h | h)
      · exact .key s h
      · exact .special h
      · exact .memOrder h
      · exact .term h
      · exact .writesIp h
  -- both sides are the same list of clauses once the footprints are those of the model
  rw [hm, exists_key]
  simp only [Conflict, Meets, KeyClash, rdOf, wrOf, MoClash, ← mem_inRegs_toS n, ← mem_outRegs_toS n,
    ← mem_loads_toS n, ← mem_stores_toS n, ← insSpecial_toS n, ← insMemOrder_toS n,
    ← isMemAccess_toS n, ← ipKey_mem_outRegs_iff n, exists_or, or_assoc]

theorem keyClash_symm {s : Key} {x y : Ins} (h : KeyClash s x y) : KeyClash s y x := by
  rcases h with ⟨a, b⟩ | ⟨a, b⟩ | ⟨a, b⟩
  · exact .war b a
  · exact .waw b a
  · exact .raw b a

theorem moClash_symm {x y : Ins} (h : MoClash x y) : MoClash y x := by
  rcases h with ⟨a, b | b⟩ | ⟨a, b⟩
  · exact .inr ⟨a, b⟩
  · exact .inl ⟨b, .inr a⟩
  · exact .inl ⟨a, .inl b⟩

theorem mconflict_symm {n : Nat} {x y : Ins} (h : MConflict n x y) :
    MConflict n y x ∨ (y.toS n).term = true := by
  cases h with
  | key s h => exact .inl (.key s (keyClash_symm h))
  | special h => exact .inl (.special h.symm)
  | memOrder h => exact .inl (.memOrder (moClash_symm h))
  | term h => exact .inr h
  | writesIp h => exact .inl (.writesIp h.symm)

end Mltwist.Lemmas.Deps
