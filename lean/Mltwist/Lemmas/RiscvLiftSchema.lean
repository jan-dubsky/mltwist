import Mltwist.Model.Riscv
import Mltwist.Lemmas.RiscvLiftExec
import Mltwist.Lemmas.RiscvFields
/-
C01: the instruction tables as a schema.  `Desc.lift W d` is what `opcodes32.go` (`W = 4`) and `opcodes64.go` (`W = 8`) give
an instruction of class `d`: the two files are one schema in the register width.  What the effects of an entry do, write
and access is proved of `Desc.lift`, class by class (`RiscvLift`, `RiscvLiftWF`); that the regenerated tables are this
schema, in `RiscvLiftTables`.  Here also which fields of the instruction word the schema reads (`Desc.reads`, `lift_congr`:
what C25 needs of the effects).
-/
namespace Mltwist.Lemmas.RiscvLift
open Mltwist Mltwist.Riscv Mltwist.Spec.Rv
open Mltwist.Lemmas.RiscvTextArgs (Field)

namespace Alu

/-- the `exprtools` gadget or helper of `opcodes.go` that the tables hand to `reg2Op`, `regImmOp`, `maskedRegOp`,
`regImmShift` for the operation, or the closure that the tables write out in its place (so for `mulh`, `mulhu`) -/
def gadget : Alu → BinF
  | .add => binOpFunc .add | .sub => Tools.sub | .sll => binOpFunc .lsh | .srl => binOpFunc .rsh
  | .sra => Tools.rshA
  | .slt => fun a b n => Tools.lts a b .one .zero n
  | .sltu => fun a b n => .less a b .one .zero n
  | .xor => Tools.bitXor | .or => Tools.bitOr | .and => Tools.bitAnd
  | .mul => binOpFunc .mul
  | .mulh => fun a b n =>
    newWidthGadget (.binary .rsh (Tools.signedMul a b n) (constFromUint 1 (8 * n)) (2 * n)) n
  | .mulhu => fun a b n =>
    newWidthGadget (.binary .rsh (.binary .mul a b (2 * n)) (constFromUint 1 (8 * n)) (2 * n)) n
  | .mulhsu => Riscv.mulhsu
  | .div => Tools.signedDiv | .divu => binOpFunc .div | .rem => signedRem | .remu => Tools.mod

def isShift : Alu → Bool
  | .sll | .srl | .sra => true
  | _ => false

end Alu

/-- the condition gadget the tables hand to `branchCmp` -/
def Cmp.gadget : Cmp → CondF
  | .eq => Tools.eq | .lt => Tools.lts | .ltu => lessFunc

/-- the operation the tables hand to `atomicOp`/`atomicOpWidth` -/
def AmoOp.gadget : AmoOp → BinF
  | .swap => fun _ b _ => b | .add => binOpFunc .add | .xor => Tools.bitXor | .and => Tools.bitAnd
  | .or => Tools.bitOr | .min => atomicMinMax Tools.lts false | .max => atomicMinMax Tools.lts true
  | .minu => atomicMinMax lessFunc false | .maxu => atomicMinMax lessFunc true

/-- an `n`-byte value in a `W`-byte register: sign-extended, which the tables leave out when `n = W` -/
def extend (n W : Nat) (e : Expr) : Expr := if n = W then e else Riscv.sext e (8 * n - 1) W

/-- bits of a shift amount: `5` in `opcodes32.go` and for the `…w` forms, `6` in `opcodes64.go` -/
def shiftBits (n : Nat) : Nat := if n = 4 then 5 else 6

namespace Desc

/-- The effects of an instruction of class `d` at `i`, as the closures of `opcodes32.go` (`W = 4`) and `opcodes64.go`
(`W = 8`) build them, helper calls kept, so that the regenerated tables ARE this by conversion (`tables32`, `tables64`).
`following` and the `auipc` constant are the literal shapes of those closures (the address cut to `W` bytes before and
after the addition).  `.amo` is `atomicOp` (`n = W`) and `atomicOpWidth` (`n = 4` on RV64) of `opcodes.go` in one;
`.lr`, `.sc` and the `csr` arms are closures written out in the tables. -/
def lift (W : Nat) (d : Desc) (i : Ins) : List (Option Effect) :=
  let following := constFromUint W ((i.addr % 2 ^ (8 * W) + 4) % 2 ^ (8 * W))
  let ldAddr := regImmOp (binOpFunc .add) .I i W
  match d with
  | .lui => [regStore (extend 4 W (constFromInt 4 (immParse .U i.value).1)) i W]
  | .auipc => [regStore (constFromUint W (addrAddImm i.addr (immParse .U i.value).1 % 2 ^ (8 * W))) i W]
  | .jal => [some (.regStore (addrImmConst .J i W) ipKey W), regStore following i W]
  | .jalr => [some (.regStore (jumpTarget i W) ipKey W), regStore following i W]
  | .br c neg => [some (branchCmp c.gadget (!neg) i W)]
  | .load n signed => [regStore (if signed then extend n W (memLoad ldAddr n) else memLoad ldAddr n) i W]
  | .store n => [some (memStore (regLoad .rs2 i W) (regImmOp (binOpFunc .add) .S i W) n)]
  | .alu op imm word =>
    let n := if word then 4 else W
    let v := if op.isShift then
        (if imm then regImmShift op.gadget i (shiftBits n) n else maskedRegOp op.gadget i (shiftBits n) n)
      else if imm then regImmOp op.gadget .I i n else reg2Op op.gadget i n
    [regStore (if word then sext32To64 v else v) i W]
  | .nop => []
  | .csr op imm =>
    let old := Expr.regLoad (csrKey i) W
    let v := if imm then csrImm i else regLoad .rs1 i W
    [regStore old i W, some (.regStore (match op with
      | .write => v | .set => Tools.bitOr old v W | .clear => Tools.bitAnd old (Tools.bitNot v W) W) (csrKey i) W)]
  | .lr n => [regStore (extend n W (memLoad (regLoad .rs1 i W) n)) i W]
  | .sc n => [some (memStore (regLoad .rs2 i n) (regLoad .rs1 i W) n), regStore .zero i W]
  | .amo op n =>
    let addr := regLoad .rs1 i W
    let ld := memLoad addr n
    [regStore (extend n W ld) i W, some (memStore (op.gadget ld (regLoad .rs2 i n) n) addr n)]

/-- the immediate format of the class (`.R`: none), as `String()` parses it: the shift-immediate forms show the 6-bit
`shamt` although `regImmShift` reads the I-immediate; `csrKey` reads the I-immediate -/
def immType : Desc → ImmType
  | .lui | .auipc => .U
  | .jal => .J
  | .br .. => .B
  | .store _ => .S
  | .alu op true _ => if op.isShift then .shamt else .I
  | .jalr | .load .. | .csr .. => .I
  | _ => .R

/-- the fields of the instruction word that `lift` reads (`csr`: the rs1 field is a register or the 5-bit immediate) -/
def reads : Desc → List Field
  | .lui | .auipc | .jal => [.reg .rd, .imm]
  | .jalr | .load .. | .alu _ true _ | .csr .. => [.reg .rd, .reg .rs1, .imm]
  | .br .. | .store _ => [.reg .rs1, .reg .rs2, .imm]
  | .alu _ false _ | .sc _ | .amo .. => [.reg .rd, .reg .rs1, .reg .rs2]
  | .lr _ => [.reg .rd, .reg .rs1]
  | .nop => []

end Desc

/-- the shift amount is the low bits of the `shamt` the text shows (`shamt_low`) -/
theorem regImmShift_eq (f : BinF) (i : Ins) (bits w : Nat) (hb : bits ≤ 6) :
    regImmShift f i bits w =
      f (regLoad .rs1 i w) (constFromInt 4 ((immParse .shamt i.value).1 % (2 ^ bits : Nat))) w := by
  unfold regImmShift
  simp only [shamt_low _ _ hb]

theorem shiftBits_le (n : Nat) : shiftBits n ≤ 6 := by unfold shiftBits; split <;> decide

-- not every class uses every helper
set_option linter.unusedSimpArgs false in
/-- The schema reads the instruction word only through the fields `reads`, the immediate in the format `immType`: every
helper of `opcodes.go` applied to `w1` is the same applied to `w2`. -/
theorem Desc.lift_congr (W : Nat) (d : Desc) (a : Nat) {w1 w2 : Nat}
    (h : ∀ f ∈ d.reads, f.Same d.immType w1 w2) : d.lift W ⟨a, w1⟩ = d.lift W ⟨a, w2⟩ := by
  cases d with
  | alu op imm word =>
    cases imm <;> cases hs : op.isShift <;>
    simp only [Desc.reads, Desc.immType, hs, List.forall_mem_cons, List.not_mem_nil, false_imp_iff, implies_true,
      and_true, Field.Same, Bool.false_eq_true, if_false, if_true] at h <;>
    simp only [Desc.lift, regStore, regLoad, reg2Op, maskedRegOp, regImmOp, immConst,
      regImmShift_eq _ _ _ _ (shiftBits_le _), hs, Bool.false_eq_true, if_false, if_true, h]
  | _ =>
    simp only [Desc.reads, Desc.immType, List.forall_mem_cons, List.not_mem_nil, false_imp_iff, implies_true,
      and_true, Field.Same] at h
    -- `csrImm` reads the rs1 field
    simp only [Desc.lift, regStore, regLoad, regImmOp, immConst, addrImmConst, jumpTarget, branchCmp, csrKey,
      show ∀ i, csrImm i = constFromUint 1 (regNum .rs1 i.value) from fun _ => rfl, h]

end Mltwist.Lemmas.RiscvLift
