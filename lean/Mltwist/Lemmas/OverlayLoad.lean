import Mltwist.Lemmas.SparseCut
import Mltwist.Lemmas.SortSearch
import Mltwist.Spec.OverlayAbs
/-
C16, the pieces of `Overlay.Load` over two views that satisfy the memory laws: the reads of sub-intervals from a
layer (`Sub`, `In`, `GoodRead`; `Loads`).  The loop that ors the shifted
reads together is the or-loop of `Sparse.Load` (C14; `Lemmas.Sparse.foldl_or_tiles`) over reads that tile the
range; sorted disjoint reads that cover the range tile it.
-/
namespace Mltwist.Lemmas.Overlay
open Mltwist Mltwist.Overlay Mltwist.Interval Mltwist.Spec.Overlay
open Mltwist.Lemmas.Sparse (sumBytes_congr ReadsAt Answers Tiles tiles_map foldl_or_tiles)

theorem newIntv_range {a w : Nat} (h : a + w < 2 ^ 64) :
    newIntv a (Sparse.endAddr a w) = .ok ((a : Int), ((a + w : Nat) : Int)) := by
  rw [Lemmas.Sparse.endAddr_eq h, newIntv, if_neg (Nat.not_lt.2 (Nat.le_add_right _ _))]

theorem layer_none {u b : AbsMem} {x : Nat} : layer u b x = none ↔ u x = none ∧ b x = none := by
  unfold layer
  cases u x <;> simp

theorem layer_of_some {u b : AbsMem} {x : Nat} (h : u x ≠ none) : layer u b x = u x := by
  unfold layer
  cases hu : u x with
  | none => exact absurd hu h
  | some v => rfl

theorem layer_of_none {u b : AbsMem} {x : Nat} (h : u x = none) : layer u b x = b x := by
  unfold layer
  rw [h]

theorem layer_store (u b : AbsMem) (a : Nat) (e : Expr) (w : Nat) :
    layer (u.store a e w) b = (layer u b).store a e w := by
  funext x
  unfold layer AbsMem.store
  by_cases hx : a ≤ x ∧ x < a + w
  · simp only [if_pos hx]
  · simp only [if_neg hx]

theorem bytewise_layer {u b : AbsMem} (hu : Bytewise u) (hb : Bytewise b) : Bytewise (layer u b) := by
  intro x v hv ρ
  by_cases h : u x = none
  · rw [layer_of_none h] at hv
    exact hb x v hv ρ
  · rw [layer_of_some h] at hv
    exact hu x v hv ρ

theorem absByte_lt {m : AbsMem} (hm : Bytewise m) (ρ : Env) (x : Nat) : byteOf ρ (m x) < 256 := by
  cases h : m x with
  | none => simp [byteOf]
  | some v => exact hm x v h ρ

theorem loadVal_congr {m m' : AbsMem} {a w : Nat} (h : ∀ i, i < w → m (a + i) = m' (a + i)) (ρ : Env) :
    loadVal ρ m a w = loadVal ρ m' a w := by
  unfold loadVal
  exact sumBytes_congr w (fun i hi => by rw [h i hi])

theorem loadVal_one (ρ : Env) (m : AbsMem) (a : Nat) : loadVal ρ m a 1 = byteOf ρ (m a) := by
  simp [loadVal, Spec.Sparse.sumBytes]

/-- every expression the view returns for a load in the domain satisfies `P` -/
def Loads (P : Expr → Prop) (v : View) : Prop := ∀ a w e, InDom a w → v.load a w = .ok (some e) → P e

theorem answers_of_laws {v : View} {m : AbsMem} (hl : MemLaws v m) {a w : Nat} (hd : InDom a w) :
    ∃ r, v.load a w = .ok r ∧ Answers byteOf m a w r :=
  let ⟨r, h1, h2, h3⟩ := hl.load a w hd
  ⟨r, h1, h2, fun e he => ⟨(h3 e he).1, (h3 e he).2⟩⟩

/-- a lawful view read where its byte map agrees with `L`; what it returns has whatever all its loads have -/
theorem load_transfer {v : View} {m L : AbsMem} {a w : Nat} (hl : MemLaws v m) (hd : InDom a w)
    (heq : ∀ i, i < w → L (a + i) = m (a + i)) :
    ∃ r, v.load a w = .ok r ∧ Answers byteOf L a w r ∧ ∀ e, r = some e → ∀ P, Loads P v → P e :=
  let ⟨r, h1, h2⟩ := answers_of_laws hl hd
  ⟨r, h1, h2.congr heq, fun e he _ hv => hv a w e hd (he ▸ h1)⟩

/-- a non-empty interval inside `[a, a+w)` -/
def Sub (a w : Nat) (i : Intv) : Prop := (a : Int) ≤ i.1 ∧ i.1 < i.2 ∧ i.2 ≤ ((a + w : Nat) : Int)

theorem sub_facts {a w : Nat} {i : Intv} (h : Sub a w i) (hd : InDom a w) :
    a ≤ ibegin i ∧ 1 ≤ ilen i ∧ ibegin i + ilen i ≤ a + w ∧ i.1 = (ibegin i : Int) ∧
      i.2 = ((ibegin i + ilen i : Nat) : Int) := by
  obtain ⟨h1, h2, h3⟩ := h
  -- the length is at most the width `w`, so the conversion `expr.Width(intv.Len())` loses nothing
  have hl : (i.2 - i.1).toNat < 256 := by have := hd.wok.2; omega
  unfold ibegin ilen
  rw [Nat.mod_eq_of_lt hl]
  omega

theorem sub_inDom {a w : Nat} {i : Intv} (h : Sub a w i) (hd : InDom a w) : InDom (ibegin i) (ilen i) := by
  obtain ⟨_, f2, f3, _⟩ := sub_facts h hd
  obtain ⟨h1, h2, h3⟩ := hd
  exact ⟨f2, by omega, by omega⟩

/-- a read of the sub-interval `intv` of `[a, a+w)` that denotes the bytes of `L` -/
structure GoodRead (L : AbsMem) (a w : Nat) (rd : RangeRead) : Prop where
  sub : Sub a w rd.intv
  reads : ReadsAt (fun ρ x => byteOf ρ (L x)) (ibegin rd.intv) (ilen rd.intv) rd.ex

/-- the address `x` lies in the interval `i` (reducible, so that `omega` reads it, like `Lemmas.Sparse.Contains`) -/
abbrev In (x : Nat) (i : Intv) : Prop := i.1 ≤ (x : Int) ∧ (x : Int) < i.2

theorem in_iff {a w : Nat} {i : Intv} (h : Sub a w i) (hd : InDom a w) (x : Nat) :
    In x i ↔ ibegin i ≤ x ∧ x < ibegin i + ilen i := by
  obtain ⟨_, _, _, h4, h5⟩ := sub_facts h hd
  omega

theorem forall_in_iff {a w : Nat} {i : Intv} (h : Sub a w i) (hd : InDom a w) (P : Nat → Prop) :
    (∀ x : Nat, In x i → P x) ↔ ∀ k, k < ilen i → P (ibegin i + k) := by
  constructor
  · intro hp k hk
    exact hp _ ((in_iff h hd _).2 ⟨Nat.le_add_right _ _, Nat.add_lt_add_left hk _⟩)
  · intro hp x hx
    obtain ⟨h1, h2⟩ := (in_iff h hd x).1 hx
    obtain ⟨k, rfl⟩ := Nat.exists_eq_add_of_le h1
    exact hp k (Nat.lt_of_add_lt_add_left h2)

theorem in_range {a w : Nat} {i : Intv} (h : Sub a w i) (hd : InDom a w) {x : Nat} (hx : In x i) :
    a ≤ x ∧ x < a + w := by
  obtain ⟨f1, _, f3, _⟩ := sub_facts h hd
  obtain ⟨h1, h2⟩ := (in_iff h hd x).1 hx
  exact ⟨Nat.le_trans f1 h1, Nat.lt_of_lt_of_le h2 f3⟩

theorem read_spec {v : View} {m L : AbsMem} (hl : MemLaws v m) {a w : Nat} (hd : InDom a w) {i : Intv}
    (hi : Sub a w i) (hL : ∀ x : Nat, In x i → L x = m x) :
    ∃ r, v.load (ibegin i) (ilen i) = .ok r ∧ (r ≠ none ↔ ∀ x : Nat, In x i → m x ≠ none) ∧
      ∀ ex, r = some ex → GoodRead L a w ⟨i, ex⟩ ∧ ∀ P, Loads P v → P ex := by
  have hLi : ∀ k, k < ilen i → L (ibegin i + k) = m (ibegin i + k) :=
    (forall_in_iff hi hd (fun x => L x = m x)).1 hL
  obtain ⟨r, h1, h2⟩ := answers_of_laws hl (sub_inDom hi hd)
  exact ⟨r, h1, h2.some_iff.trans (forall_in_iff hi hd (fun x => m x ≠ none)).symm,
    fun ex he => ⟨⟨hi, ((h2.congr hLi).reads ex he)⟩, fun P hv => hv _ _ ex (sub_inDom hi hd) (he ▸ h1)⟩⟩

theorem readBase_spec {b : View} {mb L : AbsMem} (hb : MemLaws b mb) {a w : Nat} (hd : InDom a w) :
    ∀ l : List Intv, (∀ i ∈ l, Sub a w i) → (∀ i ∈ l, ∀ x : Nat, In x i → L x = mb x) →
      ∃ r, readBase b l = .ok r ∧ (r ≠ none ↔ ∀ i ∈ l, ∀ x : Nat, In x i → mb x ≠ none) ∧
        ∀ rs, r = some rs → rs.map (·.intv) = l ∧ ∀ rd ∈ rs, GoodRead L a w rd ∧ ∀ P, Loads P b → P rd.ex
  | [], _, _ => ⟨some [], rfl, by simp, fun rs h => by cases h; simp⟩
  | i :: is, hsub, hL => by
    obtain ⟨r0, h1, hpres, h3⟩ := read_spec hb hd (hsub i List.mem_cons_self) (hL i List.mem_cons_self)
    obtain ⟨r', g1, g2, g3⟩ := readBase_spec hb hd is (fun j hj => hsub j (List.mem_cons_of_mem _ hj))
      (fun j hj => hL j (List.mem_cons_of_mem _ hj))
    cases r0 with
    | none =>
      refine ⟨none, by simp [readBase, h1], ?_, fun rs h => by cases h⟩
      simp only [ne_eq, not_true_eq_false, false_iff]
      intro hall
      exact (hpres.2 (fun x hx => hall i List.mem_cons_self x hx)) rfl
    | some ex =>
      have hall0 := hpres.1 (by simp)
      cases r' with
      | none =>
        refine ⟨none, by simp [readBase, h1, g1], ?_, fun rs h => by cases h⟩
        simp only [ne_eq, not_true_eq_false, false_iff]
        intro hall
        exact (g2.2 (fun j hj x hx => hall j (List.mem_cons_of_mem _ hj) x hx)) rfl
      | some rs' =>
        refine ⟨some (⟨i, ex⟩ :: rs'), by simp [readBase, h1, g1], ?_, ?_⟩
        · simp only [ne_eq, reduceCtorEq, not_false_eq_true, true_iff]
          exact List.forall_mem_cons.2 ⟨hall0, g2.1 (by simp)⟩
        · intro rs hrs
          cases hrs
          obtain ⟨q1, q2⟩ := g3 rs' rfl
          exact ⟨by simp [q1], List.forall_mem_cons.2 ⟨h3 ex rfl, q2⟩⟩

/-- all bytes of these intervals are in the overlay, so the `bug: read from overlay memory range` panic is not
reached -/
theorem readOver_spec {o : View} {mo L : AbsMem} (ho : MemLaws o mo) {a w : Nat} (hd : InDom a w) :
    ∀ l : List Intv, (∀ i ∈ l, Sub a w i) → (∀ i ∈ l, ∀ x : Nat, In x i → mo x ≠ none ∧ L x = mo x) →
      ∃ rs, readOver o l = .ok rs ∧ rs.map (·.intv) = l ∧ ∀ rd ∈ rs, GoodRead L a w rd ∧ ∀ P, Loads P o → P rd.ex
  | [], _, _ => ⟨[], rfl, rfl, by simp⟩
  | i :: is, hsub, hL => by
    have hLi := hL i List.mem_cons_self
    obtain ⟨r0, h1, h2, h3⟩ := read_spec ho hd (hsub i List.mem_cons_self) (fun x hx => (hLi x hx).2)
    obtain ⟨rs', g1, g2, g3⟩ := readOver_spec ho hd is (fun j hj => hsub j (List.mem_cons_of_mem _ hj))
      (fun j hj => hL j (List.mem_cons_of_mem _ hj))
    cases r0 with
    | none => exact absurd rfl (h2.2 fun x hx => (hLi x hx).1)
    | some ex =>
      exact ⟨⟨i, ex⟩ :: rs', by simp [readOver, h1, g1], by simp [g2],
        List.forall_mem_cons.2 ⟨h3 ex rfl, g3⟩⟩

theorem sortReads_perm (l : List RangeRead) : (sortReads l).Perm l :=
  InsertSort.sort_perm (p := fun a b : RangeRead => a.intv.1 < b.intv.1) (ins := insertRead)
    (fun _ => rfl) (fun _ _ _ => rfl) l

theorem sortReads_sorted (l : List RangeRead) :
    (sortReads l).Pairwise (fun a b => a.intv.1 ≤ b.intv.1) :=
  InsertSort.sort_sorted (p := fun a b : RangeRead => a.intv.1 < b.intv.1) (ins := insertRead)
    (fun _ => rfl) (fun _ _ _ => rfl) Int.le_of_lt Int.not_lt.1 Int.le_trans l

/-- the body of `combine` as the fold that `foldl_or_tiles` speaks of -/
theorem combine_eq_foldl (a w : Nat) : ∀ (rs : List RangeRead) (acc : Expr),
    combine a w rs acc =
      rs.foldl (fun acc r => Tools.bitOr acc (offsetExpr r.ex (Sparse.sub64 (ibegin r.intv) a % 256) w) w) acc
  | [], _ => rfl
  | _ :: rs, _ => combine_eq_foldl a w rs _

/-- the shift of a read inside the range: the `uint64` difference and its conversion to a width are exact, the
difference being below the width `w` (the right side is the body of `offsetExpr` without the `% 256`) -/
theorem offsetExpr_eq {a w : Nat} (hd : InDom a w) {i : Intv} (hi : Sub a w i) (ex : Expr) :
    offsetExpr ex (Sparse.sub64 (ibegin i) a % 256) w =
      .binary .lsh ex (Tools.constUint ((ibegin i - a) * 8) 2) w := by
  obtain ⟨f1, f2, f3, _⟩ := sub_facts hi hd
  obtain ⟨k, hk⟩ := Nat.exists_eq_add_of_le f1
  have hk256 : k < 256 := by have := hd.wok.2; omega
  unfold offsetExpr Sparse.sub64
  rw [hk, Nat.add_sub_cancel_left, Nat.add_assoc, Nat.add_sub_cancel_left, Nat.add_mod_right,
    Nat.mod_eq_of_lt (Nat.lt_trans hk256 (by decide)), Nat.mod_eq_of_lt hk256, Nat.mod_eq_of_lt hk256]

/-- the first read is the accumulator the loop starts from -/
theorem combine_tiles_spec {L : AbsMem} (hL : Bytewise L) {a w : Nat} (hd : InDom a w)
    {r0 : RangeRead} {rest : List RangeRead}
    (hgood : ∀ rd ∈ r0 :: rest, GoodRead L a w rd) (ht : Tiles ibegin ilen a (a + w) ((r0 :: rest).map (·.intv))) :
    ReadsAt (fun ρ x => byteOf ρ (L x)) a w (combine a w rest r0.ex) := by
  have hg0 := (hgood r0 List.mem_cons_self).reads
  obtain ⟨hb, ht⟩ := (tiles_map _ _ _ _ _ _).1 ht
  have hrest := fun rd hrd => hgood rd (List.mem_cons_of_mem _ hrd)
  rw [combine_eq_foldl]
  refine foldl_or_tiles (ex := (·.ex)) (absByte_lt hL) hd.wok.bits_lt_two_pow16 rest r0.ex (ilen r0.intv)
    (fun rd hrd => ⟨(sub_facts (hrest rd hrd).sub hd).2.1, (hrest rd hrd).reads⟩)
    (fun rd hrd acc => by rw [offsetExpr_eq hd (hrest rd hrd).sub]) (hb ▸ ht) (fun hr => ?_)
    (fun ρ => hb ▸ hg0.eval ρ)
  subst hr
  rw [hg0.width, ← Nat.add_left_cancel ht]

theorem tiles_of_sorted {a w : Nat} (hd : InDom a w) : ∀ (l : List Intv) (s : Nat),
    l.Pairwise (fun i j => ibegin i ≤ ibegin j) →
    l.Pairwise (fun i j => ∀ z : Nat, ¬ (In z i ∧ In z j)) →
    (∀ i ∈ l, Sub a w i ∧ s ≤ ibegin i) → s ≤ a + w →
    (∀ z, s ≤ z → z < a + w → ∃ i ∈ l, In z i) → Tiles ibegin ilen s (a + w) l
  | [], s, _, _, _, hs, hcov => by
    refine Nat.le_antisymm hs (Nat.le_of_not_lt fun h => ?_)
    obtain ⟨_, hi, _⟩ := hcov s (Nat.le_refl _) h
    cases hi
  | i :: l, s, hsort, hdisj, hin, _, hcov => by
    rw [List.pairwise_cons] at hsort hdisj
    obtain ⟨hsub, hsi⟩ := hin i List.mem_cons_self
    obtain ⟨_, f2, f3, _⟩ := sub_facts hsub hd
    have hin' : ∀ j ∈ l, Sub a w j := fun j hj => (hin j (List.mem_cons_of_mem _ hj)).1
    -- the address `s` is covered by an interval that begins at or before `s`, and `i` begins first
    have hbeg : ibegin i = s := by
      obtain ⟨j, hj, hz⟩ :=
        hcov s (Nat.le_refl _) (Nat.lt_of_le_of_lt hsi (Nat.lt_of_lt_of_le (Nat.lt_add_of_pos_right f2) f3))
      refine Nat.le_antisymm ?_ hsi
      rcases List.mem_cons.1 hj with rfl | hj
      · exact ((in_iff hsub hd s).1 hz).1
      · exact Nat.le_trans (hsort.1 j hj) ((in_iff (hin' j hj) hd s).1 hz).1
    subst hbeg
    refine ⟨rfl, tiles_of_sorted hd l _ hsort.2 hdisj.2 (fun j hj => ?_) f3 fun z hz1 hz2 => ?_⟩
    · -- a later interval begins no earlier than `i` and is disjoint from it
      refine ⟨hin' j hj, Nat.le_of_not_lt fun hlt => hdisj.1 j hj (ibegin j) ⟨?_, ?_⟩⟩
      · exact (in_iff hsub hd _).2 ⟨hsort.1 j hj, hlt⟩
      · exact (in_iff (hin' j hj) hd _).2 ⟨Nat.le_refl _, Nat.lt_add_of_pos_right (sub_facts (hin' j hj) hd).2.1⟩
    · obtain ⟨j, hj, hz⟩ := hcov z (Nat.le_trans (Nat.le_add_right _ _) hz1) hz2
      rcases List.mem_cons.1 hj with rfl | hj
      · exact absurd ((in_iff hsub hd z).1 hz).2 (Nat.not_lt.2 hz1)
      · exact ⟨j, hj, hz⟩

end Mltwist.Lemmas.Overlay
