import Mltwist.Lemmas.SparseStore
import Mltwist.Lemmas.Interval
/-
C14: `Load` (`sparse.go`).  The intervals that `Overlaps` returns are walked from left to right (`Walk`); what the walk
does not meet is the complement of the range by these intervals in the sense of `interval.complement` (C17): its
members are the unwritten addresses of the range, `wholeInterval` tests that it is empty and `Missing` returns it.
Then the loaded expression: under the invariant `Load` does not fail (`load_cases`), the closure `cut` returns the
expression `cutOf` the interval for the range, the loop is a fold of `glue`.  The intervals that `wholeInterval`
accepts, cut to the range, tile it, so the fold is the or-loop of `foldl_or_tiles`; and it builds closed well-formed
expressions from closed well-formed ones.
-/
namespace Mltwist.Lemmas.Sparse
open Mltwist Mltwist.Sparse Mltwist.Spec.Sparse Mltwist.Interval
open Mltwist.Lemmas.Interval (compPieces compPieces_spec Separate NormalOf cuts_toNat)

/-- what `Overlaps` returns behind its first interval, for a range ending at `e`: non-empty intervals beginning
before `e`, each at or after the end of the one before (`le` for the first) -/
def Walk (e : Nat) : Nat → List KV → Prop
  | _, [] => True
  | le, o :: os => le ≤ o.low ∧ o.low < o.high ∧ o.low < e ∧ Walk e o.high os

theorem walk_of_ordered {e : Nat} : ∀ (os : List KV) (le : Nat), Ordered os → (∀ o ∈ os, o.low < o.high ∧ o.low < e) →
    (∀ o ∈ os, le ≤ o.low) → Walk e le os
  | [], _, _, _, _ => trivial
  | o :: os, _, hord, hne, hle => by
    rw [Ordered, List.pairwise_cons] at hord
    exact ⟨hle o List.mem_cons_self, (hne o List.mem_cons_self).1, (hne o List.mem_cons_self).2,
      walk_of_ordered os o.high hord.2 (fun o' h => hne o' (List.mem_cons_of_mem _ h)) hord.1⟩

theorem Walk.le_low {e : Nat} : ∀ {os : List KV} {le : Nat}, Walk e le os → ∀ o ∈ os, le ≤ o.low
  | o :: os, _, ⟨h1, h2, _, h3⟩, o', ho' => by
    rcases List.mem_cons.1 ho' with rfl | ho'
    · exact h1
    · have := h3.le_low o' ho'
      omega

theorem abs_none_iff_ovl (t : Tree) {a e n : Nat} (h1 : a ≤ n) (h2 : n < e) :
    abs t n = none ↔ ∀ o ∈ ovl t a e, ¬ Contains o n := by
  rw [abs_eq_none_iff]
  constructor
  · intro h o ho
    exact h o (mem_ovl.1 ho).1
  · intro h kv hkv hc
    exact h kv (mem_ovl.2 ⟨hkv, by omega⟩) hc

/-- `Overlaps` returns `i0 :: rest` for the range `[a, e)` -/
structure Ovl (t : Tree) (a e : Nat) (i0 : KV) (rest : List KV) : Prop where
  mem : i0 ∈ t
  low : i0.low < e
  high : a < i0.high
  walk : Walk e i0.high rest
  tail : ∀ o ∈ rest, o ∈ t ∧ o.low < e ∧ a < o.high

theorem ovl_cons {t : Tree} (hinv : Inv t) {a e : Nat} {i0 : KV} {rest : List KV}
    (h : ovl t a e = i0 :: rest) : Ovl t a e i0 rest := by
  have hm : ∀ o ∈ i0 :: rest, o ∈ t ∧ o.low < e ∧ a < o.high := fun o ho => mem_ovl.1 (h ▸ ho)
  obtain ⟨h1, h2, h3⟩ := hm i0 List.mem_cons_self
  have hoo := ovl_ordered hinv.1 a e
  rw [h, Ordered, List.pairwise_cons] at hoo
  have hrest := fun o ho => hm o (List.mem_cons_of_mem _ ho)
  exact ⟨h1, h2, h3,
    walk_of_ordered rest _ hoo.2 (fun o ho => ⟨(hinv.2 o (hrest o ho).1).1, (hrest o ho).2.1⟩) hoo.1, hrest⟩

/-- the addresses of a stored interval, as an interval of the interval package -/
def iv (o : KV) : Intv := ((o.low : Int), (o.high : Int))

theorem compPieces_walk {le e : Nat} {o : KV} {os : List KV} (h2 : le < o.high) (h3 : o.low < e) :
    compPieces ((le : Int), (e : Int)) ((o :: os).map iv) =
      (if le < o.low then [((le : Int), (o.low : Int))] else []) ++
        if o.high < e then compPieces ((o.high : Int), (e : Int)) (os.map iv) else [] := by
  rw [List.map_cons, compPieces, if_neg (by simp only [iv]; omega), if_neg (by simp only [iv]; omega)]
  simp only [iv, Int.ofNat_lt]

theorem separate_ovl {t : Tree} (hinv : Inv t) (a e : Nat) : Separate ((ovl t a e).map iv) := by
  refine ⟨fun i hi => ?_, List.pairwise_map.2 ((ovl_ordered hinv.1 a e).imp fun h => Int.ofNat_le.2 h)⟩
  obtain ⟨o, ho, rfl⟩ := List.mem_map.1 hi
  exact Int.ofNat_lt.2 (hinv.2 o (mem_ovl.1 ho).1).1

theorem mem_map_iv (os : List KV) (x : Int) : Mem x (os.map iv) ↔ 0 ≤ x ∧ ∃ o ∈ os, Contains o x.toNat := by
  rw [Lemmas.Interval.mem_map]
  simp only [iv]
  exact ⟨fun ⟨o, ho, c1, c2⟩ => ⟨by omega, o, ho, by omega, by omega⟩,
    fun ⟨hx, o, ho, c1, c2⟩ => ⟨o, ho, by omega, by omega⟩⟩

theorem comp_ovl_spec {t : Tree} (hinv : Inv t) {a w : Nat} (hw : 0 < w) :
    NormalOf (compPieces ((a : Int), ((a + w : Nat) : Int)) ((ovl t a (a + w)).map iv)) fun x =>
      (a : Int) ≤ x ∧ (x.toNat < a + w ∧ abs t x.toNat = none) := by
  refine cuts_toNat.1 ((compPieces_spec _ (separate_ovl hinv a (a + w)) ((a : Int), ((a + w : Nat) : Int))
    (Int.ofNat_lt.2 (Nat.lt_add_of_pos_right hw))).congr fun x h1 h2 => ?_)
  dsimp only at h1 h2
  rw [mem_map_iv, abs_none_iff_ovl t (a := a) (e := a + w) (by omega) (by omega)]
  exact ⟨fun h o ho hc => h ⟨by omega, o, ho, hc⟩, fun h h' => h'.2.elim fun o ho => h o ho.1 ho.2⟩

/-- for the gap lists of `compPieces_walk` -/
theorem gaps_eq_nil_iff {c d : Prop} [Decidable c] [Decidable d] {g : Intv} {l : List Intv} :
    ((if c then [g] else []) ++ if d then l else []) = [] ↔ ¬ c ∧ (d → l = []) := by
  by_cases hc : c <;> by_cases hd : d <;> simp [hc, hd]

theorem wholeLoop_iff_comp (e : Nat) : ∀ (os : List KV) (le : Nat), Walk e le os →
    ((∃ l, wholeLoop le os = some l ∧ e ≤ l) ↔
      (le < e → compPieces ((le : Int), (e : Int)) (os.map iv) = []))
  | [], le, _ => by
    simp only [wholeLoop, Option.some.injEq, exists_eq_left', List.map_nil, compPieces, reduceCtorEq, imp_false,
      Nat.not_lt]
  | o :: os, le, ⟨h1, h2, hoe, h3⟩ => by
    rw [compPieces_walk (Nat.lt_of_le_of_lt h1 h2) hoe, gaps_eq_nil_iff, wholeLoop]
    by_cases hlo : o.low = le
    · rw [if_neg (fun h => h hlo), wholeLoop_iff_comp e os o.high h3]
      exact ⟨fun g _ => ⟨by omega, g⟩, fun h => (h (by omega)).2⟩
    · rw [if_pos hlo]
      exact ⟨fun ⟨_, h, _⟩ => (nomatch h), fun h => absurd (h (by omega)).1 (by omega)⟩

theorem wholeInterval_cons (a e : Nat) (i0 : KV) (rest : List KV) :
    wholeInterval a e (i0 :: rest) = true ↔ i0.low ≤ a ∧ ∃ l, wholeLoop i0.high rest = some l ∧ e ≤ l := by
  rw [wholeInterval]
  by_cases hlow : i0.low > a
  · rw [if_pos hlow]
    exact ⟨fun h => (nomatch h), fun h => absurd hlow (Nat.not_lt.2 h.1)⟩
  · rw [if_neg hlow]
    cases wholeLoop i0.high rest with
    | none => exact ⟨fun h => (nomatch h), fun h => (nomatch h.2.choose_spec.1)⟩
    | some l => simp [Nat.not_lt.1 hlow]

theorem wholeInterval_iff_comp {t : Tree} (hinv : Inv t) {a e : Nat} :
    wholeInterval a e (ovl t a e) = true ↔ compPieces ((a : Int), (e : Int)) ((ovl t a e).map iv) = [] := by
  cases hints : ovl t a e with
  | nil => exact ⟨fun h => (nomatch h), fun h => (nomatch h)⟩
  | cons i0 rest =>
    have ho := ovl_cons hinv hints
    rw [compPieces_walk ho.high ho.low, gaps_eq_nil_iff, Nat.not_lt, ← wholeLoop_iff_comp e rest i0.high ho.walk]
    exact wholeInterval_cons a e i0 rest

theorem wholeInterval_iff (t : Tree) (hinv : Inv t) (a w : Nat) (hw : 0 < w) :
    wholeInterval a (a + w) (ovl t a (a + w)) = true ↔ ∀ i, i < w → abs t (a + i) ≠ none := by
  rw [wholeInterval_iff_comp hinv, (comp_ovl_spec hinv (a := a) hw).eq_nil_iff]
  constructor
  · intro h i hi hn
    refine h ((a + i : Nat) : Int) ⟨Int.ofNat_le.2 (Nat.le_add_right a i), ?_⟩
    rw [Int.toNat_natCast]
    exact ⟨Nat.add_lt_add_left hi a, hn⟩
  · intro h x ⟨h1, h2, h3⟩
    refine h (x.toNat - a) (by omega) ?_
    rwa [Nat.add_sub_cancel' (by omega)]

/-- the part of `o` inside the range `[a, e)` -/
def inter (a e : Nat) (o : KV) : KV := restrict o (max a o.low) (min e o.high)

theorem inter_good {a e : Nat} {o : KV} (hg : o.Good) (h1 : o.low < e) (h2 : a < o.high) (hae : a < e) :
    (inter a e o).Good :=
  restrict_good hg (Nat.le_max_right _ _) (Nat.lt_min.2 ⟨Nat.max_lt.2 ⟨hae, h1⟩, Nat.max_lt.2 ⟨h2, hg.1⟩⟩)
    (Nat.min_le_right _ _)

/-- the bytes of the memory denoted by `t`, read little-endian from `a` -/
def S (ρ : Env) (t : Tree) (a n : Nat) : Nat := sumBytes (fun i => byteAt ρ (abs t (a + i))) n

theorem S_eq_loadVal (ρ : Env) (t : Tree) (a n : Nat) : S ρ t a n = loadVal ρ (abs t) a n := rfl

theorem byteAt_lt (ρ : Env) : ∀ c : Option Cell, byteAt ρ c < 256
  | none => Nat.zero_lt_succ _
  | some _ => Nat.mod_lt _ (by decide)

theorem byteAt_abs {t : Tree} (hord : Ordered t) {o : KV} (ho : o ∈ t) (hg : o.Good) {x : Nat}
    (hx : Contains o x) (ρ : Env) :
    byteAt ρ (abs t x) = byteOf (o.val.ex.eval ρ) (o.val.begin + (x - o.low)) := by
  rw [abs_eq_some_of_mem hord ho hx]
  exact byteVal_eq ρ _ (cell_lt hg hx)

/-- what `Load` cuts out of `o` for the range `[a, e)` -/
def cutOf (a e : Nat) (o : KV) : Expr := slice (inter a e o).val

theorem cut_eq (a e : Nat) (hae : a < e) {o : KV} (hg : o.Good) (h1 : o.low < e) (h2 : a < o.high) :
    cut a e o = .ok (cutOf a e o) := by
  -- the tail of the closure: the part from `lo` on is cut at `e` if it reaches further
  have tail : ∀ {lo : Nat}, o.low ≤ lo → lo < e →
      cutTail e o.high (restrict o lo o.high).val lo = (restrict o lo (min e o.high)).val.expr := by
    intro lo l1 l2
    unfold cutTail
    split
    · next hr =>
      rw [cutEnd_restrict hg l1 l2 (Nat.le_of_lt hr), Nat.min_eq_left (Nat.le_of_lt hr)]
      rfl
    · next hr => rw [Nat.min_eq_right (Nat.le_of_not_lt hr)]
  rw [cutOf, ← expr_eq (inter_good hg h1 h2 hae).2.2.1, inter]
  unfold cut
  split
  · next hl =>
    rw [cutBegin_restrict hg (Nat.le_of_lt hl) h2, Nat.max_eq_left (Nat.le_of_lt hl)]
    exact tail (Nat.le_of_lt hl) hae
  · next hl =>
    rw [Nat.max_eq_right (Nat.le_of_not_lt hl)]
    have := tail (Nat.le_refl _) h1
    rwa [restrict_self hg] at this

theorem cutOf_reads {t : Tree} (hord : Ordered t) (a e : Nat) (hae : a < e) {o : KV} (ho : o ∈ t) (hg : o.Good)
    (h1 : o.low < e) (h2 : a < o.high) :
    ReadsAt (fun ρ x => byteAt ρ (abs t x)) (max a o.low) (min e o.high - max a o.low) (cutOf a e o) := by
  have hgi := inter_good hg h1 h2 hae
  have hn : min e o.high - max a o.low = _ := hgi.2.2.2.2
  have hp : Piece (inter a e o) o := restrict_piece (Nat.le_max_right _ _) (Nat.min_le_right _ _)
  unfold cutOf
  refine ⟨(slice_width _).trans hn.symm, fun ρ => ?_⟩
  rw [slice_eval _ hgi.2.2.1 (good_wok hgi), ← hn, slice_eq_sum]
  refine sumBytes_congr _ fun j hj => ?_
  obtain ⟨hco, heq⟩ := hp.2 (max a o.low + j) ⟨Nat.le_add_right _ _, show _ < min e o.high by omega⟩
  rw [byteAt_abs hord ho hg hco ρ, ← heq]
  show byteOf _ (_ + j) = byteOf _ (_ + (max a o.low + j - max a o.low))
  rw [Nat.add_sub_cancel_left]
  rfl

/-- one round of the loop of `Load`: what is cut of `o` goes above the bytes loaded so far -/
def glue (a e w : Nat) (acc : Expr) (o : KV) : Expr :=
  Tools.bitOr acc (.binary .lsh (cutOf a e o) (Tools.constUint ((o.low - a) * 8 % 2 ^ 64) 8) w) w

theorem loadLoop_eq (a e w : Nat) (he : e < 2 ^ 64) (hae : a < e) : ∀ (os : List KV) (acc : Expr),
    (∀ o ∈ os, o.Good ∧ a ≤ o.low ∧ o.low < e) → loadLoop a e w os acc = .ok (os.foldl (glue a e w) acc)
  | [], _, _ => rfl
  | o :: os, acc, h => by
    obtain ⟨hg, h1, h2⟩ := h o List.mem_cons_self
    unfold loadLoop
    rw [cut_eq a e hae hg h2 (Nat.lt_of_le_of_lt h1 hg.1)]
    simp only [bind, Except.bind]
    rw [sub64_eq h1 (Nat.lt_trans h2 he)]
    exact loadLoop_eq a e w he hae os _ fun o' ho' => h o' (List.mem_cons_of_mem _ ho')

theorem load_cases (t : Tree) (hinv : Inv t) {a w : Nat} (hd : InDom a w) :
    (load t a w = .ok none ∧ wholeInterval a (a + w) (ovl t a (a + w)) = false) ∨
    ∃ i0 rest, ovl t a (a + w) = i0 :: rest ∧ wholeInterval a (a + w) (i0 :: rest) = true ∧
      load t a w = .ok (some (rest.foldl (glue a (a + w) w) (cutOf a (a + w) i0))) := by
  obtain ⟨hw1, _, hlt⟩ := hd
  unfold load
  rw [endAddr_eq hlt]
  dsimp only
  rw [overlaps_eq t (Nat.le_add_right a w)]
  simp only [bind, Except.bind, pure, Except.pure]
  cases hints : ovl t a (a + w) with
  | nil => exact .inl ⟨rfl, rfl⟩
  | cons i0 rest =>
    have ho := ovl_cons hinv hints
    dsimp only
    cases hwi : wholeInterval a (a + w) (i0 :: rest) with
    | false => exact .inl ⟨rfl, rfl⟩
    | true =>
      refine .inr ⟨i0, rest, rfl, hwi, ?_⟩
      simp only [Bool.not_true, Bool.false_eq_true, if_false]
      rw [cut_eq a (a + w) (by omega) (hinv.2 i0 ho.mem) ho.low ho.high]
      simp only
      rw [loadLoop_eq a (a + w) w hlt (by omega) rest _ fun o h =>
        ⟨hinv.2 o (ho.tail o h).1, by have := ho.walk.le_low o h; have := ho.high; omega, (ho.tail o h).2.1⟩]

theorem tiles_of_wholeLoop (a e : Nat) : ∀ (os : List KV) (cur : Nat) {l : Nat}, wholeLoop cur os = some l → e ≤ l →
    Walk e cur os → a ≤ cur →
    Tiles (fun o => max a o.low) (fun o => min e o.high - max a o.low) (min cur e) e os
  | [], cur, l, h, hl, _, _ => by
    cases h
    exact Nat.min_eq_right hl
  | o :: os, cur, l, h, hl, ⟨_, h2, h1, hos⟩, hcur => by
    rw [wholeLoop] at h
    split at h
    · cases h
    · next hlo =>
      obtain rfl : o.low = cur := Decidable.of_not_not hlo
      have ih := tiles_of_wholeLoop a e os o.high h hl hos (Nat.le_trans hcur (Nat.le_of_lt h2))
      -- `o` begins inside the range, at or behind `a`: cut to the range it begins at `o.low` and ends at `min e o.high`
      have hm : min o.low e = o.low := Nat.min_eq_left (Nat.le_of_lt h1)
      refine ⟨(Nat.max_eq_right hcur).trans hm.symm, ?_⟩
      show Tiles _ _ (min o.low e + (min e o.high - max a o.low)) e os
      rwa [hm, Nat.max_eq_right hcur, Nat.add_sub_cancel' (Nat.le_min.2 ⟨Nat.le_of_lt h1, Nat.le_of_lt h2⟩), Nat.min_comm]

theorem load_ok (t : Tree) (hinv : Inv t) (a w : Nat) (hd : InDom a w) :
    ∃ r, load t a w = .ok r ∧ Answers byteAt (abs t) a w r := by
  have hwhole := wholeInterval_iff t hinv a w hd.1
  rcases load_cases t hinv hd with ⟨hload, hwi⟩ | ⟨i0, rest, hints, hwi, hload⟩
  · rw [hwi] at hwhole
    exact ⟨none, hload, ⟨fun h => absurd rfl h, fun h => nomatch hwhole.2 h⟩, fun _ h => nomatch h⟩
  refine ⟨_, hload, ⟨fun _ => hwhole.1 (hints ▸ hwi), fun _ => nofun⟩, fun e he => ?_⟩
  cases he
  have hbits := hd.wok.bits_lt_two_pow64
  obtain ⟨hw1, hw2, hlt⟩ := hd
  have hov := ovl_cons hinv hints
  obtain ⟨hl, l, hloop, hle⟩ := (wholeInterval_cons a (a + w) i0 rest).1 hwi
  have hae : a < a + w := Nat.lt_add_of_pos_right hw1
  -- the first interval reaches down to `a`: what is cut of it holds the first bytes; the others tile the rest
  have h0 := cutOf_reads hinv.1 a (a + w) hae hov.mem (hinv.2 i0 hov.mem) hov.low hov.high
  rw [Nat.max_eq_left hl] at h0
  have hk : a + (min (a + w) i0.high - a) = min i0.high (a + w) := by
    rw [Nat.add_sub_cancel' (Nat.le_min.2 ⟨Nat.le_add_right a w, Nat.le_of_lt hov.high⟩), Nat.min_comm]
  refine foldl_or_tiles (ex := cutOf a (a + w)) (fun ρ _ => byteAt_lt ρ _) (n := 8) hbits rest _ (min (a + w) i0.high - a) (fun o ho => ?_) (fun o ho acc => ?_)
    (hk ▸ tiles_of_wholeLoop a (a + w) rest i0.high hloop hle hov.walk (Nat.le_of_lt hov.high))
    (fun hr => ?_) h0.eval
  · obtain ⟨hot, ho1, ho2⟩ := hov.tail o ho
    have hg := hinv.2 o hot
    exact ⟨Nat.sub_pos_of_lt (Nat.lt_min.2 ⟨Nat.max_lt.2 ⟨hae, ho1⟩, Nat.max_lt.2 ⟨ho2, hg.1⟩⟩),
      cutOf_reads hinv.1 a (a + w) hae hot hg ho1 ho2⟩
  · have hlt : o.low - a < w := Nat.sub_lt_left_of_lt_add
      (Nat.le_of_lt (Nat.lt_of_lt_of_le hov.high (hov.walk.le_low o ho))) (hov.tail o ho).2.1
    rw [glue, Nat.max_eq_right (Nat.le_of_lt (Nat.lt_of_lt_of_le hov.high (hov.walk.le_low o ho))),
      Nat.mod_eq_of_lt (by clear hk h0; omega)]
  · -- no other interval: the first reaches up to the end of the range
    subst hr
    cases hloop
    rw [h0.width, Nat.min_eq_left hle, Nat.add_sub_cancel_left]

theorem load_closedWf (t : Tree) (hinv : Inv t) (hex : ∀ kv ∈ t, ClosedWf kv.val.ex)
    {a w : Nat} (hd : InDom a w) {e : Expr} (he : load t a w = .ok (some e)) :
    ClosedWf e := by
  have hc := load_cases t hinv hd
  have hw := hd.wok
  have hp : ∀ o ∈ ovl t a (a + w), ClosedWf (cutOf a (a + w) o) :=
    fun o ho => by
      obtain ⟨hot, hl, hh⟩ := mem_ovl.1 ho
      have hg := inter_good (hinv.2 o hot) hl hh (Nat.lt_add_of_pos_right hd.1)
      exact slice_closedWf (hex o hot) hg.2.2.1 (good_wok hg)
  rcases hc with ⟨hl, -⟩ | ⟨i0, rest, hints, -, hl⟩
  · cases hl.symm.trans he
  cases hl.symm.trans he
  exact List.foldlRecOn rest _ (hp i0 (hints ▸ List.mem_cons_self)) fun acc h o ho =>
    closedWf_bitOr h (closedWf_binary (hp o (hints ▸ List.mem_cons_of_mem _ ho))
      (closedWf_constUint _ (by decide)) .lsh hw) hw

end Mltwist.Lemmas.Sparse
