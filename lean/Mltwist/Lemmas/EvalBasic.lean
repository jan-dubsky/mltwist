import Mltwist.Spec.Gadgets
import Mltwist.Lemmas.Bytes
import Mltwist.Lemmas.TwosComplement
/-
What the gadget proofs (C11), the transformations (C09, C12) and the lifting proofs use of the reference evaluator
`Expr.eval`, in five parts: the evaluator itself (the equations of `evalBin`, value bounds `eval_lt`, `trunc_eval_width`);
the NAND algebra on naturals, by bits (`nandW_*`); two's complement at byte widths; the bit arithmetic of the sign and
shift gadgets; two facts about `ite`.
`Spec.ofInt w` and `toInt w` are `wrap (8 * w)` and `sx (8 * w)` of `TwosComplement` (`ofInt_eq_wrap`, by `rfl`;
`toInt_eq_sx`): what holds at every bit width is proved there, the `ofInt_*` lemmas here are its instances in the form in
which `rw` finds them, and sign extension and the arithmetic shift are stated at bit level (`sext_bridge`, `rsha_bridge`).
In lemma names `M` is the modulus `2^(8w)` (`Spec.M w`) and `H` its half `2^(8w-1)`, the weight of the sign bit.
-/
namespace Mltwist.Lemmas.RiscvLift

/-- "width OK": in range for a Go `expr.Width` -/
def WOK (w : Nat) : Prop := 1 ≤ w ∧ w ≤ 255

instance (w : Nat) : Decidable (WOK w) := by unfold WOK; infer_instance

/-- What the proofs use of the value of the bound.  The bit count fits `uint16`: the shift amounts of the gadgets, of
`cut.go` and of `overlay.go` (`Bits()`) are two-byte constants. -/
theorem WOK.bits_lt_two_pow16 {w : Nat} (h : WOK w) : 8 * w < 2 ^ 16 :=
  Nat.lt_of_le_of_lt (Nat.mul_le_mul_left 8 h.2) (by decide)

/-- a shift by `8 * w` or more is within the reach of a `uint64` amount (`shiftUint64`) -/
theorem WOK.bits_lt_two_pow64 {w : Nat} (h : WOK w) : 8 * w < 2 ^ 64 :=
  Nat.lt_trans h.bits_lt_two_pow16 (by decide)

/-- a width converts to `uint64` exactly (`checkAccess`) -/
theorem WOK.lt_two_pow64 {w : Nat} (h : WOK w) : w < 2 ^ 64 :=
  Nat.lt_of_le_of_lt (Nat.le_mul_of_pos_left w (by decide)) h.bits_lt_two_pow64

end Mltwist.Lemmas.RiscvLift

namespace Mltwist.Lemmas.EvalBasic
open Mltwist
open Mltwist.Lemmas.Bytes (trunc_lt' trunc_of_lt trunc_trunc trunc_zero two_pow_sub_mul)
open Mltwist.Spec.Rv (wrap sx sra)
open Mltwist.Lemmas.TwosComplement

theorem M_eq_two_H {w : Nat} (hw : 1 ≤ w) : 2 ^ (8 * w) = 2 * 2 ^ (8 * w - 1) :=
  (Nat.two_pow_pred_mul_two (by omega)).symm.trans (Nat.mul_comm _ _)

theorem H_lt_M {w : Nat} (hw : 1 ≤ w) : 2 ^ (8 * w - 1) < 2 ^ (8 * w) :=
  Nat.pow_lt_pow_right (by decide) (by omega)

@[simp] theorem eval_zero (ρ : Env) : Expr.zero.eval ρ = 0 := by
  simp [Expr.zero, Expr.eval, leToNat]

@[simp] theorem eval_one (ρ : Env) : Expr.one.eval ρ = 1 := by
  simp [Expr.one, Expr.eval, leToNat]

@[simp] theorem eval_binary (ρ : Env) (op : BinOp) (a b : Expr) (w : Nat) :
    (Expr.binary op a b w).eval ρ = evalBin op w (trunc w (a.eval ρ)) (trunc w (b.eval ρ)) := rfl

@[simp] theorem eval_less (ρ : Env) (a b t f : Expr) (w : Nat) :
    (Expr.less a b t f w).eval ρ =
      if trunc w (a.eval ρ) < trunc w (b.eval ρ) then trunc w (t.eval ρ) else trunc w (f.eval ρ) :=
  rfl

theorem evalBin_add (w x y : Nat) : evalBin .add w x y = (x + y) % 2 ^ (8 * w) := rfl

theorem evalBin_mul (w x y : Nat) : evalBin .mul w x y = (x * y) % 2 ^ (8 * w) := rfl

theorem evalBin_nand (w x y : Nat) : evalBin .nand w x y = nandW w x y := rfl

theorem evalBin_div (w x y : Nat) : evalBin .div w x y = if y = 0 then 2 ^ (8 * w) - 1 else x / y := rfl

theorem evalBin_lsh {w x s : Nat} (h : s < 8 * w) : evalBin .lsh w x s = x * 2 ^ s % 2 ^ (8 * w) :=
  if_neg (Nat.not_le.2 h)

theorem evalBin_lsh_of_ge {w x s : Nat} (h : 8 * w ≤ s) : evalBin .lsh w x s = 0 := if_pos h

theorem evalBin_rsh {w x s : Nat} (h : s < 8 * w) : evalBin .rsh w x s = x / 2 ^ s :=
  if_neg (Nat.not_le.2 h)

theorem evalBin_rsh_of_ge {w x s : Nat} (h : 8 * w ≤ s) : evalBin .rsh w x s = 0 := if_pos h

/-- the mask constants of the gadgets: `1 << s` -/
theorem evalBin_one_lsh {w s : Nat} (h : s < 8 * w) : evalBin .lsh w 1 s = 2 ^ s := by
  rw [evalBin_lsh h, Nat.one_mul, Nat.mod_eq_of_lt (Nat.pow_lt_pow_right (by decide) h)]

/-- adding the constant zero at width `x` is a width adapter: it cuts (or zero-extends) to `x` bytes -/
theorem eval_add_zero (ρ : Env) (a : Expr) (x : Nat) :
    (Expr.binary .add a (.const [0]) x).eval ρ = trunc x (a.eval ρ) := by
  rw [eval_binary, evalBin_add, show (Expr.const [0]).eval ρ = 0 from rfl, trunc_zero, Nat.add_zero]
  exact trunc_trunc x _

theorem nandW_lt (w x y : Nat) : nandW w x y < 2 ^ (8 * w) := by
  have := Nat.two_pow_pos (8 * w)
  unfold nandW; omega

theorem evalBin_lt (op : BinOp) (w x y : Nat) (hx : x < 2 ^ (8 * w)) :
    evalBin op w x y < 2 ^ (8 * w) := by
  have hM := Nat.two_pow_pos (8 * w)
  cases op with
  | add | mul => exact Nat.mod_lt _ hM
  | nand => exact nandW_lt w x y
  | lsh =>
    rw [evalBin]
    split
    · exact hM
    · exact Nat.mod_lt _ hM
  | rsh =>
    rw [evalBin]
    split
    · exact hM
    · exact Nat.lt_of_le_of_lt (Nat.div_le_self _ _) hx
  | div =>
    rw [evalBin]
    split
    · omega
    · exact Nat.lt_of_le_of_lt (Nat.div_le_self _ _) hx

theorem loadBytes_lt (mem : Nat → Nat) (a w : Nat) : loadBytes mem a w < 2 ^ (8 * w) := by
  induction w generalizing a with
  | zero => simp [loadBytes]
  | succ w ih =>
    have h1 := ih (a + 1)
    have h2 : mem (a % 2 ^ 64) % 256 < 256 := Nat.mod_lt _ (by decide)
    simp only [loadBytes, Bytes.pow8_succ]
    omega

theorem eval_lt (ρ : Env) (e : Expr) : e.eval ρ < 2 ^ (8 * e.width) := by
  cases e with
  | const bs => exact Bytes.leToNat_lt bs
  | binary op a b w => exact evalBin_lt op w _ _ (trunc_lt' _ _)
  | less a b t f w =>
    simp only [eval_less, Expr.width]
    split <;> exact trunc_lt' _ _
  | memLoad k a w => exact loadBytes_lt _ _ _
  | regLoad k w => exact trunc_lt' _ _

theorem trunc_eval_width (ρ : Env) (e : Expr) : trunc e.width (e.eval ρ) = e.eval ρ :=
  trunc_of_lt (eval_lt ρ e)

/-- an `n`-byte constant holding `k` (`Tools.constUint k n`, `Riscv.constFromUint n k`), cut to `w` bytes, is `k` if `k` fits both -/
theorem trunc_eval_const (ρ : Env) {k n w : Nat} (hn : k < 2 ^ (8 * n)) (hw : k < 2 ^ (8 * w)) :
    trunc w ((Expr.const (natToLE n k)).eval ρ) = k :=
  (congrArg (trunc w) ((Bytes.leToNat_natToLE n k).trans (Nat.mod_eq_of_lt hn))).trans (trunc_of_lt hw)

theorem trunc_ite (w : Nat) (c : Prop) [Decidable c] (a b : Nat) :
    trunc w (if c then trunc w a else trunc w b) = if c then trunc w a else trunc w b := by
  split <;> exact trunc_trunc _ _

theorem trunc_le (w x : Nat) : trunc w x ≤ x := Nat.mod_le _ _

theorem testBit_cpl {n x : Nat} (h : x < 2 ^ n) (i : Nat) :
    (2 ^ n - 1 - x).testBit i = (decide (i < n) && !x.testBit i) := by
  have : 2 ^ n - 1 - x = 2 ^ n - (x + 1) := by omega
  rw [this, Nat.testBit_two_pow_sub_succ h]

theorem testBit_of_lt {n x i : Nat} (h : x < 2 ^ n) (hi : n ≤ i) : x.testBit i = false :=
  Nat.testBit_lt_two_pow (Nat.lt_of_lt_of_le h (Nat.pow_le_pow_right (by decide) hi))

theorem testBit_nandW {w x : Nat} (y : Nat) (hx : x < 2 ^ (8 * w)) (i : Nat) :
    (nandW w x y).testBit i = (decide (i < 8 * w) && !(x.testBit i && y.testBit i)) := by
  have : x &&& y < 2 ^ (8 * w) := Nat.lt_of_le_of_lt Nat.and_le_left hx
  unfold nandW
  rw [testBit_cpl this, Nat.testBit_and]

theorem nandW_ones {w x : Nat} (hx : x < 2 ^ (8 * w)) :
    nandW w x (2 ^ (8 * w) - 1) = 2 ^ (8 * w) - 1 - x := by
  unfold nandW
  rw [Nat.and_two_pow_sub_one_eq_mod, Nat.mod_eq_of_lt hx]

theorem nandW_zero_zero (w : Nat) : nandW w 0 0 = 2 ^ (8 * w) - 1 := by
  simp [nandW]

theorem cpl_nandW {w x : Nat} (y : Nat) (hx : x < 2 ^ (8 * w)) :
    2 ^ (8 * w) - 1 - nandW w x y = x &&& y := by
  have : x &&& y < 2 ^ (8 * w) := Nat.lt_of_le_of_lt Nat.and_le_left hx
  unfold nandW; omega

theorem nandW_cpl_cpl {w x y : Nat} (hx : x < 2 ^ (8 * w)) (hy : y < 2 ^ (8 * w)) :
    nandW w (2 ^ (8 * w) - 1 - x) (2 ^ (8 * w) - 1 - y) = x ||| y := by
  apply Nat.eq_of_testBit_eq
  intro i
  have h1 : 2 ^ (8 * w) - 1 - x < 2 ^ (8 * w) := by have := Nat.two_pow_pos (8 * w); omega
  rw [testBit_nandW _ h1, testBit_cpl hx, testBit_cpl hy, Nat.testBit_or]
  by_cases hi : i < 8 * w
  · simp [hi]
  · simp [hi, testBit_of_lt hx (Nat.le_of_not_lt hi), testBit_of_lt hy (Nat.le_of_not_lt hi)]

theorem nandW_xor {w x y : Nat} (hx : x < 2 ^ (8 * w)) (hy : y < 2 ^ (8 * w)) :
    nandW w (nandW w x (nandW w x y)) (nandW w y (nandW w x y)) = x ^^^ y := by
  apply Nat.eq_of_testBit_eq
  intro i
  rw [testBit_nandW _ (nandW_lt _ _ _), testBit_nandW _ hx, testBit_nandW _ hy,
    testBit_nandW _ hx, Nat.testBit_xor]
  by_cases hi : i < 8 * w
  · simp [hi]
    cases x.testBit i <;> cases y.testBit i <;> rfl
  · simp [hi, testBit_of_lt hx (Nat.le_of_not_lt hi), testBit_of_lt hy (Nat.le_of_not_lt hi)]

theorem ofInt_eq_wrap (W : Nat) (i : Int) : Spec.ofInt W i = wrap (8 * W) i := rfl

theorem ofInt_lt (w : Nat) (i : Int) : Spec.ofInt w i < 2 ^ (8 * w) := wrap_lt (8 * w) i

theorem ofInt_of_nonneg {w : Nat} {i : Int} (h0 : 0 ≤ i) (h1 : i < ((2 ^ (8 * w) : Nat) : Int)) :
    Spec.ofInt w i = i.toNat := wrap_of_nonneg h0 h1

theorem ofInt_of_neg {w : Nat} {i : Int} (h0 : -((2 ^ (8 * w) : Nat) : Int) ≤ i) (h1 : i < 0) :
    Spec.ofInt w i = (i + ((2 ^ (8 * w) : Nat) : Int)).toNat := wrap_of_neg h0 h1

theorem ofInt_natCast (w x : Nat) : Spec.ofInt w (x : Int) = trunc w x := wrap_natCast (8 * w) x

theorem ofInt_neg_natCast (w x : Nat) :
    Spec.ofInt w (-(x : Int)) = Spec.ofInt w (-((trunc w x : Nat) : Int)) := by
  refine (wrap_congr ?_).symm
  rw [trunc, Int.natCast_emod, ← Int.zero_sub, ← Int.zero_sub (x : Int), Int.sub_emod_emod]

theorem ofInt_mul (w : Nat) (i j : Int) :
    (Spec.ofInt w i * Spec.ofInt w j) % 2 ^ (8 * w) = Spec.ofInt w (i * j) := wrap_mul (8 * w) i j

theorem toInt_eq (w x : Nat) :
    toInt w x = if x < 2 ^ (8 * w - 1) then (x : Int) else (x : Int) - ((2 ^ (8 * w) : Nat) : Int) :=
  rfl

theorem toInt_eq_sx {W x : Nat} (hx : x < 2 ^ (8 * W)) : toInt W x = sx (8 * W) x := by
  rw [sx_eq hx]; rfl

theorem toInt_neg_iff {w x : Nat} (hx : x < 2 ^ (8 * w)) : toInt w x < 0 ↔ 2 ^ (8 * w - 1) ≤ x := by
  rw [toInt_eq]
  split <;> omega

theorem toInt_inj {w x y : Nat} (hx : x < 2 ^ (8 * w)) (hy : y < 2 ^ (8 * w))
    (h : toInt w x = toInt w y) : x = y := by
  rw [toInt_eq_sx hx, toInt_eq_sx hy] at h
  have := congrArg (wrap (8 * w)) h
  rwa [wrap_sx, wrap_sx, Nat.mod_eq_of_lt hx, Nat.mod_eq_of_lt hy] at this

theorem toInt_eq_zero_iff {w : Nat} {x : Nat} (hx : x < 2 ^ (8 * w)) :
    toInt w x = 0 ↔ x = 0 :=
  ⟨fun h => toInt_inj hx (Nat.two_pow_pos _) (h.trans (by simp [toInt])), fun h => by subst h; simp [toInt]⟩

theorem natAbs_toInt_lt {w : Nat} (hw : 1 ≤ w) {x : Nat} (hx : x < 2 ^ (8 * w)) :
    (toInt w x).natAbs < 2 ^ (8 * w) := by
  have hMH := M_eq_two_H hw
  rw [toInt_eq]
  split <;> omega

/-! `neg_eq`, `sub_eq`, `abs_eq` put the `Spec` functions into piecewise-linear form: what `omega` can use. -/

theorem neg_eq (w X : Nat) :
    Spec.neg w X = if trunc w X = 0 then 0 else 2 ^ (8 * w) - trunc w X := by
  have hx := trunc_lt' w X
  unfold Spec.neg
  rw [ofInt_neg_natCast]
  split
  · next h => rw [h]; simp [Spec.ofInt]
  · next h =>
    rw [ofInt_of_neg (by omega) (by omega)]
    omega

theorem sub_eq {w x y : Nat} (hx : x < 2 ^ (8 * w)) (hy : y < 2 ^ (8 * w)) :
    Spec.sub w x y = if y ≤ x then x - y else x + 2 ^ (8 * w) - y := by
  unfold Spec.sub
  split
  · next h => rw [ofInt_of_nonneg (by omega) (by omega)]; omega
  · next h => rw [ofInt_of_neg (by omega) (by omega)]; omega

theorem sub_eq_wrap (W x y : Nat) : Spec.sub W x y = wrap (8 * W) ((x : Int) - y) := rfl

theorem sub_of_le {w x y : Nat} (hyx : y ≤ x) (hx : x < 2 ^ (8 * w)) : Spec.sub w x y = x - y := by
  rw [sub_eq hx (Nat.lt_of_le_of_lt hyx hx), if_pos hyx]

theorem abs_eq_natAbs {w : Nat} (hw : 1 ≤ w) (X : Nat) :
    Spec.abs w X = (toInt w (trunc w X)).natAbs := by
  have hx := trunc_lt' w X
  have hMH := M_eq_two_H hw
  unfold Spec.abs
  rw [ofInt_natCast, trunc_of_lt]
  rw [toInt_eq]
  split <;> omega

theorem abs_eq {w : Nat} (hw : 1 ≤ w) (X : Nat) :
    Spec.abs w X =
      if trunc w X < 2 ^ (8 * w - 1) then trunc w X else 2 ^ (8 * w) - trunc w X := by
  have hx := trunc_lt' w X
  rw [abs_eq_natAbs hw, toInt_eq]
  split <;> omega

theorem mod_two_pow_succ (x b : Nat) :
    x % 2 ^ (b + 1) = x % 2 ^ b + 2 ^ b * (if x.testBit b then 1 else 0) := by
  rw [Nat.testBit_eq_decide_div_mod_eq, Nat.pow_succ, Nat.mod_mul]
  have : x / 2 ^ b % 2 < 2 := Nat.mod_lt _ (by decide)
  by_cases h : x / 2 ^ b % 2 = 1
  · simp [h]
  · have h0 : x / 2 ^ b % 2 = 0 := by omega
    simp [h0]

/-- gadget sign extension (bit index, bytes) is the reference's (bit count, bits) -/
theorem sext_bridge {W bit : Nat} (hbit : bit < 8 * W) (x : Nat) :
    Spec.sext W x bit = Spec.Rv.sext (8 * W) (bit + 1) x := by
  have hS : 2 ^ bit < 2 ^ (8 * W) := Nat.pow_lt_pow_right (by decide) hbit
  have hlo : x % 2 ^ bit < 2 ^ bit := Nat.mod_lt _ (Nat.two_pow_pos bit)
  have h2 : 2 ^ (bit + 1) = 2 * 2 ^ bit := Nat.pow_succ'
  unfold Spec.sext Spec.Rv.sext Spec.M sx
  rw [mod_two_pow_succ x bit, Nat.add_sub_cancel]
  cases x.testBit bit
  · rw [if_neg Bool.false_ne_true, if_neg Bool.false_ne_true, Nat.mul_zero, Nat.add_zero, if_pos hlo,
      wrap_natCast, Nat.mod_eq_of_lt (Nat.lt_trans hlo hS)]
  · rw [if_pos rfl, if_pos rfl, Nat.mul_one, if_neg (by omega),
      Nat.mod_eq_of_lt (a := 2 ^ (8 * W) - 2 ^ bit + x % 2 ^ bit) (by omega)]
    apply eq_wrap_of (by omega)
    have : ((x % 2 ^ bit + 2 ^ bit : Nat) : Int) - ((2 ^ (bit + 1) : Nat) : Int)
        = ((2 ^ (8 * W) - 2 ^ bit + x % 2 ^ bit : Nat) : Int) + (-1) * ((2 ^ (8 * W) : Nat) : Int) := by
      omega
    rw [this, Int.add_mul_emod_self_right]

theorem sext_top {w1 W x : Nat} (h1 : 1 ≤ w1) (h2 : w1 ≤ W) (hx : x < 2 ^ (8 * w1)) :
    Spec.sext W x (8 * w1 - 1) = Spec.ofInt W (toInt w1 x) := by
  rw [sext_bridge (by omega), toInt_eq_sx hx, Nat.sub_add_cancel (by omega)]
  rfl

theorem rsha_bridge {W x sh : Nat} (hx : x < 2 ^ (8 * W)) (hsh : sh < 8 * W) :
    Spec.rsha W x sh = sra (8 * W) x sh := by
  unfold Spec.rsha sra
  simp only [trunc_of_lt hx]
  rw [if_neg (by omega), toInt_eq_sx hx]
  rfl

theorem testBit_top {x k : Nat} (h : x < 2 * 2 ^ k) : x.testBit k = decide (2 ^ k ≤ x) := by
  by_cases hx : x < 2 ^ k
  · simp [Nat.testBit_lt_two_pow hx, Nat.not_le.mpr hx]
  · have hx' : 2 ^ k ≤ x := Nat.le_of_not_lt hx
    have : x = 2 ^ k + (x - 2 ^ k) := by omega
    rw [this, Nat.testBit_two_pow_add_eq, Nat.testBit_lt_two_pow (by omega)]
    simp

theorem and_two_pow (x k : Nat) : x &&& 2 ^ k = if x.testBit k then 2 ^ k else 0 := by
  apply Nat.eq_of_testBit_eq
  intro i
  rw [Nat.testBit_and, Nat.testBit_two_pow]
  by_cases hi : k = i
  · subst hi
    cases h : x.testBit k <;> simp
  · cases h : x.testBit k <;> simp [hi]

theorem and_H {x k : Nat} (h : x < 2 * 2 ^ k) : x &&& 2 ^ k = if x < 2 ^ k then 0 else 2 ^ k := by
  rw [and_two_pow, testBit_top h]
  by_cases hx : x < 2 ^ k
  · simp [hx, Nat.not_le.mpr hx]
  · simp [hx, Nat.le_of_not_lt hx]

theorem or_high_mask {x n s : Nat} (hx : x < 2 ^ n) (hs : s ≤ n) :
    x ||| (2 ^ n - 1 - (2 ^ s - 1)) = 2 ^ n - 2 ^ s + x % 2 ^ s := by
  have hS : 2 ^ s ≤ 2 ^ n := Nat.pow_le_pow_right (by decide) hs
  have hSpos := Nat.two_pow_pos s
  have e1 : 2 ^ n - 2 ^ s = 2 ^ s * (2 ^ (n - s) - 1) := by
    rw [Nat.mul_sub, ← Nat.pow_add, Nat.mul_one]; congr 2; omega
  have e2 : 2 ^ n - 1 - (2 ^ s - 1) = 2 ^ n - 2 ^ s := by omega
  rw [e1, Nat.two_pow_add_eq_or_of_lt (Nat.mod_lt _ hSpos), ← e1, ← e2]
  apply Nat.eq_of_testBit_eq; intro i
  rw [Nat.testBit_or, Nat.testBit_or, testBit_cpl (by omega), Nat.testBit_two_pow_sub_one,
    Nat.testBit_mod_two_pow]
  by_cases h1 : i < s
  · have : i < n := by omega
    simp [h1, this]
  · by_cases h2 : i < n
    · simp [h1, h2]
    · simp [h1, h2, testBit_of_lt hx (Nat.le_of_not_lt h2)]

theorem pred_div {Q P : Nat} (hQ : 0 < Q) (hP : 0 < P) : (Q * P - 1) / P = Q - 1 := by
  obtain ⟨k, rfl⟩ : ∃ k, Q = k + 1 := ⟨Q - 1, by omega⟩
  have h : (k + 1) * P = k * P + P := Nat.succ_mul k P
  apply Nat.div_eq_of_lt_le
  · simp only [Nat.add_sub_cancel]; rw [h]; omega
  · simp only [Nat.add_sub_cancel]; omega

theorem shr_lt {n s x : Nat} (h : s ≤ n) (hx : x < 2 ^ n) : x / 2 ^ s < 2 ^ (n - s) := by
  rw [Nat.div_lt_iff_lt_mul (Nat.two_pow_pos s), two_pow_sub_mul h]; exact hx

theorem ones_shr {n s : Nat} (h : s ≤ n) : (2 ^ n - 1) / 2 ^ s = 2 ^ (n - s) - 1 := by
  rw [← two_pow_sub_mul h]; exact pred_div (Nat.two_pow_pos _) (Nat.two_pow_pos _)

/-- or-ing the `s` sign bits onto a value shifted right by `s` adds them -/
theorem shr_or_fill {n s x : Nat} (h : s ≤ n) (hx : x < 2 ^ n) :
    x / 2 ^ s ||| (2 ^ n - 2 ^ (n - s)) = x / 2 ^ s + (2 ^ n - 2 ^ (n - s)) := by
  have e : 2 ^ n - 2 ^ (n - s) = 2 ^ (n - s) * (2 ^ s - 1) := by
    rw [Nat.mul_sub, Nat.mul_one, two_pow_sub_mul h]
  rw [e, Nat.or_comm, Nat.add_comm, Nat.two_pow_add_eq_or_of_lt (shr_lt h hx)]

/-- floor division of a negative two's complement reading by `2^s` -/
theorem sub_two_pow_ediv {n s : Nat} (x : Nat) (h : s ≤ n) :
    ((x : Int) - ((2 ^ n : Nat) : Int)) / ((2 ^ s : Nat) : Int)
      = ((x / 2 ^ s : Nat) : Int) - ((2 ^ (n - s) : Nat) : Int) := by
  have hP := Nat.two_pow_pos s
  have : (x : Int) - ((2 ^ n : Nat) : Int)
      = (x : Int) + (-((2 ^ (n - s) : Nat) : Int)) * ((2 ^ s : Nat) : Int) := by
    rw [← two_pow_sub_mul h, Int.natCast_mul, Int.neg_mul]; omega
  rw [this, Int.add_mul_ediv_right _ _ (by omega), Int.natCast_ediv]; omega

theorem tdiv_eq (a b : Int) :
    Int.tdiv a b = if (decide (a < 0) != decide (b < 0)) then -((a.natAbs / b.natAbs : Nat) : Int)
      else ((a.natAbs / b.natAbs : Nat) : Int) := by
  obtain ⟨n, rfl | rfl⟩ := Int.eq_nat_or_neg a <;> obtain ⟨m, rfl | rfl⟩ := Int.eq_nat_or_neg b
  · have h1 : ¬ ((n : Int) < 0) := by omega
    have h2 : ¬ ((m : Int) < 0) := by omega
    simp only [h1, h2, decide_false, bne_self_eq_false, Bool.false_eq_true, if_false,
      Int.natAbs_natCast, Int.ofNat_tdiv]
  · have h1 : ¬ ((n : Int) < 0) := by omega
    simp only [Int.tdiv_neg, Int.natAbs_neg, Int.natAbs_natCast, ← Int.ofNat_tdiv, h1]
    by_cases hm : m = 0
    · subst hm; simp
    · simp [hm]
  · have h2 : ¬ ((m : Int) < 0) := by omega
    simp only [Int.neg_tdiv, Int.natAbs_neg, Int.natAbs_natCast, ← Int.ofNat_tdiv, h2]
    by_cases hn : n = 0
    · subst hn; simp
    · simp [hn]
  · simp only [Int.neg_tdiv, Int.tdiv_neg, Int.natAbs_neg, Int.natAbs_natCast, ← Int.ofNat_tdiv,
      Int.neg_neg]
    by_cases hn : n = 0
    · subst hn; simp
    · by_cases hm : m = 0
      · subst hm; simp
      · simp [Nat.pos_of_ne_zero hn, Nat.pos_of_ne_zero hm]

theorem ite_congr_prop {α : Type} {p q : Prop} [Decidable p] [Decidable q] (h : p ↔ q) (a b : α) :
    (if p then a else b) = if q then a else b := by
  by_cases hp : p
  · rw [if_pos hp, if_pos (h.mp hp)]
  · rw [if_neg hp, if_neg (fun hq => hp (h.mpr hq))]

/-- "less, or else equal" is "less or equal": the shape of `leu` and `les` -/
theorem ite_or {α : Type} {p q : Prop} [Decidable p] [Decidable q] (x y : α) :
    (if p then x else if q then x else y) = if p ∨ q then x else y := by
  by_cases hp : p <;> by_cases hq : q <;> simp [hp, hq]

end Mltwist.Lemmas.EvalBasic
