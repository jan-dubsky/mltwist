import Mltwist.Lemmas.RenderViews
import Mathlib.NumberTheory.Real.GoldenRatio
import Mathlib.Algebra.Order.Floor.Ring
/-
Proofs for C24: the integer condition `phiOK` of the cut `phiCut` read over the real numbers, with `φ` the golden
ratio (`math.Phi` of Go); C24 concludes `phiCut n = ⌊n / (φ + 1)⌋`.
-/
namespace Mltwist.Lemmas.Render
open Mltwist.Render Real

/-- The integer condition of the model is `k·(φ+1) ≤ n`.  With `φ + 1 = (3 + √5)/2` that is `k√5 ≤ 2n − 3k`, and
squaring (both sides non-negative) gives the form of the specification, `0 ≤ 2n − 3k ∧ 5k² ≤ (2n − 3k)²`. -/
theorem phiOK_iff_real (n k : Nat) : phiOK n k = true ↔ (k : ℝ) * (goldenRatio + 1) ≤ n := by
  have hs : √5 * √5 = 5 := Real.mul_self_sqrt (by norm_num)
  have h5 : (k * √5) * (k * √5) = 5 * k * k := by rw [mul_mul_mul_comm, hs, mul_comm, mul_assoc]
  have h0 : (0 : ℝ) ≤ k * √5 := mul_nonneg (Nat.cast_nonneg k) (Real.sqrt_nonneg 5)
  have hspec : phiOK n k = true ↔
      (0 : ℝ) ≤ 2 * n - 3 * k ∧ (5 * k * k : ℝ) ≤ (2 * n - 3 * k) * (2 * n - 3 * k) := by
    rw [← leDivPhiSq_iff, Spec.Render.leDivPhiSq, Bool.and_eq_true, decide_eq_true_eq, decide_eq_true_eq,
      ← @Int.cast_le ℝ, ← @Int.cast_le ℝ]
    push_cast
    rfl
  have e : (k : ℝ) * (goldenRatio + 1) = (3 * k + k * √5) / 2 := by unfold goldenRatio; ring
  rw [hspec, e, div_le_iff₀ two_pos, ← h5, mul_comm (n : ℝ) 2, ← le_sub_iff_add_le']
  exact ⟨fun h => (mul_self_le_mul_self_iff h0 h.1).2 h.2, fun h => ⟨h0.trans h, mul_self_le_mul_self h0 h⟩⟩

end Mltwist.Lemmas.Render
