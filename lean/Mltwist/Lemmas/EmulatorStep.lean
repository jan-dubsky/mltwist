import Mltwist.Lemmas.EmulatorEval
/-
Emulator (C03, C04): one `Step`.  From a state satisfying the invariant whose instruction pointer is known, `Step`
returns the error exactly when no instruction starts there and otherwise never panics: it succeeds when all its
accesses lie in the domain of C14 — first provider fills (the effects are evaluated against the pre-state), then the
program's writes (`Applied`), then the fall-through (`Steps`) — and returns the access error otherwise, leaving a state
that results from fills only and naming an access of the instruction that does not fit the address space (REPAIR F45;
`Stops`, `step_total`).  `Ready` (invariant + known instruction pointer) survives every step, also a failing one.
-/
namespace Mltwist.Lemmas.Emulator
open Mltwist Mltwist.State Mltwist.Overlay Mltwist.Emulator Mltwist.Spec.Overlay Mltwist.Interval
open Mltwist.Lemmas.State (Good)

/-- `Applied s efs s'`: `s'` results from `s` by the writes of the evaluated effects `efs`, in order (a memory write
carries the width bounds of the stored constant because `Inv` asks them of everything a memory holds: `inv_store`) -/
inductive Applied : State → List Effect → State → Prop where
  | nil (s : State) : Applied s [] s
  | reg {s s' : State} {efs : List Effect} (v : List UInt8) (k : String) (w : Nat) :
      Applied { s with regs := s.regs.store k (.const v) w } efs s' →
      Applied s (.regStore (.const v) k w :: efs) s'
  | mem {s s' : State} {efs : List Effect} (v : List UInt8) (key : String) (a : List UInt8) (w : Nat)
      (m' : MemMap) : InDom (leToNat a % 2 ^ 64) w → 1 ≤ v.length ∧ v.length ≤ 255 →
      s.mems.store key (leToNat a % 2 ^ 64) (.const v) w = .ok m' →
      Applied { s with mems := m' } efs s' → Applied s (.memStore (.const v) key (.const a) w :: efs) s'

/-- `recordOutput` over a list of effects -/
def recordAll : Report → List Effect → Option Report
  | r, [] => some r
  | r, ef :: efs =>
    match r.recordOutput ef with
    | none => none
    | some r' => recordAll r' efs

theorem valBytes_length (s : State) (e : Expr) : (valBytes s e).length = e.width := by
  unfold valBytes; exact Lemmas.Bytes.natToLE_length _ _

/-- the second loop of `Step`, over the effects evaluated in `s1` -/
theorem applyAll_spec (s1 : State) : ∀ (efs : List Effect) (s : State) (r : Report) (j : Bool), Inv s →
    (∀ ef ∈ efs, Effect.wfE ef) →
    (∀ v k x w, Effect.memStore v k x w ∈ efs → InDom (leToNat (valBytes s1 x) % 2 ^ 64) w) →
    ∃ s' r', applyAll (efs.map (evalEff s1)) s r j = .ok (s', r', j || efs.any isJump) ∧
      Applied s (efs.map (evalEff s1)) s' ∧ recordAll r (efs.map (evalEff s1)) = some r'
  | [], s, r, j, _, _, _ => ⟨s, r, by simp [applyAll], Applied.nil s, rfl⟩
  | ef :: efs, s, r, j, hi, hw, hd => by
    have hw' : ∀ x ∈ efs, Effect.wfE x := fun x hx => hw x (List.mem_cons_of_mem _ hx)
    have hd' := fun v k x w h => hd v k x w (List.mem_cons_of_mem _ h)
    cases ef with
    | regStore v k w =>
      obtain ⟨s', r', h1, h2, h3⟩ := applyAll_spec s1 efs _
        ({ r with regStores := assocSet k (valBytes s1 v) r.regStores }) (j || isJump (.regStore v k w))
        (inv_regStore hi (valBytes s1 v) k w) hw' hd'
      refine ⟨s', r', ?_, Applied.reg _ k w h2, ?_⟩
      · rw [Bool.or_assoc] at h1
        simp only [List.map_cons, evalEff, applyAll, Report.recordOutput, Lemmas.State.apply_regStore, List.any_cons]
        exact h1
      · simp only [List.map_cons, evalEff, recordAll, Report.recordOutput, h3]
    | memStore v key a w =>
      have hd0 := hd v key a w (List.mem_cons_self ..)
      have hv : 1 ≤ (valBytes s1 v).length ∧ (valBytes s1 v).length ≤ 255 := by
        rw [valBytes_length]; exact Lemmas.Transform.wf_width (hw _ (List.mem_cons_self ..)).1
      obtain ⟨m', g1, _⟩ := Lemmas.State.storable_store hi.good key _ (.const (valBytes s1 v)) w hd0
      obtain ⟨s', r', h1, h2, h3⟩ := applyAll_spec s1 efs { s with mems := m' }
        ({ r with memStores := r.memStores ++
          [⟨key, (Const.constUint 8 (valBytes s1 a)).1, Const.withWidth (valBytes s1 v) w⟩] })
        (j || isJump (.memStore v key a w)) (inv_store hi hd0 hv g1) hw' hd'
      refine ⟨s', r', ?_, Applied.mem _ key _ w m' hd0 hv g1 h2, ?_⟩
      · have ha := Lemmas.State.apply_memStore_const s (.const (valBytes s1 v)) key (.const (valBytes s1 a)) w _
          (Lemmas.Transform.constFold_const _)
        rw [g1] at ha
        rw [Bool.or_assoc] at h1
        simp only [List.map_cons, evalEff, applyAll, Report.recordOutput, ha, List.any_cons]
        exact h1
      · simp only [List.map_cons, evalEff, recordAll, Report.recordOutput, h3]

theorem Applied.stores {s s' : State} {efs : List Effect} (h : Applied s efs s') : Stores s s' := by
  induction h with
  | nil s => exact .refl s
  | reg v k w _ ih => exact (Stores.reg _ k v w).trans ih
  | mem v key a w m' hd hv hs _ ih => exact (Stores.mem hd hv hs).trans ih

theorem Applied.inv {s s' : State} {efs : List Effect} (h : Applied s efs s') (hi : Inv s) : Inv s' :=
  h.stores.inv hi

def writtenRegs : List Effect → List String
  | [] => []
  | .regStore _ k _ :: efs => k :: writtenRegs efs
  | .memStore .. :: efs => writtenRegs efs

theorem writtenRegs_map (s : State) (efs : List Effect) :
    writtenRegs (efs.map (evalEff s)) = writtenRegs efs := by
  induction efs with
  | nil => rfl
  | cons ef efs ih => cases ef <;> simp [writtenRegs, evalEff, ih]

/-- a byte lies in a range some memory store of the list writes (store address from a constant) -/
def WrittenByte (key : String) (x : Nat) : List Effect → Prop
  | [] => False
  | .regStore .. :: efs => WrittenByte key x efs
  | .memStore _ k a w :: efs =>
    (k = key ∧ ∃ ab, a = .const ab ∧ leToNat ab % 2 ^ 64 ≤ x ∧ x < leToNat ab % 2 ^ 64 + w) ∨ WrittenByte key x efs

theorem Applied.reg_frame {s s' : State} {efs : List Effect} (h : Applied s efs s') (k : String)
    (hk : k ∉ writtenRegs efs) : assocGet k s'.regs = assocGet k s.regs := by
  induction h with
  | nil s => rfl
  | @reg s s' efs v k2 w _ ih =>
    simp only [writtenRegs, List.mem_cons, not_or] at hk
    rw [ih hk.2]
    show assocGet k (RegMap.store _ _ _ _) = _
    rw [get_store_const, if_neg hk.1]
  | mem v key a w m' _ _ _ _ ih => exact ih hk

theorem Applied.byte_frame {s s' : State} {efs : List Effect} (h : Applied s efs s') (hi : Inv s) (key : String)
    (x : Nat) (hk : ¬ WrittenByte key x efs) : s'.mems.abs key x = s.mems.abs key x := by
  induction h with
  | nil s => rfl
  | reg v k w _ ih => exact ih (inv_regStore hi v k w) hk
  | @mem s s' efs v key2 a w m' hd hv hs _ ih =>
    simp only [WrittenByte, not_or] at hk
    rw [ih (inv_store hi hd hv hs) hk.2]
    show m'.abs key x = _
    rw [abs_store_const hi.good hd hs, if_neg]
    exact fun hr => hk.1 ⟨hr.1.symm, a, rfl, hr.2.1, hr.2.2⟩

theorem mustIP_spec {s : State} {c : List UInt8} (hip : assocGet ipKey s.regs = some (.const c)) :
    mustIP s = .ok (leToNat c % 2 ^ 64) := by
  unfold mustIP addrWidth
  rw [load_const hip]
  have hlt : leToNat (cw c 8) < 2 ^ (8 * 8) := by
    have := Lemmas.Bytes.leToNat_lt (cw c 8)
    rwa [cw_length] at this
  simp only [Lemmas.Const.constUint_spec 8 (cw c 8) (by omega), hlt, decide_true, if_true]
  rw [cw_value]
  show Except.ok (trunc 8 (leToNat c) % 2 ^ 64) = _
  unfold trunc
  rw [show (2 : Nat) ^ (8 * 8) = 2 ^ 64 from rfl, Nat.mod_mod]

/-- every memory access the step performs from `s` at the instruction `ins` lies in the domain of C14
(`1 ≤ w ≤ 255`, `addr + w < 2^64`): the loads during evaluation and the stores of the evaluated effects -/
def StepDom (p : Provider) (code : CodeView) (s : State) (ins : Ins) : Prop :=
  EffsDom p code ins.effects { st := s } ∧
  ∀ efs' c1, evalEffects p code ins.effects { st := s } = .ok (efs', c1) →
    ∀ v k a w, Effect.memStore v k (.const a) w ∈ efs' → InDom (leToNat a % 2 ^ 64) w

/-- every expression of the instruction is well formed (widths between 1 and 255) -/
def InsWF (ins : Ins) : Prop := ∀ ef ∈ ins.effects, Effect.wfE ef

/-- every store of the instruction has a width between 1 and 255 (`expr.Width` is `uint8`; no instruction of the
front end stores 0 bytes) -/
def InsSW (ins : Ins) : Prop := ∀ v k a w, Effect.memStore v k a w ∈ ins.effects → 1 ≤ w ∧ w ≤ 255

/-- `checkAccess` refuses the store, its address read from the state `s` -/
def storeBad (s : State) : Effect → Bool
  | .memStore _ _ a w => accessBad (leToNat (valBytes s a) % 2 ^ 64) w
  | .regStore .. => false

/-- the first loop of `Step` over the evaluated effects is the search for the first store that `checkAccess` refuses -/
theorem checkStores_eq (c : Ctx) (s : State) : ∀ efs : List Effect,
    checkStores c (efs.map (evalEff s)) =
      match efs.find? (storeBad s) with
      | some (.memStore _ _ a w) => .error (.access c (leToNat (valBytes s a) % 2 ^ 64) w)
      | _ => .ok ()
  | [] => rfl
  | .regStore v k w :: efs => checkStores_eq c s efs
  | .memStore v k a w :: efs => by
    simp only [List.map_cons, evalEff, checkStores, Lemmas.State.constUint8, List.find?_cons, storeBad]
    cases accessBad (leToNat (valBytes s a) % 2 ^ 64) w
    · exact checkStores_eq c s efs
    · rfl

theorem checkStores_spec (c : Ctx) (s : State) (efs : List Effect)
    (hw : ∀ v k a w, Effect.memStore v k a w ∈ efs → 1 ≤ w ∧ w ≤ 255) :
    (checkStores c (efs.map (evalEff s)) = .ok () ∧
      ∀ v k x w, Effect.memStore v k x w ∈ efs → InDom (leToNat (valBytes s x) % 2 ^ 64) w) ∨
    (∃ a w, checkStores c (efs.map (evalEff s)) = .error (.access c a w) ∧ 2 ^ 64 ≤ a + w ∧
      ∃ v k x, Effect.memStore v k x w ∈ efs ∧ a = leToNat (valBytes s x) % 2 ^ 64) := by
  rw [checkStores_eq]
  cases hf : efs.find? (storeBad s) with
  | none =>
    refine Or.inl ⟨rfl, fun v k x w hm => ?_⟩
    have hw0 := hw v k x w hm
    exact ⟨hw0.1, hw0.2, Nat.lt_of_not_le fun h => List.find?_eq_none.1 hf _ hm
      (accessBad_true (Nat.mod_lt _ (by decide)) (Nat.lt_of_le_of_lt hw0.2 (by decide)) h)⟩
  | some ef =>
    have hb : storeBad s ef = true := List.find?_some hf
    cases ef with
    | regStore v k w => cases hb
    | memStore v k x w =>
      refine Or.inr ⟨_, w, rfl, Nat.le_of_not_lt fun h => ?_, v, k, x, List.mem_of_find?_eq_some hf, rfl⟩
      rw [storeBad, accessBad_false h] at hb
      cases hb

/-- the fall-through of `Step` -/
def finish (ins : Ins) (jumped : Bool) (s : State) : State :=
  if jumped then s else { s with regs := s.regs.store ipKey (addrConst ins.end_) addrWidth }

theorem finish_stores (ins : Ins) (j : Bool) (s : State) : Stores s (finish ins j s) := by
  unfold finish
  split
  · exact .refl s
  · exact .reg s ipKey _ addrWidth

theorem finish_reg_frame (ins : Ins) (j : Bool) (s : State) {k : String} (hk : k ≠ ipKey) :
    assocGet k (finish ins j s).regs = assocGet k s.regs := by
  unfold finish
  split
  · rfl
  · show assocGet k (RegMap.store _ _ (.const _) _) = _
    rw [get_store_const, if_neg hk]

theorem finish_mems (ins : Ins) (j : Bool) (s : State) : (finish ins j s).mems = s.mems := by
  unfold finish; split <;> rfl

/-- `step` below the lookup: the right-hand side retypes the model's text (which has no name there), its last `if` as `finish` -/
theorem step_at (p : Provider) (code : CodeView) {s : State} {ip : Nat} {ins : Ins} (hip : mustIP s = .ok ip)
    (hl : code.lookup ip = some ins) :
    step p code s =
      match evalEffects p code ins.effects { st := s } with
      | .error e => recovered e
      | .ok (efs, c) =>
        match checkStores c efs with
        | .error e => recovered e
        | .ok () =>
          match applyAll efs c.st c.rep false with
          | .error e => .panic e
          | .ok (s', rep, jumped) => .ok (finish ins jumped s') rep c.log := by
  unfold step
  rw [hip]
  simp only [hl]
  rfl

theorem step_none (p : Provider) (code : CodeView) {s : State} {ip : Nat} (hip : mustIP s = .ok ip)
    (hl : code.lookup ip = none) : step p code s = .err := by
  unfold step
  rw [hip]
  simp only [hl]

/-- no instruction at the instruction pointer: `Step` returns the error, whatever else -/
theorem step_err (p : Provider) (code : CodeView) {s : State} {c : List UInt8}
    (hip : assocGet ipKey s.regs = some (.const c)) (hl : code.lookup (leToNat c % 2 ^ 64) = none) :
    ∃ o, step p code s = o ∧ (match o with | .err => True | _ => False) :=
  ⟨.err, step_none p code (mustIP_spec hip) hl, trivial⟩

/-- What a successful step at `ins` does: all its accesses lie in the domain; the provider fills `log` lead from `s` to
`s1`; all effects are evaluated against `s1`, which holds everything they read; the writes of the evaluated effects lead
from `s1` to `s2`; then the fall-through.  The report is that of the reads in `s1` and of the evaluated effects.
`applied`, `report` keep the instruction's order (C03/C04 retype them); another order of application in `Step` is met below
them: `applyAll_spec` is for any list. -/
structure Steps (p : Provider) (code : CodeView) (s : State) (ins : Ins) (s1 s2 : State) (log : List Req) (rep : Report) :
    Prop where
  dom : StepDom p code s ins
  eq : step p code s = .ok (finish ins (ins.effects.any isJump) s2) rep log
  fill : Fill p s log s1
  inv1 : Inv s1
  applied : Applied s1 (ins.effects.map (evalEff s1)) s2
  present : PresentAll s1 (evalOrders ins.effects)
  report : recordAll (noteExprs s1 {} (evalOrders ins.effects)) (ins.effects.map (evalEff s1)) = some rep
  reqs : ∀ r ∈ log, EvalsReq code (evalOrders ins.effects) r

/-- What a step at `ins` that `checkAccess` stops leaves: the state `s1` results from `s` by the provider fills `log`
ONLY: no effect was applied, the instruction pointer was not written.  The access error names an access `[a, a+w)` of
the instruction that does not fit the address space (`at_`): a load node of one of its expressions (`LoadAt`), or one of
its stores, whose address expression `s1` holds entirely; `a` is the value it has there. -/
structure Stops (p : Provider) (code : CodeView) (s : State) (ins : Ins) (s1 : State) (log : List Req) (a w : Nat) :
    Prop where
  eq : step p code s = .accessErr s1 log a w
  fill : Fill p s log s1
  inv1 : Inv s1
  bad : 2 ^ 64 ≤ a + w
  reqs : ∀ r ∈ log, EvalsReq code (evalOrders ins.effects) r
  at_ : LoadAt (evalOrders ins.effects) s1 a w ∨
    ∃ v k x, Effect.memStore v k x w ∈ ins.effects ∧ Present s1 x ∧ a = leToNat (valBytes s1 x) % 2 ^ 64

/-- how a step at `ins` ends: it succeeds exactly inside the domain condition `StepDom`, and returns the access error
otherwise -/
inductive StepAt (p : Provider) (code : CodeView) (s : State) (ins : Ins) : Prop where
  | steps {s1 s2 : State} {log : List Req} {rep : Report} : Steps p code s ins s1 s2 log rep → StepAt p code s ins
  | stops {s1 : State} {log : List Req} {a w : Nat} : ¬ StepDom p code s ins → Stops p code s ins s1 log a w →
      StepAt p code s ins

/-- an instruction at the instruction pointer, any accesses (REPAIR F45): `Step` never panics -/
theorem step_total (p : Provider) (code : CodeView) {s : State} {ip : Nat} {ins : Ins} (hi : Inv s)
    (hip : mustIP s = .ok ip) (hl : code.lookup ip = some ins) (hw : InsWF ins) (hsw : InsSW ins) :
    StepAt p code s ins := by
  rcases evalEffects_ends p code ins.effects { st := s } (fun _ h => h) hi hw with
    @⟨_, c1, h1, hfs, o1, hd1⟩ | @⟨c1, a0, w0, h1, hfs, ⟨hbad, hat⟩, hnd⟩
  all_goals obtain ⟨hf, hq⟩ := hfs.start
  rotate_left
  · -- a load leaves the address space
    refine .stops (fun hd => hnd hd.1) ⟨?_, hf, hf.stores.inv hi, hbad, hq, Or.inl hat⟩
    rw [step_at p code hip hl]
    simp only [h1, recovered]
  -- the effects were evaluated against the state the fills lead to
  obtain ⟨hpres, hrep, rfl⟩ := o1.up _ (SExt.refl _)
  rcases checkStores_spec c1 c1.st ins.effects hsw with ⟨hcs, hdom⟩ | ⟨a0, w0, hcs, hbad, v, k, x, hm, rfl⟩
  rotate_left
  · -- a store leaves the address space
    refine .stops (fun hd => ?_) ⟨?_, hf, o1.inv, hbad, hq,
      Or.inr ⟨v, k, x, hm, hpres x (List.mem_flatMap.2 ⟨_, hm, by simp [evalOrder]⟩), rfl⟩⟩
    · have := (hd.2 _ c1 h1 (.const (valBytes c1.st v)) k (valBytes c1.st x) w0 (List.mem_map.2 ⟨_, hm, rfl⟩)).2.2
      omega
    · rw [step_at p code hip hl]
      simp only [h1, hcs, recovered]
  -- the stores of the evaluated effects are those of the instruction, their addresses read from `c1.st`
  have hdom' : ∀ v k a w, Effect.memStore v k (.const a) w ∈ ins.effects.map (evalEff c1.st) →
      InDom (leToNat a % 2 ^ 64) w := by
    intro v k a w hm
    obtain ⟨ef0, h0, he0⟩ := List.mem_map.1 hm
    cases ef0 with
    | regStore _ _ _ => cases he0
    | memStore v0 k0 x w1 => cases he0; exact hdom _ _ _ _ h0
  obtain ⟨s2, rep, g1, g2, g3⟩ := applyAll_spec c1.st ins.effects c1.st c1.rep false o1.inv hw hdom
  refine .steps ⟨⟨hd1, fun _ _ h => by cases h1.symm.trans h; exact hdom'⟩, ?_, hf, o1.inv, g2,
    hpres, by rw [← hrep]; exact g3, hq⟩
  rw [step_at p code hip hl]
  simp only [h1, hcs, g1, Bool.false_or]

/-- the widths of the stores are part of the domain condition -/
theorem StepDom.sw {p : Provider} {code : CodeView} {s : State} {ins : Ins} (hd : StepDom p code s ins) (hi : Inv s)
    (hw : InsWF ins) : InsSW ins := by
  intro v k a w hm
  obtain ⟨_, c1, h1, _, o1⟩ := (evalEffects_ends p code ins.effects { st := s } (fun _ h => h) hi hw).of_dom hd.1
  obtain ⟨_, _, rfl⟩ := o1.up _ (SExt.refl _)
  have := hd.2 _ c1 h1 (.const (valBytes c1.st v)) k (valBytes c1.st a) w (List.mem_map.2 ⟨_, hm, rfl⟩)
  exact ⟨this.1, this.2.1⟩

theorem step_ok (p : Provider) (code : CodeView) {s : State} {ip : Nat} {ins : Ins} (hi : Inv s)
    (hip : mustIP s = .ok ip) (hl : code.lookup ip = some ins) (hw : InsWF ins) (hd : StepDom p code s ins) :
    ∃ s1 s2 log rep, Steps p code s ins s1 s2 log rep := by
  cases step_total p code hi hip hl hw (hd.sw hi hw) with
  | steps h => exact ⟨_, _, _, _, h⟩
  | stops hnd => exact absurd hd hnd

/-- the emulator can step: the invariant holds and the instruction pointer is known -/
structure Ready (s : State) : Prop where
  inv : Inv s
  ip : assocGet ipKey s.regs ≠ none

theorem Ready.ipConst {s : State} (h : Ready s) : ∃ c, assocGet ipKey s.regs = some (.const c) :=
  h.inv.regs.get h.ip

theorem ready_new {s : State} (h : Inv s) (ip : Nat) : Ready (Emulator.new ip s) := by
  refine ⟨inv_regStore h _ ipKey addrWidth, ?_⟩
  show assocGet ipKey (RegMap.store _ _ (.const _) _) ≠ none
  rw [get_store_const, if_pos rfl]
  exact Option.some_ne_none _

theorem Stores.ready {s s' : State} (h : Stores s s') (hr : Ready s) : Ready s' :=
  ⟨h.inv hr.inv, (h.knowsMore hr.inv).1 ipKey hr.ip⟩

theorem Steps.stores {p : Provider} {code : CodeView} {s s1 s2 : State} {ins : Ins} {log : List Req} {rep : Report}
    (h : Steps p code s ins s1 s2 log rep) : Stores s (finish ins (ins.effects.any isJump) s2) :=
  h.fill.stores.trans (h.applied.stores.trans (finish_stores ..))

def CodeWF (code : CodeView) : Prop := ∀ ins ∈ code, InsWF ins

def CodeSW (code : CodeView) : Prop := ∀ ins ∈ code, InsSW ins

theorem lookup_mem {code : CodeView} {ip : Nat} {ins : Ins} (h : code.lookup ip = some ins) : ins ∈ code :=
  List.mem_of_find?_eq_some h

end Mltwist.Lemmas.Emulator
