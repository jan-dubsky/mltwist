import Std.Data.String.ToNat
import Std.Data.String.ToInt
import Mltwist.Model.Riscv
import Mltwist.Lemmas.RiscvFields
/-
C25 (disassembly text is faithful), argument level.

Namespace `RiscvTextStr`: lists of characters.  A list splits uniquely at the first occurrence of a
character, hence `intercalate` is injective on tokens free of the first character of the separator.
`Numeral num`: all that is used of the way `instruction.String()` prints the immediate; the decimal form has it.

Namespace `RiscvTextArgs`: the arguments of `Entry.text` are a list of slots that depends on the flags of the
entry only (`slots`, kept last first because `String()` works at the end of its slice: the register
arguments, to which the immediate, if the immediate type has one, is attached in one of three
ways), each rendered from the word (`Slot.render num`; `text_eq` puts in `toString` for `num`).  A rendered slot is free
of commas and determines the fields it shows, so the text determines the shown fields (`shown_of_text`).
-/
namespace Mltwist.Lemmas.RiscvTextStr

theorem split_unique {α : Type} {c : α} {l1 l2 r1 r2 : List α} (h1 : c ∉ l1) (h2 : c ∉ l2)
    (h : l1 ++ c :: r1 = l2 ++ c :: r2) : l1 = l2 ∧ r1 = r2 := by
  induction l1 generalizing l2 with
  | nil => cases l2 <;> simp_all
  | cons x l1 ih =>
    cases l2 with
    | nil => exact absurd ((List.cons.inj h).1 ▸ List.mem_cons_self) h1
    | cons y l2 =>
      simp only [List.cons_append, List.cons.injEq, List.mem_cons, not_or] at h h1 h2
      have := ih h1.2 h2.2 h.2
      exact ⟨by rw [h.1, this.1], this.2⟩

/-- stated for two renderings `f`, `g` of one list `l`: then no hypothesis on lengths is needed (in
general `[]` and `[[]]` have the same `intercalate`) -/
theorem intercalate_map_inj {α β : Type} {c : β} {s : List β} {f g : α → List β} :
    ∀ {l : List α}, (∀ a ∈ l, c ∉ f a) → (∀ a ∈ l, c ∉ g a) →
      (c :: s).intercalate (l.map f) = (c :: s).intercalate (l.map g) → ∀ a ∈ l, f a = g a
  | [], _, _, _ => nofun
  | [a], _, _, h => by simpa [List.intercalate] using h
  | a :: b :: l, h1, h2, h => by
      simp only [List.map_cons, List.intercalate_cons_cons, List.append_assoc, List.cons_append] at h
      have hs := split_unique (h1 a List.mem_cons_self) (h2 a List.mem_cons_self) h
      exact List.forall_mem_cons.2 ⟨hs.1, intercalate_map_inj (l := b :: l)
        (fun x hx => h1 x (List.mem_cons_of_mem _ hx)) (fun x hx => h2 x (List.mem_cons_of_mem _ hx))
        (by simpa only [List.map_cons] using List.append_cancel_left hs.2)⟩

theorem notMem_append {c : Char} {a b : String} (ha : c ∉ a.toList) (hb : c ∉ b.toList) :
    c ∉ (a ++ b).toList := by
  rw [String.toList_append, List.mem_append, not_or]
  exact ⟨ha, hb⟩

theorem notMem_natRepr {c : Char} (hc : c.isDigit = false) (n : Nat) : c ∉ (toString n).toList := by
  intro h
  rw [Nat.toString_eq_repr, Nat.toList_repr] at h
  rw [Nat.isDigit_of_mem_toDigits (by decide) (by decide) h] at hc
  cases hc

theorem notMem_intRepr {c : Char} (hc : c.isDigit = false) (hm : c ∉ "-".toList) (a : Int) :
    c ∉ (toString a).toList := by
  rw [Int.toString_eq_repr, Int.repr_eq_if]
  split
  · exact Nat.toString_eq_repr ▸ notMem_natRepr hc _
  · exact notMem_append hm (Nat.toString_eq_repr ▸ notMem_natRepr hc _)

theorem notMem_toList_of_byte {c : Char} {b : UInt8} {s : String} (hc : String.utf8EncodeChar c = [b])
    (h : b ∉ s.toByteArray.data.toList) : c ∉ s.toList := by
  intro hm
  apply h
  rw [← String.utf8Encode_toList, List.utf8Encode]
  simp only [List.data_toByteArray]
  exact List.mem_flatMap.2 ⟨c, hm, by simp [hc]⟩

/-- `num` is `immStr` of `String()`.  `inj` asks injectivity on ALL integers, though it is applied to values of `immParse` only: a
rendering that shows part of the immediate (a CSR by name, a function of `imm % 4096`) is no `Numeral` -/
structure Numeral (num : Int → String) : Prop where
  inj : ∀ {a b}, num a = num b → a = b
  noParen : ∀ a, '(' ∉ (num a).toList
  noComma : ∀ a, ',' ∉ (num a).toList

theorem Numeral.decimal : Numeral toString where
  inj := Int.repr_inj.1
  noParen := notMem_intRepr (by decide) (by decide)
  noComma := notMem_intRepr (by decide) (by decide)

end Mltwist.Lemmas.RiscvTextStr

namespace Mltwist.Lemmas.RiscvTextArgs
open Mltwist Mltwist.Riscv Mltwist.Lemmas.RiscvTextStr

/-- `imm(last)` -/
def wrapTok (a b : String) : String := s!"{a}({b})"

theorem wrapTok_def (a b : String) : wrapTok a b = a ++ "(" ++ b ++ ")" := rfl

/-- an argument of the text: a register `xN`, the rs1 field as a number (the 5 bit immediate of the
CSR instructions), the immediate, `imm(arg)` -/
inductive Slot where
  | reg (r : Reg) | zimm | imm | wrap (s : Slot)

def Slot.fields : Slot → List Field
  | .reg r => [.reg r]
  | .zimm => [.reg .rs1]
  | .imm => [.imm]
  | .wrap s => .imm :: s.fields

def Slot.render (num : Int → String) (t : ImmType) (w : Nat) : Slot → String
  | .reg r => regName (regNum r w)
  | .zimm => toString (regNum .rs1 w)
  | .imm => num (immParse t w).1
  | .wrap s => wrapTok (num (immParse t w).1) (s.render num t w)

section
variable {num : Int → String} (hn : Numeral num)
include hn

theorem wrapTok_inj {a a' : Int} {b b' : String} (h : wrapTok (num a) b = wrapTok (num a') b') :
    a = a' ∧ b = b' := by
  have h' := congrArg String.toList h
  have h1 : "(".toList = ['('] := by decide
  simp only [wrapTok_def, String.toList_append, h1, List.append_assoc, List.singleton_append] at h'
  have hs := split_unique (hn.noParen a) (hn.noParen a') h'
  exact ⟨hn.inj (String.toList_inj.1 hs.1), String.toList_inj.1 (List.append_cancel_right hs.2)⟩

theorem render_comma (t : ImmType) (w : Nat) : ∀ s : Slot, ',' ∉ (s.render num t w).toList
  | .reg _ => notMem_append (by decide) (notMem_natRepr (by decide) _)
  | .zimm => notMem_natRepr (by decide) _
  | .imm => hn.noComma _
  | .wrap s => notMem_append (notMem_append (notMem_append (hn.noComma _) (by decide)) (render_comma t w s)) (by decide)

theorem render_inj {t : ImmType} {w1 w2 : Nat} :
    ∀ s : Slot, s.render num t w1 = s.render num t w2 → ∀ f ∈ s.fields, f.Same t w1 w2
  | .reg _, h => List.forall_mem_singleton.2 (RiscvLift.regName_inj.1 h)
  | .zimm, h => List.forall_mem_singleton.2 (Nat.repr_inj.1 h)
  | .imm, h => List.forall_mem_singleton.2 (hn.inj h)
  | .wrap s, h => List.forall_mem_cons.2 ⟨(wrapTok_inj hn h).1, render_inj s (wrapTok_inj hn h).2⟩

end

/-- the register arguments of `String()` by the flags: `o` = `hasOutputReg`, `c1`, `c2` =
`inputRegCnt > 0`, `> 1`, `u` = `uimm` -/
def regSlots (o c1 c2 u : Bool) : List Slot :=
  (if o then [.reg .rd] else []) ++ (if c1 then [.reg .rs1] else []) ++
  (if c2 then [.reg .rs2] else []) ++ (if u then [.zimm] else [])

/-- the immediate attached to the register arguments (last first): wrapped around the last one for
loads and stores, for stores after exchanging the last two; appended otherwise -/
def attach (st ld : Bool) : List Slot → List Slot
  | a :: b :: r => if st then .wrap b :: a :: r else if ld then .wrap a :: b :: r else .imm :: a :: b :: r
  | [a] => if ld || st then [.wrap a] else [.imm, a]
  | [] => if ld || st then [] else [.imm]

/-- the arguments of `instruction.String()`, last first; `e.imm != .R`: the immediate type has a value -/
def slots (e : Entry) : List Slot :=
  let regs := (regSlots e.hasOutputReg (decide (e.inputRegCnt > 0)) (decide (e.inputRegCnt > 1)) e.uimm).reverse
  if e.imm != .R then attach (decide (e.storeBytes > 0)) (decide (e.loadBytes > 0)) regs else regs

theorem immParse_snd (t : ImmType) (v : Nat) : (immParse t v).2 = (t != .R) := by
  cases t <;> rfl

theorem immParse_R (v : Nat) : (immParse .R v).1 = 0 := rfl

theorem text_eq (e : Entry) (i : Ins) :
    e.text i = e.name ++ " " ++
      ", ".intercalate ((slots e).reverse.map (Slot.render toString e.imm i.value)) := by
  unfold Entry.text slots
  -- the register tokens of the model are the rendered register slots
  generalize hA : (if e.hasOutputReg then [regName (regNum .rd i.value)] else []) ++ _ ++ _ ++ _ = as0
  have h0 : as0 = (regSlots e.hasOutputReg (decide (e.inputRegCnt > 0)) (decide (e.inputRegCnt > 1))
      e.uimm).map (Slot.render toString e.imm i.value) := by
    rw [← hA]; simp [regSlots, Slot.render, apply_ite (List.map _)]
  have hb := immParse_snd e.imm i.value
  rcases h : immParse e.imm i.value with ⟨imm, b⟩
  rw [h] at hb
  subst hb h0
  generalize regSlots _ _ _ _ = l
  obtain ⟨r, rfl⟩ : ∃ r : List Slot, l = r.reverse := ⟨_, (List.reverse_reverse _).symm⟩
  cases hR : e.imm != .R
  · simp
  · -- the three shapes of `attach`, for store, load and neither: each case compares two explicit lists
    rcases r with _ | ⟨a, _ | ⟨b, rest⟩⟩ <;>
      by_cases hst : e.storeBytes > 0 <;> by_cases hld : e.loadBytes > 0 <;>
      simp [hst, hld, h, attach, Slot.render, wrapTok]

def shownFields (e : Entry) : List Field := (slots e).flatMap Slot.fields

def SameShown (e : Entry) (w1 w2 : Nat) : Prop := ∀ f ∈ shownFields e, f.Same e.imm w1 w2

theorem text_toList (e : Entry) (i : Ins) : (e.text i).toList = e.name.toList ++
    ' ' :: [',', ' '].intercalate ((slots e).reverse.map fun s => (s.render toString e.imm i.value).toList) := by
  simp only [text_eq, String.toList_append, String.toList_intercalate, List.append_assoc,
    show " ".toList = [' '] from by decide, show ", ".toList = [',', ' '] from by decide,
    List.singleton_append, List.map_map, Function.comp_def]

theorem name_of_text (e1 e2 : Entry) (i1 i2 : Ins) (h1 : ' ' ∉ e1.name.toList)
    (h2 : ' ' ∉ e2.name.toList) (h : e1.text i1 = e2.text i2) : e1.name = e2.name := by
  have h' := congrArg String.toList h
  rw [text_toList, text_toList] at h'
  exact String.toList_inj.1 (split_unique h1 h2 h').1

/-- the text determines every argument token, and each token the fields it shows -/
theorem shown_of_text (e : Entry) (i1 i2 : Ins) (h : e.text i1 = e.text i2) :
    SameShown e i1.value i2.value := by
  have h' := congrArg String.toList h
  rw [text_toList, text_toList, List.append_cancel_left_eq, List.cons.injEq] at h'
  have hn := Numeral.decimal
  have hs := intercalate_map_inj (fun s _ => render_comma hn _ _ s) (fun s _ => render_comma hn _ _ s) h'.2
  intro f hf
  obtain ⟨s, hm, hfs⟩ := List.mem_flatMap.1 hf
  exact render_inj hn s (String.toList_inj.1 (hs s (List.mem_reverse.2 hm))) f hfs

end Mltwist.Lemmas.RiscvTextArgs
