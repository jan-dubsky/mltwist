import Mltwist.Lemmas.EmulatorAgree
import Mltwist.Lemmas.EmulatorStep
/-
Emulator (C03): soundness with respect to the reference semantics of the IR.  `EmulatorStep` describes a step as a pure
function of the state `s1` completed by the provider; under `Agree p code ρ s1` (`EmulatorAgree`) each such function of
`s1` is the corresponding function of `ρ`: what a present expression reads — its value and its memory loads — is what
it reads under `ρ`; applying the evaluated effects is `Spec.Lift.Env.applyEffects`, and the instruction pointer the
state holds afterwards is the last instruction-pointer write; the report is a function of `ρ` and the effect list alone
(`specReport`).  Together: one step of the emulator implements the effect list of the instruction (`step_sound`).
-/
namespace Mltwist.Lemmas.Emulator
open Mltwist Mltwist.State Mltwist.Overlay Mltwist.Emulator Mltwist.Spec.Overlay Mltwist.Interval
open Mltwist.Spec.Lift (applyEffect nextIp)

def specRegReads (ρ : Env) (e : Expr) : List (String × List UInt8) :=
  (regLoads e).map fun kw => (kw.1, natToLE kw.2 (ρ.reg kw.1))

/-- the memory loads of an expression, bottom-up left to right, with address and bytes under `ρ` -/
def specMemReads (ρ : Env) : Expr → List MemAccess
  | .const _ => []
  | .regLoad _ _ => []
  | .binary _ a b _ => specMemReads ρ a ++ specMemReads ρ b
  | .less a b t f _ => specMemReads ρ a ++ specMemReads ρ b ++ specMemReads ρ t ++ specMemReads ρ f
  | .memLoad key a w =>
    specMemReads ρ a ++ [⟨key, a.eval ρ % 2 ^ 64, natToLE w (loadBytes (ρ.mem key) (a.eval ρ % 2 ^ 64) w)⟩]

def specRegStores (ρ : Env) (m : List (String × List UInt8)) : List Effect → List (String × List UInt8)
  | [] => m
  | .regStore v k _ :: efs => specRegStores ρ (assocSet k (natToLE v.width (v.eval ρ)) m) efs
  | .memStore .. :: efs => specRegStores ρ m efs

def specMemStores (ρ : Env) : List Effect → List MemAccess
  | [] => []
  | .regStore .. :: efs => specMemStores ρ efs
  | .memStore v k a w :: efs => ⟨k, a.eval ρ % 2 ^ 64, natToLE w (v.eval ρ)⟩ :: specMemStores ρ efs

/-- the report a step must produce for the effect list `efs` when the machine is in the state `ρ` -/
def specReport (ρ : Env) (efs : List Effect) : Report where
  regLoads := (evalOrders efs).foldl (fun m e => (specRegReads ρ e).foldl (fun m kv => assocSet kv.1 kv.2 m) m) []
  memLoads := (evalOrders efs).flatMap (specMemReads ρ)
  regStores := specRegStores ρ [] efs
  memStores := specMemStores ρ efs

theorem present_spec {p : Provider} {code : CodeView} {ρ : Env} {s : State} (hi : Inv s)
    (ha : Agree p code ρ s) (e : Expr) : RegsIn s.regs (regLoads e) → MemsIn (absOf s) (substRegs s.regs e) →
    RegsLe code e → (substAll s e).eval ρ0 = e.eval ρ ∧
      memReads (absOf s) (substRegs s.regs e) = specMemReads ρ e := by
  induction e with
  | const _ => exact fun _ _ _ => ⟨rfl, rfl⟩
  | regLoad k w =>
    intro hr _ hle
    have hk := List.mem_singleton_self (k, w)
    obtain ⟨c, hg⟩ := hi.regs.get (hr _ hk)
    simp only [substAll, substRegs_regLoad hg, substMem, Expr.eval, memReads, specMemReads, cw_value,
      ha.regKnown k c hg w (hle _ hk), and_self]
  | binary op a b w iha ihb =>
    intro hr hm hle
    simp only [regLoads, RegsIn.append, RegsLe, List.forall_mem_append] at hr hle
    obtain ⟨ia, ra⟩ := iha hr.1 hm.1 hle.1
    obtain ⟨ib, rb⟩ := ihb hr.2 hm.2 hle.2
    simp only [substAll, substRegs, substMem, Expr.eval, memReads, specMemReads] at ia ib ⊢
    rw [ia, ib, ra, rb]
    exact ⟨rfl, rfl⟩
  | less a b t f w iha ihb iht ihf =>
    intro hr hm hle
    simp only [regLoads, RegsIn.append, RegsLe, List.forall_mem_append] at hr hle
    obtain ⟨ia, ra⟩ := iha hr.1.1.1 hm.1 hle.1.1.1
    obtain ⟨ib, rb⟩ := ihb hr.1.1.2 hm.2.1 hle.1.1.2
    obtain ⟨it, rt⟩ := iht hr.1.2 hm.2.2.1 hle.1.2
    obtain ⟨jf, rf⟩ := ihf hr.2 hm.2.2.2 hle.2
    simp only [substAll, substRegs, substMem, Expr.eval, memReads, specMemReads] at ia ib it jf ⊢
    rw [ia, ib, it, jf, ra, rb, rt, rf]
    exact ⟨rfl, rfl⟩
  | memLoad key a w iha =>
    intro hr hm hle
    obtain ⟨ia, ra⟩ := iha hr hm.1 hle
    -- the address the state yields is the address under `ρ`, and so are the bytes there
    have haddr : loadAddr (absOf s) (substRegs s.regs a) = a.eval ρ % 2 ^ 64 := congrArg (· % 2 ^ 64) ia
    obtain ⟨_, hd, hp⟩ := hm
    rw [haddr] at hd hp
    have hlv : loadConst (absOf s) key (a.eval ρ % 2 ^ 64) w =
        natToLE w (loadBytes (ρ.mem key) (a.eval ρ % 2 ^ 64) w) :=
      congrArg (natToLE w) (loadVal_agree ha hd hp)
    have h2 : (substMem (absOf s) (substRegs s.regs a)).eval ρ0 % 2 ^ 64 = a.eval ρ % 2 ^ 64 := haddr
    simp only [substAll, substRegs, substMem, Expr.eval, memReads, specMemReads, ra, haddr, h2, hlv, and_true]
    rw [Lemmas.Bytes.leToNat_natToLE]
    exact Nat.mod_eq_of_lt (Lemmas.EvalBasic.loadBytes_lt _ _ _)

theorem valBytes_eval {p : Provider} {code : CodeView} {ρ : Env} {s : State} (hi : Inv s)
    (ha : Agree p code ρ s) {e : Expr} (hp : Present s e) (hle : RegsLe code e) :
    leToNat (valBytes s e) = e.eval ρ := by
  unfold valBytes
  rw [Lemmas.Bytes.leToNat_natToLE, (present_spec hi ha e hp.1 hp.2 hle).1]
  exact Nat.mod_eq_of_lt (Lemmas.EvalBasic.eval_lt ρ e)

/-- the constants the effect was evaluated to are the values of its expressions under `ρ` -/
def EvalsTo (ρ : Env) (s1 : State) : Effect → Prop
  | .regStore v _ _ => leToNat (valBytes s1 v) = v.eval ρ
  | .memStore v _ a _ => leToNat (valBytes s1 v) = v.eval ρ ∧ leToNat (valBytes s1 a) = a.eval ρ

theorem evalsTo_of_present {p : Provider} {code : CodeView} {ρ : Env} {s1 : State} {efs : List Effect}
    (hi1 : Inv s1) (ha1 : Agree p code ρ s1) (hpres : PresentAll s1 (evalOrders efs))
    (hle : ∀ e ∈ evalOrders efs, RegsLe code e) : ∀ ef ∈ efs, EvalsTo ρ s1 ef := by
  intro ef hef
  have hp : ∀ e ∈ evalOrder ef, leToNat (valBytes s1 e) = e.eval ρ := fun e he =>
    have hin : e ∈ evalOrders efs := List.mem_flatMap.2 ⟨ef, hef, he⟩
    valBytes_eval hi1 ha1 (hpres e hin) (hle e hin)
  cases ef with
  | regStore v k w => exact hp v (by simp [evalOrder])
  | memStore v k a w => exact ⟨hp v (by simp [evalOrder]), hp a (by simp [evalOrder])⟩

theorem applied_agree {p : Provider} {code : CodeView} {ρ : Env} (s1 : State) (efs : List Effect) :
    ∀ (s s' : State) (cur : Env), Applied s (efs.map (evalEff s1)) s' → Inv s → Agree p code cur s →
    (∀ ef ∈ efs, EvalsTo ρ s1 ef) → Agree p code (efs.foldl (applyEffect ρ) cur) s' := by
  induction efs with
  | nil =>
    intro s s' cur hap _ ha _
    cases hap
    exact ha
  | cons ef efs ih =>
    intro s s' cur hap hi ha hev
    have hev' := fun ef h => hev ef (List.mem_cons_of_mem _ h)
    cases ef with
    | regStore v k w =>
      have h0 := hev _ (List.mem_cons_self ..)
      simp only [List.map_cons, evalEff] at hap
      cases hap with
      | reg vb k' w' hap' =>
        exact ih _ s' _ hap' (inv_regStore hi _ k w) (agree_regStore ha _ k w _ h0) hev'
    | memStore v key a w =>
      have h0 := hev _ (List.mem_cons_self ..)
      simp only [List.map_cons, evalEff] at hap
      cases hap with
      | mem vb key' ab w' m' hd hvl hs hap' =>
        refine ih _ s' _ hap' (inv_store hi hd hvl hs) ?_ hev'
        have haddr : leToNat (valBytes s1 a) % 2 ^ 64 = a.eval ρ % 2 ^ 64 := by rw [h0.2]
        rw [haddr] at hd hs
        exact agree_memStore hi ha _ key _ w _ m' hd hs h0.1

/-- `nextIp` as a fold -/
def ipStep (ρ : Env) (ip : Nat) : Effect → Nat
  | .regStore v k w => if k = Spec.Lift.ipKey then trunc w (v.eval ρ) else ip
  | _ => ip

theorem nextIp_eq (ρ : Env) (efs : List Effect) (fall : Nat) : nextIp ρ efs fall = efs.foldl (ipStep ρ) fall := by
  unfold nextIp
  congr 1

theorem foldl_ipStep_of_no_jump (ρ : Env) : ∀ (efs : List Effect) (ip : Nat), efs.any isJump = false →
    efs.foldl (ipStep ρ) ip = ip
  | [], _, _ => rfl
  | .memStore .. :: efs, ip, h => foldl_ipStep_of_no_jump ρ efs ip h
  | .regStore v k w :: efs, ip, h => by
    simp only [List.any_cons, isJump, Bool.or_eq_false_iff, beq_eq_false_iff_ne] at h
    simp only [List.foldl_cons, ipStep, if_neg (show ¬ k = Spec.Lift.ipKey from h.1)]
    exact foldl_ipStep_of_no_jump ρ efs ip h.2

/-- after the writes, if some effect is a jump: the state's instruction pointer and the valuation's
instruction-pointer register are the last instruction-pointer write (`j`: a jump has been seen already) -/
theorem jump_inv {ρ : Env} (s1 : State) (efs : List Effect) : ∀ (s s' : State) (cur : Env) (ip : Nat) (j : Bool),
    Applied s (efs.map (evalEff s1)) s' → (∀ ef ∈ efs, EvalsTo ρ s1 ef) → (j = true → cur.reg ipKey = ip ∧ IpIs s ip) →
    (j || efs.any isJump) = true →
    (efs.foldl (applyEffect ρ) cur).reg ipKey = efs.foldl (ipStep ρ) ip ∧ IpIs s' (efs.foldl (ipStep ρ) ip) := by
  induction efs with
  | nil =>
    intro s s' cur ip j hap _ hj h
    cases hap
    exact hj (by simpa using h)
  | cons ef efs ih =>
    intro s s' cur ip j hap hev hj h
    have hev' := fun ef h => hev ef (List.mem_cons_of_mem _ h)
    cases ef with
    | memStore v key a w =>
      simp only [List.map_cons, evalEff] at hap
      cases hap with
      | mem vb key' ab w' m' hd hvl hs hap' => exact ih _ s' _ ip j hap' hev' hj h
    | regStore v k w =>
      have h0 : leToNat (valBytes s1 v) = v.eval ρ := hev _ (List.mem_cons_self ..)
      simp only [List.map_cons, evalEff] at hap
      cases hap with
      | reg vb k' w' hap' =>
        refine ih _ s' _ _ (j || isJump (.regStore v k w)) hap' hev' (fun hj' => ?_)
          (by rw [← h, List.any_cons, Bool.or_assoc])
        -- the write of `k`, as the valuation (`applyEffect`) and the register map (`get_store_const`) see it at `ipKey`
        show (if ipKey = k then trunc w (v.eval ρ) else cur.reg ipKey) = (if k = ipKey then trunc w (v.eval ρ) else ip) ∧
          ∃ c, assocGet ipKey (RegMap.store _ _ _ _) = some (.const c) ∧
            leToNat c = (if k = ipKey then trunc w (v.eval ρ) else ip)
        rw [get_store_const]
        by_cases hk : k = ipKey
        · subst hk
          rw [if_pos rfl, if_pos rfl, if_pos rfl]
          exact ⟨rfl, _, rfl, by rw [cw_value, h0]⟩
        · have hjt : j = true := by simpa [isJump, hk] using hj'
          rw [if_neg (Ne.symm hk), if_neg hk, if_neg (Ne.symm hk)]
          exact hj hjt

theorem end_lt (ins : Ins) : ins.end_ < 2 ^ 64 := Nat.mod_lt _ (by decide)

theorem filterMap_eq_map_of {α β : Type} {f : α → Option β} {g : α → β} {l : List α}
    (h : ∀ x ∈ l, f x = some (g x)) : l.filterMap f = l.map g := by
  induction l with
  | nil => rfl
  | cons x l ih =>
    simp only [List.filterMap_cons, h x (List.mem_cons_self ..), List.map_cons,
      ih fun y hy => h y (List.mem_cons_of_mem _ hy)]

theorem readVals_spec {p : Provider} {code : CodeView} {ρ : Env} {s : State} (hi : Inv s) (ha : Agree p code ρ s)
    {e : Expr} (hr : RegsIn s.regs (regLoads e)) (hle : RegsLe code e) :
    readVals s.regs (regLoads e) = specRegReads ρ e := by
  unfold specRegReads readVals
  refine filterMap_eq_map_of fun kw hk => ?_
  obtain ⟨c, hg⟩ := hi.regs.get (hr kw hk)
  have hv : cw c kw.2 = natToLE kw.2 (ρ.reg kw.1) := by
    rw [← Lemmas.Bytes.natToLE_trunc]
    exact Lemmas.Bytes.eq_natToLE (cw_length c kw.2) (by rw [cw_value]; exact ha.regKnown kw.1 c hg kw.2 (hle kw hk))
  simp only [load_const hg, hv]

theorem noteReads_fields (r : Report) (l : List (String × List UInt8)) :
    noteReads r l = { r with regLoads := l.foldl (fun m kv => assocSet kv.1 kv.2 m) r.regLoads } := by
  induction l generalizing r with
  | nil => rfl
  | cons kv l ih =>
    simp only [noteReads, List.foldl_cons] at ih ⊢
    rw [ih]
    rfl

theorem noteExprs_spec {p : Provider} {code : CodeView} {ρ : Env} {s : State} (hi : Inv s)
    (ha : Agree p code ρ s) (es : List Expr) : ∀ r : Report, PresentAll s es → (∀ e ∈ es, RegsLe code e) →
    noteExprs s r es =
      { r with
        regLoads := es.foldl (fun m e => (specRegReads ρ e).foldl (fun m kv => assocSet kv.1 kv.2 m) m) r.regLoads
        memLoads := r.memLoads ++ es.flatMap (specMemReads ρ) } := by
  induction es with
  | nil => intro r _ _; simp [noteExprs]
  | cons e es ih =>
    intro r hp hle
    have he := hp e (List.mem_cons_self ..)
    have h1 := readVals_spec hi ha he.1 (hle e (List.mem_cons_self ..))
    have h2 := (present_spec hi ha e he.1 he.2 (hle e (List.mem_cons_self ..))).2
    have ih := ih (noteExpr s r e) (fun x hx => hp x (List.mem_cons_of_mem _ hx))
      (fun x hx => hle x (List.mem_cons_of_mem _ hx))
    simp only [noteExprs, List.foldl_cons] at ih ⊢
    rw [ih]
    simp only [noteExpr, h1, h2, noteReads_fields, noteLoads, List.flatMap_cons, List.append_assoc]

theorem recordAll_spec {ρ : Env} (s1 : State) (efs : List Effect) : ∀ r : Report,
    (∀ ef ∈ efs, EvalsTo ρ s1 ef) →
    recordAll r (efs.map (evalEff s1)) =
      some { r with regStores := specRegStores ρ r.regStores efs
                    memStores := r.memStores ++ specMemStores ρ efs } := by
  induction efs with
  | nil => intro r _; simp [recordAll, specRegStores, specMemStores]
  | cons ef efs ih =>
    intro r hev
    have ih := fun r' => ih r' (fun x hx => hev x (List.mem_cons_of_mem _ hx))
    cases ef with
    | regStore v k w =>
      have h0 : leToNat (valBytes s1 v) = v.eval ρ := hev _ (List.mem_cons_self ..)
      have hv : valBytes s1 v = natToLE v.width (v.eval ρ) := Lemmas.Bytes.eq_natToLE (valBytes_length s1 v) h0
      simp only [List.map_cons, evalEff, recordAll, Report.recordOutput]
      rw [ih]
      simp only [specRegStores, specMemStores, hv]
    | memStore v k a w =>
      have h0 : EvalsTo ρ s1 (.memStore v k a w) := hev _ (List.mem_cons_self ..)
      have hv : Const.withWidth (valBytes s1 v) w = natToLE w (v.eval ρ) := by
        rw [Lemmas.Const.withWidth_spec, h0.1]
      have haddr : (Const.constUint 8 (valBytes s1 a)).1 = a.eval ρ % 2 ^ 64 := by
        rw [Lemmas.State.constUint8, h0.2]
      simp only [List.map_cons, evalEff, recordAll, Report.recordOutput]
      rw [ih]
      simp only [specRegStores, specMemStores, hv, haddr, List.append_assoc, List.singleton_append]

theorem report_spec {p : Provider} {code : CodeView} {ρ : Env} {s1 : State} {efs : List Effect} {rep : Report}
    (hi1 : Inv s1) (ha1 : Agree p code ρ s1) (hpres : PresentAll s1 (evalOrders efs))
    (hle : ∀ e ∈ evalOrders efs, RegsLe code e)
    (hrec : recordAll (noteExprs s1 {} (evalOrders efs)) (efs.map (evalEff s1)) = some rep) :
    rep = specReport ρ efs := by
  rw [noteExprs_spec hi1 ha1 _ _ hpres hle, recordAll_spec s1 _ _ (evalsTo_of_present hi1 ha1 hpres hle)] at hrec
  cases hrec
  simp [specReport]

/-- what a successful step (`Steps`) from a state that, with the provider, represents `ρ` amounts to; `s1` is the state
after the provider calls, `s'` the new state -/
structure StepSound (p : Provider) (code : CodeView) (ρ : Env) (ins : Ins) (s1 s' : State) (rep : Report) : Prop where
  report : rep = specReport ρ ins.effects
  filled : Agree p code ρ s1
  agree : Agree p code (withIp (Spec.Lift.Env.applyEffects ρ ins.effects) (nextIp ρ ins.effects ins.end_)) s'
  ip : IpIs s' (nextIp ρ ins.effects ins.end_)

/-- one successful step of the emulator at an instruction of the code implements the effect list of the instruction -/
theorem step_sound {p : Provider} {code : CodeView} {s s1 s2 : State} {ρ : Env} {ins : Ins} {log : List Req}
    {rep : Report} (hs : Steps p code s ins s1 s2 log rep) (hi : Inv s) (ha : Agree p code ρ s) (hmem : ins ∈ code) :
    StepSound p code ρ ins s1 (finish ins (ins.effects.any isJump) s2) rep := by
  have hle := regsLe_evalOrders hmem
  have ha1 : Agree p code ρ s1 := hs.fill.agree hi ha (atCodeWidth_of hle hs.reqs)
  have hev := evalsTo_of_present hs.inv1 ha1 hs.present hle
  have ha2 : Agree p code (Spec.Lift.Env.applyEffects ρ ins.effects) s2 :=
    applied_agree s1 ins.effects s1 s2 ρ hs.applied hs.inv1 ha1 hev
  -- the fields `agree` and `ip` together, by cases on whether an effect writes the instruction pointer
  refine (?_ : _ ∧ _).elim (StepSound.mk (report_spec hs.inv1 ha1 hs.present hle hs.report) ha1)
  rw [nextIp_eq, finish]
  cases hj : ins.effects.any isJump with
  | true =>
    -- the last instruction-pointer write is in the state and in the valuation
    obtain ⟨g1, g2⟩ := jump_inv s1 ins.effects s1 s2 ρ ins.end_ false hs.applied hev (fun h => nomatch h) hj
    refine ⟨ha2.congr (fun k => ?_) (fun _ _ => rfl), g2⟩
    show (if k = ipKey then _ else _) = _
    split
    · rename_i hk
      rw [hk]
      exact g1.symm
    · rfl
  | false =>
    -- the fall-through stores the end of the instruction
    rw [foldl_ipStep_of_no_jump ρ _ _ hj]
    exact agree_setIp ha2 (end_lt ins)

end Mltwist.Lemmas.Emulator
