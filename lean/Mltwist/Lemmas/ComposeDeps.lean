import Mltwist.Props.C21
import Mltwist.Lemmas.EmulatorLifted
import Mltwist.Model.Compose
import Mltwist.Props.C07
import Mltwist.Model.Startup
/-
COMPOSITION: from the front end (C21) over basic blocks (C08) and the dependency model (C05/C06/C07,
`Model/Deps.lean`) to the emulator's code view (C03).

C21 and C03 modelled `parser.Parse` independently: `Parse.parseRv64` is the real loop, proved to produce the `Tiling`
of every block; `Emulator.liftCode` is the stand-in walk that C03's `Statement` quantifies over.  On images that fit
the address space they are the same function (`liftCode_of_parse`).  The instructions the parser returns for a tidy
image are well formed in the sense of C08/C07 and sorted (`wf_of_parse`), so every code `deps.NewCode` builds from
them satisfies C07's invariant (`inv_of_parse`) and, before any move, shows the emulator exactly these instructions
(`codeViewOf_newCode`).  C03's model takes `Emulator.instruction` to be the exact lookup on the code view (its comments
call this assumption `LookupExact`); `instruction_find` proves it of `Code.Address` followed by `Block.Address` on
every `Deps.Code` satisfying the invariant, i.e. after any history of moves.
-/
namespace Mltwist.Lemmas.Compose

section
open Mltwist Mltwist.Elf Mltwist.Parse Mltwist.Parse.Spec Mltwist.Emulator

/-- a `parser.Instruction` (C21's `Parse.Ins`) as the emulator (C03's `Emulator.Ins`) sees it:
`Begin()`, `Len() = len(Bytes)`, `Effects()` -/
def toEmu {δ : Type} (i : Parse.Ins δ) : Emulator.Ins := ⟨i.addr, i.bytes.length, i.effects⟩

theorem blocksOK_of_fits {bs : List Block} (hf : Elf.Spec.Fits bs) : Lemmas.Emulator.BlocksOK bs :=
  fun b hb => Nat.le_of_lt (hf b hb)

theorem liftBlock_of_tiling {a : Nat} {bytes : List UInt8} {is : List (Parse.Ins (Riscv.Entry × Riscv.Ins))}
    (h : Tiling (rvDecoder rv64Table) a bytes is) :
    ∀ fuel, bytes.length / 4 + 1 ≤ fuel → a + bytes.length < 2 ^ 64 →
      liftBlock fuel a bytes = some (is.map toEmu) := by
  induction h with
  | done a => exact fun fuel _ _ => Lemmas.Emulator.liftBlock_nil fuel a
  | step a bytes r ins rest hne hd hv hle hins _ ih =>
    intro fuel hfuel hfit
    obtain ⟨hbl, h4, e, _, hp, _, hef, _⟩ := Lemmas.Parse.rvDecoder_ok hd
    rw [hbl] at ih
    obtain ⟨f, rfl⟩ : ∃ f, fuel = f + 1 := ⟨fuel - 1, by omega⟩
    -- the instruction the parser builds from the decoder's result is the one `liftIns` builds from the same `Riscv.parse`
    have hli : liftIns a bytes = some (toEmu ins) := by
      rw [Lemmas.Emulator.liftIns_of_parse hp]
      simp only [toEmu, hins.addr, hins.bytes, hins.effects, hbl, hef, Lemmas.Parse.filterMap_id_map_some,
        List.length_take, Option.some.injEq, Emulator.Ins.mk.injEq, true_and, and_true]
      omega
    have hrec := ih f (by simp only [List.length_drop]; omega) (by simp only [List.length_drop]; omega)
    exact Lemmas.Emulator.liftBlock_cons hne hli ((Nat.mod_eq_of_lt (by omega : a + 4 < 2 ^ 64)).symm ▸ hrec)

theorem liftCode_of_tilingAll {bs : List Block} {is : List (Parse.Ins (Riscv.Entry × Riscv.Ins))}
    (h : TilingAll (rvDecoder rv64Table) bs is) (hf : Elf.Spec.Fits bs) :
    liftCode bs = some (is.map toEmu) := by
  induction h with
  | nil => rfl
  | cons b bs is rest hb _ ih =>
    obtain ⟨a, bytes⟩ := b
    have h1 := liftBlock_of_tiling hb (bytes.length / 4 + 1) (Nat.le_refl _) (hf (a, bytes) (List.mem_cons_self ..))
    rw [List.map_append]
    exact Lemmas.Emulator.liftCode_cons h1 (ih fun x hx => hf x (List.mem_cons_of_mem _ hx))

theorem liftCode_of_parse {bs : List Block} (hf : Elf.Spec.Fits bs)
    {is : List (Parse.Ins (Riscv.Entry × Riscv.Ins))} (h : parseRv64 bs = .ok is) :
    liftCode bs = some (is.map toEmu) :=
  liftCode_of_tilingAll ((Props.C21.parse_ok_iff _ (Props.C21.rv_honest _) bs hf is).1 h) hf

theorem parse_layout {ε δ : Type} (dec : Decoder ε δ) (hh : Honest dec) {bs : List Block} (ht : Elf.Spec.Tidy bs)
    {is : List (Parse.Ins δ)} (h : parse dec bs = .ok is) :
    (∀ i ∈ is, 0 < i.bytes.length ∧ i.addr + i.bytes.length < 2 ^ 64) ∧
    is.Pairwise (fun x y => x.addr + x.bytes.length ≤ y.addr) := by
  obtain ⟨h1, h2⟩ := Lemmas.Parse.tilingAll_layout ((Props.C21.parse_ok_iff dec hh bs ht.1 is).1 h) ht
  refine ⟨fun i hi => ?_, h2⟩
  obtain ⟨⟨_, _, r, _, hv, hl⟩, g, _⟩ := h1 i hi
  exact ⟨hl ▸ Nat.pos_of_ne_zero hv.2.1, g⟩

end

open Mltwist Mltwist.Elf Mltwist.Parse Mltwist.Parse.Spec Mltwist.Deps Mltwist.Lemmas.Deps

/-- the two models of start-up (C07's `toBB ∘ rawOf`, C26's `codeInput`) hand the same instructions to `basicblock.Parse` -/
theorem toBB_rawOf_codeInput {δ : Type} (is : List (Parse.Ins δ)) :
    toBB (rawOf is) = (Startup.codeInput is).map fun (a, l, efs) => BasicBlock.mkIns a l efs := by
  simp only [toBB, rawOf, Startup.codeInput, List.map_map]
  rfl

theorem toBB_rawOf {δ : Type} (is : List (Parse.Ins δ)) :
    toBB (rawOf is) = is.map fun i => BasicBlock.mkIns i.addr i.bytes.length i.effects := by
  simp only [toBB, rawOf, List.map_map]
  rfl

theorem wf_of_parse {bs : List Elf.Block} (ht : Elf.Spec.Tidy bs)
    {is : List (Parse.Ins (Riscv.Entry × Riscv.Ins))} (h : parseRv64 bs = .ok is) :
    Props.C07.WF (rawOf is) ∧ Lemmas.BasicBlock.SortedWF (toBB (rawOf is)) := by
  obtain ⟨l1, l2⟩ := parse_layout _ (Props.C21.rv_honest _) ht h
  have hm : ∀ i ∈ toBB (rawOf is), 0 < i.len ∧ i.addr + i.len ≤ 2 ^ 64 := by
    rw [toBB_rawOf]
    intro i hi
    obtain ⟨j, hj, rfl⟩ := List.mem_map.1 hi
    exact (l1 j hj).imp_right Nat.le_of_lt
  have hp : (toBB (rawOf is)).Pairwise fun a b => a.addr + a.len ≤ b.addr := by
    rw [toBB_rawOf, List.pairwise_map]
    exact l2
  exact ⟨⟨hm, hp.imp Or.inl⟩, hm, hp⟩

theorem inv_of_parse {bs : List Elf.Block} (ht : Elf.Spec.Tidy bs)
    {is : List (Parse.Ins (Riscv.Entry × Riscv.Ins))} (h : parseRv64 bs = .ok is) (entry : Nat) (c : Code)
    (hc : newCode entry (rawOf is) = .ok c) : CInv c :=
  Props.C07.inv_initial entry (rawOf is) (wf_of_parse ht h).1 c hc

/-- the body of `Emulator.instruction` (`internal/emulator/emulator.go`): `code.Address(ip)`, then
`block.Address(ip)`; `none` = a Go panic, `some none` = the "cannot find …" error -/
def instruction (c : Code) (ip : Nat) : Option (Option Deps.Ins) :=
  match c.address ip with
  | none => none
  | some none => some none
  | some (some b) => b.address ip

/-- looking an address up in all instructions is looking it up in the first block whose range holds it: a tiled block
holds exactly the addresses of its range, and sorted blocks are disjoint, so no other block has an instruction there -/
theorem find_flatMap (a : Nat) (l : List Deps.Block) (hb : ∀ b ∈ l, BInv b)
    (hs : l.Pairwise (fun x y => x.begin + bytesI x.seq ≤ y.begin)) :
    (l.flatMap (·.seq)).find? (fun i => i.currAddr == a) =
      match l.find? (inBlock a) with
      | none => none
      | some b => b.seq.find? (fun i => i.currAddr == a) := by
  induction l with
  | nil => rfl
  | cons b rest ih =>
    have hs' := List.pairwise_cons.1 hs
    have ih' := ih (fun x hx => hb x (List.mem_cons_of_mem _ hx)) hs'.2
    have hbi := hb b (List.mem_cons_self ..)
    rw [List.flatMap_cons, List.find?_append, List.find?_cons]
    cases hin : inBlock a b with
    | true =>
      simp only
      cases hf : b.seq.find? (fun i => i.currAddr == a) with
      | some i => rfl
      | none =>
        simp only [Option.none_or]
        rw [List.find?_eq_none]
        intro i hi
        obtain ⟨b', hb', hi'⟩ := List.mem_flatMap.1 hi
        have := hs'.1 b' hb'
        obtain ⟨g1, _, _⟩ := tilesI_mem _ _ (hb b' (List.mem_cons_of_mem _ hb')).tiles i hi'
        simp only [inBlock, decide_eq_true_eq] at hin
        simp only [beq_iff_eq]
        omega
    | false =>
      simp only
      have hf : b.seq.find? (fun i => i.currAddr == a) = none := by
        rw [List.find?_eq_none]
        intro i hi
        obtain ⟨g1, g2, g3⟩ := tilesI_mem _ _ hbi.tiles i hi
        simp only [inBlock, decide_eq_false_iff_not] at hin
        simp only [beq_iff_eq]
        omega
      rw [hf, Option.none_or]
      exact ih'

theorem instruction_find (c : Code) (hc : CInv c) (ip : Nat) :
    instruction c ip = some ((insOf c).find? fun i => i.currAddr == ip) := by
  unfold instruction insOf
  rw [Props.C07.code_lookup_exact c hc ip, find_flatMap ip c.store hc.blocks hc.sorted]
  show (match (some (c.store.find? (inBlock ip)) : Option (Option Deps.Block)) with
    | none => none
    | some none => some none
    | some (some b) => b.address ip) = _
  cases hf : c.store.find? (inBlock ip) with
  | none => rfl
  | some b =>
    simp only
    exact Props.C07.block_lookup_exact b (hc.blocks b (List.mem_of_find?_eq_some hf)) ip

theorem lookup_codeViewOf (c : Code) (ip : Nat) :
    (codeViewOf c).lookup ip = ((insOf c).find? fun i => i.currAddr == ip).map emuOf := by
  simp only [codeViewOf, Emulator.CodeView.lookup, List.find?_map]
  rfl

theorem instruction_none_iff (c : Code) (hc : CInv c) (ip : Nat) :
    (codeViewOf c).lookup ip = none ↔ instruction c ip = some none := by
  rw [instruction_find c hc ip, lookup_codeViewOf]
  cases (insOf c).find? fun i => i.currAddr == ip <;> simp

theorem instruction_some_iff (c : Code) (hc : CInv c) (ip : Nat) (e : Emulator.Ins) :
    (codeViewOf c).lookup ip = some e ↔ ∃ i, instruction c ip = some (some i) ∧ emuOf i = e := by
  rw [instruction_find c hc ip, lookup_codeViewOf]
  cases (insOf c).find? fun i => i.currAddr == ip <;> simp

theorem codeViewOf_newCode {bs : List Elf.Block} (ht : Elf.Spec.Tidy bs)
    {is : List (Parse.Ins (Riscv.Entry × Riscv.Ins))} (h : parseRv64 bs = .ok is) (entry : Nat) (c : Code)
    (hc : newCode entry (rawOf is) = .ok c) :
    codeViewOf c = is.map toEmu ∧ Emulator.liftCode bs = some (codeViewOf c) := by
  obtain ⟨hwf, hs⟩ := wf_of_parse ht h
  have h1 : (insOf c).map stripped = rawOf is := newCode_instructions entry (rawOf is) hwf hs c hc
  have h2 : ∀ i ∈ insOf c, i.currAddr = i.origAddr := fun i hi => by
    obtain ⟨b, hb, hib⟩ := List.mem_flatMap.1 hi
    exact (newCode_inv entry (rawOf is) hwf c hc).addrs b hb i hib
  have e : codeViewOf c = is.map toEmu := by
    -- before any move the emulator's view of an instruction is a function of the fields `deps.NewCode` copied
    have e1 : codeViewOf c = ((insOf c).map stripped).map fun r => (⟨r.2.1, r.2.2.1, r.2.2.2⟩ : Emulator.Ins) := by
      rw [List.map_map]
      apply List.map_congr_left
      intro i hi
      simp only [Function.comp, emuOf, stripped, h2 i hi]
    rw [e1, h1, rawOf, List.map_map]
    rfl
  exact ⟨e, by rw [e]; exact liftCode_of_parse ht.1 h⟩

end Mltwist.Lemmas.Compose
