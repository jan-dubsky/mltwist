import Mltwist.Spec.RiscvLift
import Mltwist.Lemmas.RiscvLiftTables
import Mltwist.Lemmas.RiscvLiftValuesM
/-
C01: every table entry lifts correctly.  `StepOK xlen s ρ r efs` is the body of `LiftOK` for one word, state and
valuation, `r` being what the reference does; for every shape of effect list in the schema one lemma `StepOK.of_*` reduces
it to equations about the values of the lifted expressions (`Ctx.eval_*`, from `RiscvLiftValues`, `RiscvLiftValuesM`).
`lift_ok`: for every instruction class the schema's effects do what the reference does for the class, one line per
class and operation; `lift_correct` carries this to the tables (`desc_of_mem`) and to `exec` (`classify_spec`).
At the end, the second property of C01: register `x0` is never written (`lift_noX0`, `entryNoX0_of_mem`), a syntactic fact
about the schema that does not depend on the semantics.
-/
namespace Mltwist.Lemmas.RiscvLift
open Mltwist Mltwist.Riscv Mltwist.Spec.Rv Mltwist.Spec.Lift
open Mltwist.Lemmas.RiscvDecode (Cfg)
open Mltwist.Lemmas.Gadgets (eval_bitXor eval_bitOr eval_bitAnd)
open Mltwist.Lemmas.TwosComplement

/-- The lifted effects of table entry `e` implement the reference semantics of its mnemonic:
for every word matching the entry, from every machine state `s` (represented by the valuation `ρ`),
the reference executes the instruction, and applying the lifted effects (all evaluated in the
pre-state, applied in order; an IP write is a jump, otherwise fall through) yields a valuation
representing the reference post-state, with the same next instruction pointer. -/
def LiftOK (xlen : Nat) (e : Entry) : Prop :=
  ∀ (w : Nat) (s : St) (ρ : Env), w < 2 ^ 32 → e.matchesWord w = true → St.WF xlen s → Rel ρ s →
    noWrap xlen e.name w s = true →
    ∃ s', Spec.Rv.exec xlen e.name w s = some s' ∧
      Rel (Env.applyEffects ρ (e.validEffects ⟨s.pc, w⟩)) s' ∧
      nextIp ρ (e.validEffects ⟨s.pc, w⟩) ((s.pc + 4) % 2 ^ xlen) = s'.pc ∧
      St.WF xlen s'

section
open Mltwist.Lemmas.EvalBasic
open Mltwist.Lemmas.Bytes (trunc_of_lt trunc_trunc trunc_zero trunc_one)

/-- `LiftOK` for one word, state and valuation: `r` is the reference's result (`exec xlen e.name w s`), `efs` the raw
effect list `e.effects ⟨s.pc, w⟩` -/
def StepOK (xlen : Nat) (s : St) (ρ : Env) (r : Option St) (efs : List (Option Effect)) : Prop :=
  ∃ s', r = some s' ∧
    Rel (Env.applyEffects ρ (efs.filterMap id)) s' ∧
    nextIp ρ (efs.filterMap id) ((s.pc + 4) % 2 ^ xlen) = s'.pc ∧ St.WF xlen s'

variable {xlen W : Nat} {ρ : Env} {s : St} {w : Nat}

theorem next_lt (xlen : Nat) (s : St) : (s.pc + 4) % 2 ^ xlen < 2 ^ xlen := Nat.mod_lt _ (Nat.two_pow_pos _)

namespace StepOK

/-- introduction rule in terms of the folds over the raw list -/
theorem intro {efs : List (Option Effect)} {s' : St}
    (hrel : Rel (efs.foldl (applyOpt ρ) ρ) s')
    (hip : efs.foldl (ipOpt ρ) ((s.pc + 4) % 2 ^ xlen) = s'.pc)
    (hwf : St.WF xlen s') : StepOK xlen s ρ (some s') efs :=
  ⟨s', rfl, by rw [applyEffects_filterMap]; exact hrel, by rw [nextIp_filterMap]; exact hip, hwf⟩

/-- the general form: `val` need only have the residue of `v` (`lui`, `lr.d`) -/
theorem of_wr_trunc (h : Ctx xlen W ρ s w) {val : Expr} {v : Nat} (hv : trunc W (val.eval ρ) = v % 2 ^ xlen) :
    StepOK xlen s ρ (wr xlen w s v) [regStore val ⟨s.pc, w⟩ W] := by
  refine StepOK.intro ?_ ?_ ?_
  · exact (h.rel.regStore val s.pc w W hv).withPc _
  · simp [fall]
  · exact (h.wf.set _ (Nat.mod_lt _ (Nat.two_pow_pos _))).withPc (next_lt _ _)

theorem of_wr (h : Ctx xlen W ρ s w) {val : Expr} {v : Nat} (hval : val.eval ρ = v) :
    StepOK xlen s ρ (wr xlen w s v) [regStore val ⟨s.pc, w⟩ W] :=
  .of_wr_trunc h (by rw [h.trunc_eq, hval])

/-- for values already reduced mod `2^xlen` (`add`, `sll`, `mul`) -/
theorem of_wr_mod (h : Ctx xlen W ρ s w) {val : Expr} {v : Nat} (hval : val.eval ρ = v % 2 ^ xlen) :
    StepOK xlen s ρ (wr xlen w s v) [regStore val ⟨s.pc, w⟩ W] :=
  .of_wr_trunc h (by rw [h.trunc_eq, hval, Nat.mod_mod])

/-- an `n`-byte value (`lb`, `lr.w`, …) -/
theorem of_wr_extend (h : Ctx xlen W ρ s w) {val : Expr} {n v : Nat} (h1 : 1 ≤ n) (hn : n ≤ W)
    (hval : val.eval ρ = v) :
    StepOK xlen s ρ (wr xlen w s (Spec.Rv.sext xlen (8 * n) v)) [regStore (extend n W val) ⟨s.pc, w⟩ W] :=
  .of_wr_trunc h (by rw [h.trunc_extend h1 hn, hval, Nat.mod_eq_of_lt (rvsext_lt ..)])

/-- the `…w` forms: only the low 32 bits of the value matter -/
theorem of_w32 (h : Ctx 64 8 ρ s w) {val : Expr} {v v' : Nat} (hval : val.eval ρ = v')
    (hv : v' % 2 ^ 32 = v % 2 ^ 32) :
    StepOK 64 s ρ (w32 64 w s v) [regStore (sext32To64 val) ⟨s.pc, w⟩ 8] :=
  .of_wr h (by rw [eval_sext32To64, hval, ← rvsext_mod 64 32 v', hv, rvsext_mod])

/-- `fence`, `fence.i`, `ecall`, `ebreak` -/
theorem of_nop (h : Ctx xlen W ρ s w) : StepOK xlen s ρ (some (fall xlen s s)) [] :=
  StepOK.intro (h.rel.withPc _) rfl (h.wf.withPc (next_lt _ _))

/-- `p` is the comparison the gadget `f` computes (`hf`: one of `cmp_eq`, `cmp_lts`, `cmp_ltu`) and the reference tests
(`hc`); `neg` says whether the entry branches when it fails. -/
theorem of_br (h : Ctx xlen W ρ s w) {f : CondF} {neg c : Bool} {p : Prop} [Decidable p]
    (hf : ∀ t e : Expr, (f (regLoad .rs1 ⟨s.pc, w⟩ W) (regLoad .rs2 ⟨s.pc, w⟩ W) t e W).eval ρ
      = if p then trunc W (t.eval ρ) else trunc W (e.eval ρ))
    (hc : c = decide p) :
    StepOK xlen s ρ (br xlen w s (if neg then !c else c)) [some (branchCmp f (!neg) ⟨s.pc, w⟩ W)] := by
  have hT : trunc W ((addrImmConst .B ⟨s.pc, w⟩ W).eval ρ) = wrap xlen ((s.pc : Int) + immB w) := by
    rw [h.eval_addrImmConst .B (immParse_B w), h.trunc_of_lt_xlen (wrap_lt _ _)]
  have hN : trunc W ((addrConst (s.pc + 4) W).eval ρ) = (s.pc + 4) % 2 ^ xlen := by
    rw [h.eval_addrConst_next, h.trunc_of_lt_xlen (next_lt _ _)]
  generalize hb : (if neg then !c else c) = b
  refine StepOK.intro (s' := if b = true then { s with pc := wrap xlen ((s.pc : Int) + immB w) } else fall xlen s s)
    ?_ ?_ ?_
  · cases b <;> exact (h.rel.ipWrite _ W).withPc _
  · subst hb hc
    simp only [List.foldl_cons, List.foldl_nil, branchCmp_eq, ipOpt_ip]
    cases neg <;> by_cases hp : p <;>
      simp [hf, hp, hT, hN, fall, h.trunc_of_lt_xlen (next_lt _ _), h.trunc_of_lt_xlen (wrap_lt _ _)]
  · split
    · exact h.wf.withPc (wrap_lt _ _)
    · exact h.wf.withPc (next_lt _ _)

theorem of_jump (h : Ctx xlen W ρ s w) {target following : Expr} {T : Nat}
    (hT' : target.eval ρ = T) (hTlt : T < 2 ^ xlen)
    (hF' : following.eval ρ = (s.pc + 4) % 2 ^ xlen) :
    StepOK xlen s ρ (jump xlen w s T)
      [some (Effect.regStore target Riscv.ipKey W), regStore following ⟨s.pc, w⟩ W] := by
  have hT : trunc W (target.eval ρ) = T := by rw [hT', h.trunc_of_lt_xlen hTlt]
  have hF : trunc W (following.eval ρ) = (s.pc + 4) % 2 ^ xlen := by
    rw [hF', h.trunc_of_lt_xlen (next_lt _ _)]
  refine StepOK.intro ?_ ?_ ?_
  · simp only [List.foldl_cons, List.foldl_nil]
    exact ((h.rel.ipWrite target W).regStore following s.pc w W hF).withPc _
  · simp [hT]
  · exact (h.wf.set _ (next_lt _ _)).withPc hTlt

theorem of_csr (h : Ctx xlen W ρ s w) {new : Expr} {f : Nat → Nat}
    (hnew : new.eval ρ = f (s.csr (csrNum w))) :
    StepOK xlen s ρ (csrOp xlen w s f)
      [regStore (Expr.regLoad (csrKey ⟨s.pc, w⟩) W) ⟨s.pc, w⟩ W,
       some (Effect.regStore new (csrKey ⟨s.pc, w⟩) W)] := by
  have hold : trunc W ((Expr.regLoad (csrKey ⟨s.pc, w⟩) W).eval ρ) = s.csr (csrNum w) := by
    rw [h.eval_csr, h.trunc_of_lt_xlen (h.wf.csr _)]
  refine StepOK.intro ?_ ?_ ?_
  · simp only [List.foldl_cons, List.foldl_nil, csrKey_eq]
    rw [csrKey_eq] at hold
    have := ((h.rel.regStore _ s.pc w W hold).csrWrite (csrNum w) new W
      (show trunc W (new.eval ρ) = _ % 2 ^ xlen by rw [h.trunc_eq, hnew]))
    rw [St.set_setCsr] at this
    exact this.withPc _
  · simp [csrKey_eq, fall]
  · exact ((h.wf.setCsr _ (Nat.mod_lt _ (Nat.two_pow_pos _))).set _ (h.wf.csr _)).withPc (next_lt _ _)

/-- `lr`/`sc`-free atomics: `rd` gets the old memory value, memory the new one.  Both expressions are evaluated in the
pre-state, so the load inside `v` still sees the old memory. -/
theorem of_amo (h : Ctx xlen W ρ s w) {r v addr : Expr} {n A b R : Nat}
    (hR : trunc W (r.eval ρ) = R) (hA : addr.eval ρ = A) (hlt : A < 2 ^ xlen)
    (hn : A + n ≤ 2 ^ xlen) (hv : trunc n (v.eval ρ) = b % 2 ^ (8 * n)) :
    StepOK xlen s ρ (some (fall xlen s ((s.store A b n).set (rd w) R)))
      [regStore r ⟨s.pc, w⟩ W, some (Riscv.memStore v addr n)] := by
  have hp := h.pow_le
  have hRlt : R < 2 ^ xlen := by rw [← hR, h.trunc_eq]; exact Nat.mod_lt _ (Nat.two_pow_pos _)
  refine StepOK.intro ?_ ?_ ?_
  · simp only [List.foldl_cons, List.foldl_nil]
    have := (h.rel.regStore r s.pc w W hR).memStore v addr n hA (by omega) (by omega) hv
    rw [St.set_store] at this
    exact this.withPc _
  · simp [fall]
  · exact ((h.wf.store _ _ _).set _ hRlt).withPc (next_lt _ _)

/-- in the reference `sc` always succeeds and writes 0 to `rd` -/
theorem of_sc (h : Ctx xlen W ρ s w) {v : Expr} {n : Nat}
    (hn : s.get (rs1 w) + n ≤ 2 ^ xlen) (hv : trunc n (v.eval ρ) = s.get (rs2 w) % 2 ^ (8 * n)) :
    StepOK xlen s ρ (some (fall xlen s ((s.store (s.get (rs1 w)) (s.get (rs2 w)) n).set (rd w) 0)))
      [some (Riscv.memStore v (regLoad .rs1 ⟨s.pc, w⟩ W) n), regStore Expr.zero ⟨s.pc, w⟩ W] := by
  have hp := h.pow_le
  have hlt := h.wf.get_lt (rs1 w)
  have h0 : trunc W (Expr.zero.eval ρ) = 0 := by rw [eval_zero, trunc_zero]
  refine StepOK.intro ?_ ?_ ?_
  · simp only [List.foldl_cons, List.foldl_nil]
    exact ((h.rel.memStore v _ n (h.eval_rs1 _) (by omega) (by omega) hv).regStore _ s.pc w W h0).withPc _
  · simp [fall]
  · exact ((h.wf.store _ _ _).set _ (Nat.two_pow_pos _)).withPc (next_lt _ _)

theorem of_store (h : Ctx xlen W ρ s w) {n : Nat} (hn : stAddr xlen w s + n ≤ 2 ^ xlen) :
    StepOK xlen s ρ (some (fall xlen s (s.store (stAddr xlen w s) (s.get (rs2 w)) n)))
      [some (Riscv.memStore (regLoad .rs2 ⟨s.pc, w⟩ W) (regImmOp (binOpFunc .add) .S ⟨s.pc, w⟩ W) n)] := by
  have hp := h.pow_le
  have hlt := stAddr_lt xlen w s
  refine StepOK.intro ?_ ?_ ?_
  · exact (h.rel.memStore _ _ n h.eval_addS (by omega) (by omega) (by rw [h.eval_rs2]; rfl)).withPc _
  · simp [fall]
  · exact (h.wf.store _ _ _).withPc (next_lt _ _)

end StepOK

theorem alu_ok (h : Ctx xlen W ρ s w) {op : Alu} {imm word : Bool} (hd : (Desc.alu op imm word).ok W = true) :
    StepOK xlen s ρ ((Desc.alu op imm word).run xlen w s) ((Desc.alu op imm word).lift W ⟨s.pc, w⟩) := by
  have hw := h.width
  cases word
  · cases imm
    · have hS := h.eval_maskedShamt (a := s.pc) hw h.shiftBits_eq
      cases op with
      | add => exact .of_wr_mod h (h.eval_add hw)
      | sub => exact .of_wr h (h.eval_sub hw)
      | sll => exact .of_wr_mod h (eval_lsh hw h.trunc_reg hS (hw.mod_lt _))
      | srl => exact .of_wr h (eval_rsh hw h.trunc_reg hS (hw.mod_lt _))
      | sra => exact .of_wr h (eval_rshA_of hw h.trunc_reg hS (hw.mod_lt _))
      | slt => exact .of_wr h (eval_flag h.W_pos (cmp_lts hw h.trunc_reg h.trunc_reg))
      | sltu => exact .of_wr h (eval_flag h.W_pos (cmp_ltu h.trunc_reg h.trunc_reg))
      | xor => exact .of_wr h (eval_bin Tools.bitXor (· ^^^ ·) (eval_bitXor ρ · · _) h.trunc_reg h.trunc_reg)
      | or => exact .of_wr h (eval_bin Tools.bitOr (· ||| ·) (eval_bitOr ρ · · _) h.trunc_reg h.trunc_reg)
      | and => exact .of_wr h (eval_bin Tools.bitAnd (· &&& ·) (eval_bitAnd ρ · · _) h.trunc_reg h.trunc_reg)
      | mul => exact .of_wr_mod h (h.eval_mul hw)
      | mulh => exact .of_wr h h.eval_mulh
      | mulhsu => exact .of_wr h h.eval_mulhsu
      | mulhu => exact .of_wr h h.eval_mulhu
      | div => exact .of_wr h (h.eval_div hw)
      | divu => exact .of_wr h (h.eval_divu hw)
      | rem => exact .of_wr h (h.eval_rem hw)
      | remu => exact .of_wr h (h.eval_remu hw)
    · cases op with
      | add => exact .of_wr h (h.eval_addI hw)
      | sll => exact .of_wr_mod h (eval_lsh hw h.trunc_reg h.eval_shamt h.shamt_lt)
      | srl => exact .of_wr h (eval_rsh hw h.trunc_reg h.eval_shamt h.shamt_lt)
      | sra => exact .of_wr h (eval_rshA_of hw h.trunc_reg h.eval_shamt h.shamt_lt)
      | slt => exact .of_wr h (h.sx_immI ▸ eval_flag h.W_pos (cmp_lts hw h.trunc_reg h.trunc_immI))
      | sltu => exact .of_wr h (eval_flag h.W_pos (cmp_ltu h.trunc_reg h.trunc_immI))
      | xor => exact .of_wr h (eval_bin Tools.bitXor (· ^^^ ·) (eval_bitXor ρ · · _) h.trunc_reg h.trunc_immI)
      | or => exact .of_wr h (eval_bin Tools.bitOr (· ||| ·) (eval_bitOr ρ · · _) h.trunc_reg h.trunc_immI)
      | and => exact .of_wr h (eval_bin Tools.bitAnd (· &&& ·) (eval_bitAnd ρ · · _) h.trunc_reg h.trunc_immI)
      | _ => cases hd
  · obtain rfl : W = 8 := Desc.ok_word hd
    obtain rfl : xlen = 64 := h.hX
    have hw := width32
    cases imm
    · have hS := h.eval_maskedShamt (a := s.pc) (sb := shiftBits 4) hw rfl
      cases op with
      | add => exact .of_w32 h (h.eval_add hw) (Nat.mod_mod _ _)
      | sub => exact .of_w32 h (h.eval_sub hw) rfl
      | sll => exact .of_w32 h (eval_lsh hw (h.trunc_reg' 4) hS (hw.mod_lt _)) (Nat.mod_mod _ _)
      | srl => exact .of_w32 h (eval_rsh hw (h.trunc_reg' 4) hS (hw.mod_lt _)) rfl
      | sra => exact .of_w32 h (eval_rshA_of hw (h.trunc_reg' 4) hS (hw.mod_lt _))
                  (congrArg (· % _) (sra_mod 32 _ _))
      | mul => exact .of_w32 h (h.eval_mul hw) (Nat.mod_mod _ _)
      | div => exact .of_w32 h (h.eval_div hw) rfl
      | divu => exact .of_w32 h (h.eval_divu hw) rfl
      | rem => exact .of_w32 h (h.eval_rem hw) rfl
      | remu => exact .of_w32 h (h.eval_remu hw) rfl
      | _ => cases hd
    · cases op with
      | add => exact .of_w32 h (h.eval_addI hw) rfl
      | sll => exact .of_w32 h (eval_lsh hw (h.trunc_reg' 4) eval_shamtw (bits_lt w 20 5)) (Nat.mod_mod _ _)
      | srl => exact .of_w32 h (eval_rsh hw (h.trunc_reg' 4) eval_shamtw (bits_lt w 20 5)) rfl
      | sra => exact .of_w32 h (eval_rshA_of hw (h.trunc_reg' 4) eval_shamtw (bits_lt w 20 5))
                  (congrArg (· % _) (sra_mod 32 _ _))
      | _ => cases hd

/-- The effects the schema gives an instruction class do what the reference does for the class; `hnw`: the access does
not wrap around the address space. -/
theorem lift_ok (h : Ctx xlen W ρ s w) {d : Desc} (hd : d.ok W = true)
    (hnw : ∀ A n, d.access xlen w s = some (A, n) → A + n ≤ 2 ^ xlen) :
    StepOK xlen s ρ (d.run xlen w s) (d.lift W ⟨s.pc, w⟩) := by
  cases d with
  | lui => exact .of_wr_trunc h (h.trunc_lui.trans (Nat.mod_eq_of_lt (wrap_lt _ _)).symm)
  | auipc => exact .of_wr h h.eval_auipc
  | jal => exact .of_jump h (h.eval_addrImmConst .J (immParse_J w)) (wrap_lt _ _) h.eval_following
  | jalr =>
    exact .of_jump h h.eval_jumpTarget (Nat.lt_of_le_of_lt (Nat.div_mul_le_self _ _) (ldAddr_lt _ _ _))
      h.eval_following
  | br c neg =>
    cases c
    · exact .of_br h (cmp_eq h.W_pos h.trunc_reg h.trunc_reg) (Bool.beq_eq_decide_eq ..)
    · exact .of_br h (cmp_lts h.width h.trunc_reg h.trunc_reg) rfl
    · exact .of_br h (cmp_ltu h.trunc_reg h.trunc_reg) rfl
  | load n signed =>
    obtain ⟨h1, hle, -⟩ := Desc.ok_load.1 hd
    have hn := hnw _ _ rfl
    cases signed
    · exact .of_wr h (h.eval_load n hn)
    · exact .of_wr_extend h h1 hle (h.eval_load n hn)
  | store n => exact .of_store h (hnw _ _ rfl)
  | alu op imm word => exact alu_ok h hd
  | nop => exact .of_nop h
  | csr op imm =>
    cases op
    · exact .of_csr h (h.eval_csrSrc imm)
    · exact .of_csr h (h.eval_csrSet (h.eval_csrSrc imm) (h.csrSrc_lt imm))
    · exact .of_csr h (h.eval_csrClear (h.eval_csrSrc imm) (h.csrSrc_lt imm))
  | lr n =>
    obtain ⟨h1, hle⟩ := Desc.ok_lr.1 hd
    have hval := h.eval_amoLoad (a := s.pc) n (hnw _ _ rfl)
    show StepOK xlen s ρ (wr xlen w s (if n = 8 then _ else _)) _
    split
    · -- `lr.d`: the reference leaves out the sign extension of a whole register
      refine .of_wr_trunc h ?_
      rw [h.trunc_extend h1 hle, hval]
      obtain rfl : xlen = 8 * n := by have := h.hX; have := h.W_le; omega
      exact rvsext_self ..
    · exact .of_wr_extend h h1 hle hval
  | sc n => exact .of_sc h (hnw _ _ rfl) (h.trunc_reg' n)
  | amo op n =>
    obtain ⟨h1, hle⟩ := Desc.ok_amo.1 hd
    have hn := hnw _ _ rfl
    have hw : Width (8 * n) n := ⟨rfl, h1, by have := h.W_le; omega⟩
    have hL : trunc n ((Riscv.memLoad (regLoad .rs1 ⟨s.pc, w⟩ W) n).eval ρ) = s.load (s.get (rs1 w)) n := by
      rw [h.eval_amoLoad n hn, trunc_of_lt (load_lt ..)]
    have hB := h.trunc_reg' (r := .rs2) (a := s.pc) n
    refine .of_amo h ((h.trunc_extend h1 hle _).trans (congrArg _ (h.eval_amoLoad n hn))) (h.eval_rs1 _)
      (h.wf.get_lt _) hn (Eq.trans ?_ (Nat.mod_mod _ _).symm)
    cases op
    · exact hB.trans (Nat.mod_mod _ _).symm
    · exact (congrArg _ (eval_bin (binOpFunc .add) (fun A B => (A + B) % 2 ^ (8 * n)) (fun _ _ => rfl) hL hB)).trans
        (trunc_mod_self n _)
    · exact congrArg _ (eval_bin Tools.bitXor (· ^^^ ·) (eval_bitXor ρ · · n) hL hB)
    · exact congrArg _ (eval_bin Tools.bitAnd (· &&& ·) (eval_bitAnd ρ · · n) hL hB)
    · exact congrArg _ (eval_bin Tools.bitOr (· ||| ·) (eval_bitOr ρ · · n) hL hB)
    · exact congrArg _ (eval_minMax false (cmp_lts hw hL hB) hL hB)
    · exact congrArg _ (eval_minMax true (cmp_lts hw hL hB) hL hB)
    · exact congrArg _ ((eval_minMax false (cmp_ltu hL hB) hL hB).trans (min_eq_ite ..).symm)
    · exact congrArg _ ((eval_minMax true (cmp_ltu hL hB) hL hB).trans (max_eq_ite ..).symm)

end

theorem lift_correct (xlen : Nat) (hx : Cfg xlen) (m a : Bool) :
    ∀ e ∈ instructionSet xlen m a, LiftOK xlen e := by
  -- `e.matchesWord w` is not needed: the effects of an entry do what `exec` does at its mnemonic for EVERY word; and
  -- `w < 2 ^ 32` only fills `Ctx.hw`, which no lemma reads
  intro e he w s ρ hw _ hwf hrel hnw
  obtain ⟨d, hc, hd, hl⟩ := desc_of_mem hx he
  obtain ⟨hexec, hacc⟩ := classify_spec xlen w s _ hc
  rw [hexec, Entry.validEffects, hl]
  exact lift_ok ⟨hx.bytes.1, hx.bytes.2, hw, hwf, hrel⟩ hd fun A n ha => le_of_noWrap (hacc.trans ha) hnw

/-! No effect of any table entry is a `RegStore` to the IR register `x0` (`NoX0`): every effect of the schema is built from
`regStore` (which drops the write when `rd = 0`), `memStore`, a write to the instruction pointer or to a CSR, or `branchCmp`.
One lemma for each of these, then `simp` over the classes. -/

/-- an optional effect does not write `x0` -/
def NoX0 (o : Option Effect) : Prop := ∀ v k w, o = some (Effect.regStore v k w) → k ≠ xName 0

@[simp] theorem noX0_none : NoX0 none := fun _ _ _ h => nomatch h
theorem noX0_effRegStore {k : String} (hk : k ≠ xName 0) (v : Expr) (W : Nat) :
    NoX0 (some (Effect.regStore v k W)) := by
  rintro _ _ _ ⟨⟩; exact hk
@[simp] theorem noX0_regStore (e : Expr) (i : Ins) (W : Nat) : NoX0 (Riscv.regStore e i W) := by
  rcases regStore_cases e i W with ⟨_, h⟩ | ⟨h0, h⟩ <;> rw [h]
  · exact noX0_none
  · exact noX0_effRegStore (fun hh => h0 (xName_inj hh)) e W
@[simp] theorem noX0_memStore (v a : Expr) (n : Nat) : NoX0 (some (Riscv.memStore v a n)) :=
  fun _ _ _ h => nomatch h
@[simp] theorem noX0_ip (v : Expr) (W : Nat) : NoX0 (some (Effect.regStore v Riscv.ipKey W)) :=
  noX0_effRegStore (Ne.symm (xName_ne_ipKey 0)) v W
@[simp] theorem noX0_csr (v : Expr) (i : Ins) (W : Nat) :
    NoX0 (some (Effect.regStore v (csrKey i) W)) :=
  noX0_effRegStore (fun h => xName_ne_csrName 0 _ (h.symm.trans (csrKey_eq (a := i.addr)))) v W
@[simp] theorem noX0_branchCmp (f : CondF) (b : Bool) (i : Ins) (W : Nat) :
    NoX0 (some (branchCmp f b i W)) := by
  rw [branchCmp_eq]; exact noX0_ip _ _

/-- no effect of the entry writes `x0` -/
def EntryNoX0 (e : Entry) : Prop := ∀ i, ∀ o ∈ e.effects i, NoX0 o

-- not every class uses every effect form
set_option linter.unusedSimpArgs false in
theorem lift_noX0 (W : Nat) (d : Desc) (i : Ins) : ∀ o ∈ d.lift W i, NoX0 o := by
  cases d <;>
  simp only [Desc.lift, List.forall_mem_cons, List.not_mem_nil, false_imp_iff, implies_true, noX0_regStore,
    noX0_memStore, noX0_ip, noX0_csr, noX0_branchCmp, and_self]

theorem entryNoX0_of_mem {xlen : Nat} {m a : Bool} {e : Entry} (hx : Cfg xlen) (he : e ∈ instructionSet xlen m a) :
    EntryNoX0 e := by
  obtain ⟨d, -, -, hl⟩ := desc_of_mem hx he
  exact fun i => hl ▸ lift_noX0 _ d i

theorem EntryNoX0.validEffects {e : Entry} (h : EntryNoX0 e) (i : Ins) (v : Expr) (k : String)
    (w : Nat) (hm : Effect.regStore v k w ∈ e.validEffects i) : k ≠ xName 0 :=
  h i _ (mem_validEffects.1 hm) v k w rfl

end Mltwist.Lemmas.RiscvLift
