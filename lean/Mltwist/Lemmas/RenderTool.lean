import Mltwist.Lemmas.RenderComp
/-
Proofs for C24: the views the tool builds.  The leaf views (listing, memory, registers, prompt) are good views and exact
(`Exact`, `ExactRows`: granted a declared fixed height they fill it), hence so are the two composites, which have the shape
`composite [·, fixed]` (`pair_good`, `pair_exact`, `pair_exactRows`).  `FitsView` is the property in the form of the
specification (`Spec.Render.Fits`): a good and exact view has it at every height (`fitsView_of_good`).
-/
namespace Mltwist.Lemmas.Render
open Mltwist.Render

theorem linesRows_le (L n : Nat) : Spec.Render.linesRows L n ≤ n := by
  unfold Spec.Render.linesRows; split <;> omega

theorem memRows_le (R b n : Nat) (h : b ≤ R) : Spec.Render.memRows R b n ≤ n := by
  unfold Spec.Render.memRows; split <;> omega

theorem linesView_good (L c : Nat) : Good (linesView L c) :=
  .of_fitsIn (by decide : (0 : Int) ≤ 5) fun n _ => by
    rw [linesView_print]
    exact (RowsOrErr.ok _).fitsIn (linesRows_le L n)

theorem memView_good (R c : Nat) (h : R = 0 ∨ c < R) : Good (memView R c) :=
  .of_fitsIn (by decide : (0 : Int) ≤ 5) fun n hn => by
    have hn : (5 : Int) ≤ n := hn
    rcases h with rfl | hc
    · rw [memView_print_empty]
      exact (RowsOrErr.ok _).fitsIn (by omega)
    · rw [memView_print R c n hc]
      exact (RowsOrErr.ok _).fitsIn (memRows_le R _ n (by omega))

theorem regView_good (regs : List Reg) (h : OneIP regs) : Good (regView regs) :=
  .of_fitsIn (Int.natCast_nonneg _) fun n hn =>
    (regView_print regs h n).fitsIn (Int.ofNat_le.mp hn)

theorem promptView_good : Good promptView :=
  .of_fitsIn (by decide : (0 : Int) ≤ 2) fun n hn => by
    have hn : (2 : Int) ≤ n := hn
    -- the unterminated prompt row counts as two
    have : (Out.text.used : Int) = 2 := rfl
    exact ⟨⟨nofun, nofun⟩, by show (Out.text.used : Int) ≤ n; omega⟩

theorem linesView_safe (L c : Nat) : NeverPanics (linesView L c) := fun n => by
  rw [linesView_print]
  exact (RowsOrErr.ok _).safe

theorem memView_safe (R c : Nat) (h : R = 0 ∨ c < R) : NeverPanics (memView R c) := fun n => by
  rcases h with rfl | hc
  · rw [memView_print_empty]
    exact (RowsOrErr.ok _).safe
  · rw [memView_print R c n hc]
    exact (RowsOrErr.ok _).safe

theorem linesView_exactRows (L c : Nat) : ExactRows (linesView L c) := fun hfix _ => by
  -- a listing declares a fixed height only if it has five lines
  have h5 : (5 : Int) = L := hfix
  show ((linesView L c).print 5).out = ⟨5, false⟩
  rw [linesView_print, Spec.Render.linesRows, if_pos (by omega)]

theorem memView_exactRows (R c : Nat) : ExactRows (memView R c) := fun hfix =>
  absurd (show (5 : Int) = -1 from hfix) (by decide)

theorem regView_exactRows (regs : List Reg) (h : OneIP regs) : ExactRows (regView regs) := fun _ hok =>
  (regView_print regs h _).out_eq hok

theorem promptView_exact : Exact promptView := fun _ _ => rfl

theorem emuView_good (L c : Nat) (regs : List Reg) (h : OneIP regs) : Good (emuView L c regs) :=
  pair_good (linesView_good L c) (regView_good regs h) rfl

theorem emuView_safe (L c : Nat) (regs : List Reg) (h : OneIP regs) : NeverPanics (emuView L c regs) :=
  composite_safe (emuView_good L c regs h)

theorem uiScreen_good (v : View) (h : Good v) : Good (uiScreen v) := pair_good h promptView_good rfl

theorem emuView_exactRows (L c : Nat) (regs : List Reg) (h : OneIP regs) : ExactRows (emuView L c regs) :=
  pair_exactRows (linesView_good L c).min_nonneg ⟨rfl, (regView_good regs h).min_nonneg⟩
    (linesView_exactRows L c) (regView_exactRows regs h)

theorem uiScreen_exact (v : View) (h0 : 0 ≤ v.minLines) (hex : ExactRows v) : Exact (uiScreen v) :=
  pair_exact h0 ⟨rfl, promptView_good.min_nonneg⟩ hex promptView_exact

/-- outcome class of a model status (`outOfFuel`, which never occurs, counts as a crash) -/
def toOutcome : Status → Spec.Render.Outcome
  | .ok => .ok
  | .err => .err
  | .panic => .panic
  | .outOfFuel => .panic

/-- **Property C24 for one view state and one height**: what `Print(n)` of the model writes satisfies
the specification with the bounds the view declares. -/
def FitsView (v : View) (n : Nat) : Prop :=
  Spec.Render.Fits v.minLines v.maxLines n (toOutcome (v.print n).status) (v.print n).out.nl (v.print n).out.op

theorem spec_used (o : Out) : Spec.Render.used o.nl o.op = o.used := rfl

theorem toOutcome_ne_panic (s : Status) (h : s ≠ .panic ∧ s ≠ .outOfFuel) : toOutcome s ≠ .panic := by
  cases s <;> simp_all [toOutcome]

theorem toOutcome_ok (s : Status) (h : toOutcome s = .ok) : s = .ok := by
  cases s <;> simp_all [toOutcome]

theorem fitsView_of_good (v : View) (hg : Good v) (hex : Exact v) (n : Nat) : FitsView v n := by
  unfold FitsView Spec.Render.Fits
  rw [spec_used]
  refine ⟨fun hn => ?_, fun hfix hn hok => ?_⟩
  · have hf := hg.fitsIn n hn
    exact ⟨toOutcome_ne_panic _ hf.safe, hf.used_le⟩
  · have hn' : v.minLines.toNat = n := by omega
    rw [← hn'] at hok ⊢
    rw [hex hfix (toOutcome_ok _ hok)]
    have := hg.min_nonneg; omega

theorem fitsView_of_rows (v : View) (hg : Good v) (hex : ExactRows v) (n : Nat) : FitsView v n :=
  fitsView_of_good v hg (hex.exact hg.min_nonneg) n

end Mltwist.Lemmas.Render
