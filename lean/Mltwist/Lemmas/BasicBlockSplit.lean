import Mltwist.Lemmas.BasicBlockBasic
/-
C08: `blocks.split(A)`.  On the blocks of a list of runs that satisfies `GInv` (runs non-empty and
contiguous, the whole sorted and well-formed) it is `groups (atAddr A)` on every run, one more cut relation,
or an error when no instruction starts at `A`; on any blocks with non-empty sequences it does not panic and
keeps the sequences non-empty.  Addresses are compared as natural numbers: within `SortedWF` neither
`End()` nor `last()` wraps (`contig_head`, `last_newBlock`).

`Contig` and `SortedWF` are the forms of `Spec.Contiguous` and `Spec.WF` that the model's arithmetic produces
(`End()` modulo `2^64`; sorted instead of pairwise disjoint); `contiguous_of_contig` and `sortedWF_sortIns`
(in `BasicBlock.lean`) lead back to the specification's.
-/
namespace Mltwist.Lemmas.BasicBlock
open Mltwist Mltwist.BasicBlock Mltwist.BasicBlock.Spec

/-- sorted, non-overlapping, positive lengths, nothing beyond `2^64` -/
def SortedWF (l : List Ins) : Prop :=
  (∀ i ∈ l, 0 < i.len ∧ i.addr + i.len ≤ M) ∧ l.Pairwise fun a b => a.addr + a.len ≤ b.addr

/-- the bytes of a run, as a natural number (`seqBytes` is this modulo `2^64`) -/
def sumLen (g : List Ins) : Nat := (g.map (·.len)).sum

/-- exclusive end of a run, as a natural number -/
def gEnd : List Ins → Nat
  | [] => 0
  | a :: rest => a.addr + sumLen (a :: rest)

theorem SortedWF.tail {a : Ins} {l : List Ins} (h : SortedWF (a :: l)) : SortedWF l :=
  ⟨fun i hi => h.1 i (List.mem_cons_of_mem _ hi), (List.pairwise_cons.1 h.2).2⟩

theorem seqBytes_eq (g : List Ins) (h : ∀ i ∈ g, 0 < i.len ∧ i.addr + i.len ≤ M) :
    seqBytes g = sumLen g % M := by
  induction g with
  | nil => simp [seqBytes, sumLen]
  | cons a rest ih =>
    have ha := h a (List.mem_cons_self ..)
    have := ih (fun i hi => h i (List.mem_cons_of_mem _ hi))
    simp only [seqBytes, this, sumLen, List.map_cons, List.sum_cons, Ins.end_]
    simp only [sumLen] at this
    unfold M at *
    omega

theorem contig_head {a b : Ins} {rest : List Ins} (hc : Contig (a :: b :: rest)) (hw : SortedWF (a :: b :: rest)) :
    a.addr + a.len = b.addr := by
  have hab : a.addr + a.len ≤ b.addr := (List.pairwise_cons.1 hw.2).1 b (List.mem_cons_self ..)
  have hb := hw.1 b (List.mem_cons_of_mem _ (List.mem_cons_self ..))
  have he : a.end_ = b.addr := hc.1
  unfold Ins.end_ M at he
  unfold M at hb
  omega

theorem gEnd_cons {a b : Ins} {rest : List Ins} (hc : Contig (a :: b :: rest)) (hw : SortedWF (a :: b :: rest)) :
    gEnd (a :: b :: rest) = gEnd (b :: rest) := by
  have := contig_head hc hw
  simp only [gEnd, sumLen, List.map_cons, List.sum_cons]
  omega

theorem contig_end_le (g : List Ins) (hc : Contig g) (hw : SortedWF g) :
    ∀ x ∈ g, x.addr + x.len ≤ gEnd g := by
  induction g with
  | nil => nofun
  | cons a rest ih =>
    cases rest with
    | nil => simp [gEnd, sumLen]
    | cons b rest =>
      rw [gEnd_cons hc hw]
      intro x hx
      rcases List.mem_cons.1 hx with rfl | hx
      · rw [contig_head hc hw]
        exact Nat.le_add_right _ _
      · exact ih hc.2 hw.tail x hx

theorem contig_end_mem (a : Ins) (rest : List Ins) (hc : Contig (a :: rest)) (hw : SortedWF (a :: rest)) :
    ∃ z ∈ a :: rest, gEnd (a :: rest) = z.addr + z.len := by
  induction rest generalizing a with
  | nil => exact ⟨a, by simp, by simp [gEnd, sumLen]⟩
  | cons b rest ih =>
    obtain ⟨z, hz, hzE⟩ := ih b hc.2 hw.tail
    exact ⟨z, List.mem_cons_of_mem _ hz, (gEnd_cons hc hw).trans hzE⟩

theorem gEnd_le_M (g : List Ins) (hc : Contig g) (hw : SortedWF g) : gEnd g ≤ M := by
  cases g with
  | nil => simp [gEnd]
  | cons a rest =>
    obtain ⟨z, hz, hzE⟩ := contig_end_mem a rest hc hw
    rw [hzE]; exact (hw.1 z hz).2

theorem begin_newBlock (a : Ins) (rest : List Ins) : (newBlock (a :: rest)).begin = .ok a.addr := rfl

theorem last_newBlock (g : List Ins) (hne : g ≠ []) (hc : Contig g) (hw : SortedWF g) :
    (newBlock g).last = .ok (gEnd g - 1) := by
  obtain ⟨a, rest, rfl⟩ := List.exists_cons_of_ne_nil hne
  have hM := gEnd_le_M _ hc hw
  have hs := seqBytes_eq (a :: rest) hw.1
  have ha := hw.1 a (List.mem_cons_self ..)
  have hpos : a.len ≤ sumLen (a :: rest) := by simp [sumLen]
  simp only [Block.last, Block.begin, bind, Except.bind, pure, Except.pure, newBlock, hs]
  simp only [gEnd] at hM ⊢
  generalize sumLen (a :: rest) = S at *
  have : (a.addr + S % M + (M - 1)) % M = a.addr + S - 1 := by
    unfold M at *
    omega
  rw [this]

theorem head_lt_gEnd {a : Ins} {rest : List Ins} (hw : SortedWF (a :: rest)) : a.addr < gEnd (a :: rest) := by
  have := (hw.1 a (List.mem_cons_self ..)).1
  simp [gEnd, sumLen]; omega

theorem SortedWF.addr_lt {l : List Ins} (h : SortedWF l) : l.Pairwise fun a b => a.addr < b.addr := by
  have h1 : ∀ a ∈ l, 0 < a.len := fun a ha => (h.1 a ha).1
  refine List.Pairwise.imp_of_mem ?_ h.2
  intro a b ha _ hab
  have := h1 a ha
  omega

/-- invariant of the list of runs during the splitting stages -/
structure GInv (gs : List (List Ins)) : Prop where
  wf : SortedWF gs.flatten
  ne : ∀ g ∈ gs, g ≠ []
  contig : ∀ g ∈ gs, Contig g

theorem GInv.wf_mem {gs : List (List Ins)} (h : GInv gs) {g : List Ins} (hg : g ∈ gs) : SortedWF g :=
  ⟨fun i hi => h.wf.1 i (List.mem_flatten.2 ⟨g, hg, hi⟩), (List.pairwise_flatten.1 h.wf.2).1 g hg⟩

theorem GInv.pairwise {gs : List (List Ins)} (h : GInv gs) :
    gs.Pairwise fun g h => ∀ x ∈ g, ∀ y ∈ h, x.addr + x.len ≤ y.addr :=
  (List.pairwise_flatten.1 h.wf.2).2

theorem GInv.gEnd_le {gs : List (List Ins)} (hI : GInv gs) :
    gs.Pairwise fun g h => ∀ y ∈ h, gEnd g ≤ y.addr :=
  hI.pairwise.imp_of_mem fun {g _} hg _ hb y hy => by
    obtain ⟨a, rest, rfl⟩ := List.exists_cons_of_ne_nil (hI.ne g hg)
    obtain ⟨z, hz, hzE⟩ := contig_end_mem a rest (hI.contig _ hg) (hI.wf_mem hg)
    rw [hzE]
    exact hb z hz y hy

theorem search_blockPred (gs : List (List Ins)) (hI : GInv gs) (A : Nat) :
    ∃ pre post, gs = pre ++ post ∧
      search (gs.map newBlock).length (blockPred (gs.map newBlock) A) = .ok pre.length ∧
      (∀ h ∈ pre, gEnd h ≤ A) ∧ ∀ h ∈ post, A < gEnd h := by
  obtain ⟨pre, post, hgs, hk, hpre, hpost⟩ := search_list gs (blockPred (gs.map newBlock) A)
    (fun g => decide (gEnd g - 1 ≥ A))
    (fun i hi => by
      have hm := List.getElem_mem hi
      simp only [blockPred, List.getElem?_map, List.getElem?_eq_getElem hi, Option.map_some,
        last_newBlock _ (hI.ne _ hm) (hI.contig _ hm) (hI.wf_mem hm), bind, Except.bind, pure, Except.pure])
    (hI.gEnd_le.imp_of_mem fun {g h} _ hh hgh hg => by
      obtain ⟨y, rest, rfl⟩ := List.exists_cons_of_ne_nil (hI.ne h hh)
      have := hgh y (List.mem_cons_self ..)
      have := head_lt_gEnd (hI.wf_mem hh)
      simp only [decide_eq_true_eq] at hg ⊢
      omega)
  refine ⟨pre, post, hgs, by rw [List.length_map]; exact hk, fun h hh => ?_, fun h hh => ?_⟩
  · have := hpre h hh
    simp only [decide_eq_false_iff_not] at this
    omega
  · have := hpost h hh
    simp only [decide_eq_true_eq] at this
    obtain ⟨y, rest, rfl⟩ := List.exists_cons_of_ne_nil (hI.ne h (hgs ▸ List.mem_append_right _ hh))
    have := head_lt_gEnd (hI.wf_mem (hgs ▸ List.mem_append_right pre hh))
    omega

theorem blockSplit_unfold (b : Block) (A k : Nat) (c : Bool) (hc : b.contains A = .ok c)
    (hk : search b.seq.length (insPred b.seq A) = .ok k) :
    b.split A =
      if c = false then .error (.err .notContained)
      else if k = b.seq.length then .error (.err .notFound) else
        match b.seq[k]? with
        | none => .error .panic
        | some x => if x.addr ≠ A then .error (.err .notBoundary)
                    else .ok (newBlock (b.seq.take k), newBlock (b.seq.drop k)) := by
  simp only [Block.split, hc, bind, Except.bind, throw, throwThe, MonadExceptOf.throw, pure, Except.pure, hk]
  cases c with
  | false => simp
  | true =>
    simp only [Bool.not_true, Bool.false_eq_true, if_false]
    by_cases hkl : k = b.seq.length
    · simp [hkl]
    · simp only [hkl, if_false]
      cases b.seq[k]? with
      | none => rfl
      | some x => by_cases hx : x.addr = A <;> simp [hx]

/-- `hlo` speaks of `g.head?` so that `g` stays a variable: the proof writes it as the two parts the search delivers -/
theorem blockSplit_spec (g : List Ins) (hc : Contig g) (hw : SortedWF g) (A : Nat)
    (hlo : ∀ a ∈ g.head?, a.addr < A) (hhi : A < gEnd g) :
    (A ∈ g.map (·.addr) →
      ∃ s u, groups (atAddr A) g = [s, u] ∧ (newBlock g).split A = .ok (newBlock s, newBlock u)) ∧
    (A ∉ g.map (·.addr) → ∃ c, (newBlock g).split A = .error (.err c)) := by
  have hcont : (newBlock g).contains A = .ok true := by
    have hne : g ≠ [] := fun h => by rw [h] at hhi; exact Nat.not_lt_zero _ hhi
    obtain ⟨a, rest, rfl⟩ := List.exists_cons_of_ne_nil hne
    have ha : a.addr < A := hlo a rfl
    simp only [Block.contains, last_newBlock _ hne hc hw, bind, Except.bind, pure, Except.pure, begin_newBlock]
    congr 1
    simp only [Bool.and_eq_true, decide_eq_true_eq]
    omega
  have hlt := hw.addr_lt
  obtain ⟨pre, post, rfl, hk, hpre, hpost⟩ := search_list g (insPred g A) (fun x => decide (x.addr ≥ A))
    (fun i hi => by simp only [insPred, List.getElem?_eq_getElem hi])
    (hlt.imp fun hxy hx => by simp only [decide_eq_true_eq] at hx ⊢; omega)
  have hpre' : ∀ b ∈ pre, b.addr < A := fun b hb => by simpa using hpre b hb
  rw [blockSplit_unfold _ A _ true hcont hk]
  cases post with
  | nil =>
    refine ⟨fun hA => ?_, fun _ => ⟨.notFound, by simp [newBlock]⟩⟩
    obtain ⟨x, hx, hxA⟩ := List.mem_map.1 hA
    have := hpre' x (by simpa using hx)
    omega
  | cons x t =>
    have hx : A ≤ x.addr := by simpa using hpost x (List.mem_cons_self ..)
    have ht : ∀ b ∈ t, x.addr < b.addr := (List.pairwise_cons.1 (List.pairwise_append.1 hlt).2.1).1
    have hsplit : (newBlock (pre ++ x :: t)).seq[pre.length]? = some x := by simp [newBlock]
    simp only [Bool.true_eq_false, if_false, hsplit]
    have hlen : ¬ pre.length = (newBlock (pre ++ x :: t)).seq.length := by simp [newBlock]
    rw [if_neg hlen]
    by_cases hxA : x.addr = A
    · refine ⟨fun _ => ⟨pre, x :: t, ?_, by simp [hxA, newBlock]⟩, fun hA => ?_⟩
      · refine groups_atAddr_split A pre x t ?_ hxA (fun b hb => Nat.ne_of_lt (hpre' b (List.mem_of_mem_tail hb)))
          (fun b hb => by have := ht b hb; omega)
        rintro rfl
        have := hlo x rfl
        omega
      · exact absurd (List.mem_map.2 ⟨x, by simp, hxA⟩) hA
    · refine ⟨fun hA => ?_, fun _ => ⟨.notBoundary, by simp [hxA]⟩⟩
      obtain ⟨y, hy, hyA⟩ := List.mem_map.1 hA
      rcases List.mem_append.1 hy with hy | hy
      · have := hpre' y hy
        omega
      · rcases List.mem_cons.1 hy with rfl | hy
        · exact absurd hyA hxA
        · have := ht y hy
          omega

theorem blocksSplit_unfold (bs : List Block) (A k : Nat)
    (hk : search bs.length (blockPred bs A) = .ok k) :
    blocksSplit bs A =
      match bs[k]? with
      | none => .error (.err .noBlock)
      | some b =>
        match b.begin with
        | .error e => .error e
        | .ok bg =>
          if A < bg then .error (.err .noBlock)
          else if bg = A then .ok bs
          else
            match b.split A with
            | .error e => .error e
            | .ok (b1, b2) => .ok (insertShift bs k b1 b2) := by
  simp only [blocksSplit, hk, bind, Except.bind, throw, throwThe, MonadExceptOf.throw, pure, Except.pure]
  cases bs[k]? with
  | none => rfl
  | some b =>
    simp only
    cases b.begin with
    | error e => rfl
    | ok bg =>
      simp only
      by_cases h1 : A < bg
      · simp [h1]
      · by_cases h2 : bg = A
        · simp [h2]
        · simp only [h1, h2, if_false]
          cases b.split A with
          | error e => rfl
          | ok p => rfl

theorem flatMap_eq_self_of {α} (f : List α → List (List α)) (gs : List (List α))
    (h : ∀ g ∈ gs, f g = [g]) : gs.flatMap f = gs := by
  induction gs with
  | nil => rfl
  | cons g gs ih =>
    rw [List.flatMap_cons, h g (List.mem_cons_self ..), ih (fun g' hg' => h g' (List.mem_cons_of_mem _ hg'))]
    rfl

theorem blocksSplit_groups (gs : List (List Ins)) (hI : GInv gs) (A : Nat) :
    (A ∈ gs.flatten.map (·.addr) →
      blocksSplit (gs.map newBlock) A = .ok ((gs.flatMap (groups (atAddr A))).map newBlock)) ∧
    (A ∉ gs.flatten.map (·.addr) → ∃ c, blocksSplit (gs.map newBlock) A = .error (.err c)) := by
  obtain ⟨pre, post, rfl, hk, hpre, hpost⟩ := search_blockPred gs hI A
  rw [blocksSplit_unfold _ _ _ hk]
  have hpre' : ∀ h ∈ pre, ∀ b ∈ h, b.addr < A := fun h hh b hb => by
    have hm : h ∈ pre ++ post := List.mem_append_left _ hh
    have := contig_end_le h (hI.contig _ hm) (hI.wf_mem hm) b hb
    have := (hI.wf_mem hm).1 b hb
    have := hpre h hh
    omega
  cases post with
  | nil =>
    have e : ((pre ++ []).map newBlock)[pre.length]? = none := by simp
    rw [e]
    refine ⟨fun hA => ?_, fun _ => ⟨_, rfl⟩⟩
    obtain ⟨x, hx, hxA⟩ := List.mem_map.1 hA
    obtain ⟨h, hh, hxh⟩ := List.mem_flatten.1 hx
    have := hpre' h (by simpa using hh) x hxh
    omega
  | cons g post =>
    have hgm : g ∈ pre ++ g :: post := by simp
    obtain ⟨a, rest, rfl⟩ := List.exists_cons_of_ne_nil (hI.ne g hgm)
    have hwg := hI.wf_mem hgm
    have hAg : A < gEnd (a :: rest) := hpost _ (List.mem_cons_self ..)
    have hrest : ∀ b ∈ rest, a.addr < b.addr := (List.pairwise_cons.1 hwg.addr_lt).1
    have hpost' : ∀ h ∈ post, ∀ b ∈ h, A < b.addr := fun h hh b hb => by
      have := (List.pairwise_cons.1 (List.pairwise_append.1 hI.gEnd_le).2.1).1 h hh b hb
      omega
    -- so an instruction at `A` can only be in the run `a :: rest`, and the other runs stay as they are
    have hwhere : A ∈ (pre ++ (a :: rest) :: post).flatten.map (·.addr) ↔ A ∈ (a :: rest).map (·.addr) := by
      constructor
      · intro hA
        obtain ⟨x, hx, hxA⟩ := List.mem_map.1 hA
        simp only [List.flatten_append, List.flatten_cons, List.mem_append, List.mem_flatten] at hx
        rcases hx with ⟨h, hh, hxh⟩ | hx | ⟨h, hh, hxh⟩
        · have := hpre' h hh x hxh
          omega
        · exact List.mem_map.2 ⟨x, hx, hxA⟩
        · have := hpost' h hh x hxh
          omega
      · intro hA
        obtain ⟨x, hx, hxA⟩ := List.mem_map.1 hA
        exact List.mem_map.2 ⟨x, List.mem_flatten.2 ⟨_, hgm, hx⟩, hxA⟩
    have hflat : (pre ++ (a :: rest) :: post).flatMap (groups (atAddr A)) =
        pre ++ groups (atAddr A) (a :: rest) ++ post := by
      rw [List.flatMap_append, List.flatMap_cons, List.append_assoc,
        flatMap_eq_self_of _ pre fun h hh => groups_atAddr_none A h (hI.ne _ (List.mem_append_left _ hh))
          fun b hb => Nat.ne_of_lt (hpre' h hh b (List.mem_of_mem_tail hb)),
        flatMap_eq_self_of _ post fun h hh => groups_atAddr_none A h (hI.ne _ (by simp [hh]))
          fun b hb => Nat.ne_of_gt (hpost' h hh b (List.mem_of_mem_tail hb))]
    have e : ((pre ++ (a :: rest) :: post).map newBlock)[pre.length]? = some (newBlock (a :: rest)) := by simp
    rw [e, hwhere, hflat]
    simp only [begin_newBlock]
    by_cases h1 : A < a.addr
    · rw [if_pos h1]
      refine ⟨fun hA => ?_, fun _ => ⟨_, rfl⟩⟩
      obtain ⟨x, hx, hxA⟩ := List.mem_map.1 hA
      rcases List.mem_cons.1 hx with rfl | hx
      · omega
      · have := hrest x hx
        omega
    · rw [if_neg h1]
      by_cases h2 : a.addr = A
      · rw [if_pos h2, groups_atAddr_none A (a :: rest) (by simp) fun b hb => by have := hrest b hb; omega]
        exact ⟨fun _ => by simp, fun hA => absurd (List.mem_map.2 ⟨a, List.mem_cons_self .., h2⟩) hA⟩
      · rw [if_neg h2]
        obtain ⟨hsa, hsb⟩ := blockSplit_spec (a :: rest) (hI.contig _ hgm) hwg A
          (fun a' ha' => by cases ha'; omega) hAg
        refine ⟨fun hA => ?_, fun hA => ?_⟩
        · obtain ⟨s, u, hsu, hsp⟩ := hsa hA
          rw [hsp, hsu]
          simp only
          rw [List.map_append, List.map_cons, ← List.length_map (as := pre) newBlock, insertShift_append]
          simp
        · obtain ⟨c, hc⟩ := hsb hA
          exact ⟨c, by rw [hc]⟩

theorem begin_ok_of_ne (b : Block) (h : b.seq ≠ []) : ∃ bg, b.begin = .ok bg ∧ ∀ x ∈ b.seq.head?, x.addr = bg := by
  unfold Block.begin
  cases hs : b.seq with
  | nil => exact absurd hs h
  | cons a rest => exact ⟨a.addr, rfl, by simp⟩

theorem last_ok_of_ne (b : Block) (h : b.seq ≠ []) : ∃ l, b.last = .ok l := by
  obtain ⟨bg, hbg, _⟩ := begin_ok_of_ne b h
  simp only [Block.last, hbg, bind, Except.bind, pure, Except.pure]
  exact ⟨_, rfl⟩

theorem blockSplit_nopanic (b : Block) (h : b.seq ≠ []) (A : Nat)
    (hb : ∀ x ∈ b.seq.head?, x.addr ≠ A) :
    b.split A ≠ .error .panic ∧
    ∀ b1 b2, b.split A = .ok (b1, b2) → b1.seq ≠ [] ∧ b2.seq ≠ [] := by
  obtain ⟨bg, hbg, hhead⟩ := begin_ok_of_ne b h
  obtain ⟨l, hl⟩ := last_ok_of_ne b h
  have hcont : b.contains A = .ok (decide (A ≥ bg) && decide (A ≤ l)) := by
    simp only [Block.contains, hbg, hl, bind, Except.bind, pure, Except.pure]
  obtain ⟨k, hk, hkn⟩ := search_total (insPred b.seq A) b.seq.length (by
    intro i hi
    simp only [insPred, List.getElem?_eq_getElem hi]
    exact ⟨_, rfl⟩)
  -- the branches of `blockSplit_unfold`, in its order
  rw [blockSplit_unfold b A k _ hcont hk]
  split
  · simp -- not contained
  split
  · simp -- the search ran to the end
  next hkl =>
    have hkl' : k < b.seq.length := by omega
    rw [List.getElem?_eq_getElem hkl']
    simp only
    split
    · simp -- no instruction starts at `A`
    next hx =>
      -- the cut: `k ≠ 0` since the head does not stand at `A`, and `k` is a position
      refine ⟨by simp, ?_⟩
      rintro b1 b2 ⟨⟩
      have hk0 : k ≠ 0 := by
        rintro rfl
        exact hx (hb _ (by rw [List.head?_eq_getElem?, List.getElem?_eq_getElem hkl']; rfl))
      exact ⟨by simpa [newBlock, List.take_eq_nil_iff] using ⟨hk0, h⟩,
        by simp [newBlock, List.drop_eq_nil_iff]; omega⟩

theorem blocksSplit_nopanic (bs : List Block) (hne : ∀ b ∈ bs, b.seq ≠ []) (A : Nat) :
    blocksSplit bs A ≠ .error .panic ∧
    ∀ bs', blocksSplit bs A = .ok bs' → ∀ b ∈ bs', b.seq ≠ [] := by
  obtain ⟨k, hk, _⟩ := search_total (blockPred bs A) bs.length (fun i hi => by
    obtain ⟨l, hl⟩ := last_ok_of_ne bs[i] (hne _ (List.getElem_mem hi))
    simp only [blockPred, List.getElem?_eq_getElem hi, hl, bind, Except.bind, pure, Except.pure]
    exact ⟨_, rfl⟩)
  -- the branches of `blocksSplit_unfold`, in its order
  rw [blocksSplit_unfold bs A k hk]
  split
  · simp -- no block ends above `A`
  next b hbk =>
    have hmem : b ∈ bs := List.mem_of_getElem? hbk
    obtain ⟨bg, hbg, hhead⟩ := begin_ok_of_ne b (hne _ hmem)
    simp only [hbg]
    split
    · simp -- `A` lies before the block
    split
    · exact ⟨nofun, fun bs' h => by cases h; exact hne⟩ -- `A` is the begin of the block: nothing to do
    next h1 h2 =>
      -- `A` lies behind the begin of `b`: `b` is split, and both parts are non-empty
      obtain ⟨hnp, hok⟩ := blockSplit_nopanic b (hne _ hmem) A fun x hx hxa => h2 ((hhead x hx).symm.trans hxa)
      split
      next e hs => exact ⟨fun he => hnp (by rw [hs]; cases he; rfl), nofun⟩
      next b1 b2 hs =>
        refine ⟨nofun, fun bs' h => ?_⟩
        cases h
        obtain ⟨h1', h2'⟩ := hok b1 b2 hs
        rw [insertShift_eq _ _ _ _ (List.getElem?_eq_some_iff.1 hbk).1]
        intro b hb
        simp only [List.mem_append, List.mem_cons] at hb
        rcases hb with hb | rfl | rfl | hb
        · exact hne b (List.mem_of_mem_take hb)
        · exact h1'
        · exact h2'
        · exact hne b (List.mem_of_mem_drop hb)

end Mltwist.Lemmas.BasicBlock
