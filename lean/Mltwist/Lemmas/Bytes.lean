import Mltwist.Model.Expreval
/-
Little-endian byte strings: `trunc w` cuts a number to `w` bytes; `leToNat` and `natToLE` are inverse up to `trunc`;
`Expreval.setWidth` truncates or zero-extends (`setWidth_eq_natToLE`); bitwise and/not byte by byte are those of the values.
Powers appear as `256^n` where bytes are counted (inductions over the list) and as `2^(8n)` where the reference semantics
speaks; `two_pow_eight_mul` converts, and where both forms of a fact have users the `256^n` form carries `pow256` in its
name or the `2^(8n)` form `two_pow`.
-/
namespace Mltwist.Lemmas.Bytes
open Mltwist

theorem two_pow_eight_mul (n : Nat) : 2 ^ (8 * n) = 256 ^ n := by
  rw [Nat.pow_mul]

theorem pow256_pos (n : Nat) : 0 < 256 ^ n := Nat.pow_pos (by decide)

theorem pow256_succ (n : Nat) : 256 ^ (n + 1) = 256 * 256 ^ n := by
  rw [Nat.pow_succ, Nat.mul_comm]

theorem pow256_add (a b : Nat) : 256 ^ (a + b) = 256 ^ a * 256 ^ b := Nat.pow_add 256 a b

theorem pow8_succ (n : Nat) : 2 ^ (8 * (n + 1)) = 256 * 2 ^ (8 * n) := by
  rw [two_pow_eight_mul, two_pow_eight_mul, pow256_succ]

theorem two_pow_sub_mul {n s : Nat} (h : s ≤ n) : 2 ^ (n - s) * 2 ^ s = 2 ^ n := by
  rw [← Nat.pow_add, Nat.sub_add_cancel h]

theorem trunc_eq_mod (w x : Nat) : trunc w x = x % 2 ^ (8 * w) := rfl

theorem trunc_eq (w x : Nat) : trunc w x = x % 256 ^ w := by
  rw [trunc, two_pow_eight_mul]

theorem trunc_lt_pow256 (w x : Nat) : trunc w x < 256 ^ w := by
  rw [trunc_eq]; exact Nat.mod_lt _ (pow256_pos w)

theorem trunc_lt' (w x : Nat) : trunc w x < 2 ^ (8 * w) := by
  rw [two_pow_eight_mul]; exact trunc_lt_pow256 w x

theorem trunc_of_lt_pow256 {w x : Nat} (h : x < 256 ^ w) : trunc w x = x := by
  rw [trunc_eq]; exact Nat.mod_eq_of_lt h

theorem trunc_of_lt {w x : Nat} (h : x < 2 ^ (8 * w)) : trunc w x = x := Nat.mod_eq_of_lt h

@[simp] theorem trunc_trunc (w x : Nat) : trunc w (trunc w x) = trunc w x :=
  trunc_of_lt (trunc_lt' w x)

theorem trunc_trunc_of_le {w x : Nat} (h : w ≤ x) (v : Nat) : trunc w (trunc x v) = trunc w v :=
  Nat.mod_mod_of_dvd v (Nat.pow_dvd_pow 2 (by omega))

@[simp] theorem trunc_zero (w : Nat) : trunc w 0 = 0 := by simp [trunc]

theorem trunc_one {w : Nat} (hw : 1 ≤ w) : trunc w 1 = 1 :=
  trunc_of_lt (Nat.one_lt_two_pow (by omega))

theorem trunc_ones (w : Nat) : trunc w (2 ^ (8 * w) - 1) = 2 ^ (8 * w) - 1 :=
  trunc_of_lt (Nat.sub_one_lt (Nat.ne_of_gt (Nat.two_pow_pos _)))

@[simp] theorem leToNat_nil : leToNat [] = 0 := rfl

@[simp] theorem leToNat_cons (b : UInt8) (bs : List UInt8) :
    leToNat (b :: bs) = b.toNat + 256 * leToNat bs := rfl

theorem leToNat_lt_pow256 (bs : List UInt8) : leToNat bs < 256 ^ bs.length := by
  induction bs with
  | nil => simp
  | cons b bs ih =>
    have := b.toNat_lt
    rw [leToNat_cons, List.length_cons, pow256_succ]
    omega

theorem leToNat_lt (bs : List UInt8) : leToNat bs < 2 ^ (8 * bs.length) := by
  rw [two_pow_eight_mul]; exact leToNat_lt_pow256 bs

theorem leToNat_append (a b : List UInt8) :
    leToNat (a ++ b) = leToNat a + 256 ^ a.length * leToNat b := by
  induction a with
  | nil => simp
  | cons x a ih =>
    rw [List.cons_append, leToNat_cons, ih, leToNat_cons, List.length_cons, pow256_succ,
      Nat.mul_add, Nat.mul_assoc, Nat.add_assoc]

theorem leToNat_append_two_pow (a b : List UInt8) :
    leToNat (a ++ b) = leToNat a + 2 ^ (8 * a.length) * leToNat b := by
  rw [leToNat_append, two_pow_eight_mul]

@[simp] theorem leToNat_replicate_zero (n : Nat) : leToNat (List.replicate n 0) = 0 := by
  induction n with
  | zero => rfl
  | succ n ih => rw [List.replicate_succ, leToNat_cons, ih]; rfl

theorem and_byte_split (a b A B : Nat) (ha : a < 256) (hb : b < 256) :
    (a + 256 * A) &&& (b + 256 * B) = (a &&& b) + 256 * (A &&& B) := by
  have ha' : a < 2 ^ 8 := ha
  have hb' : b < 2 ^ 8 := hb
  have hab : a &&& b < 2 ^ 8 := Nat.and_lt_two_pow a hb'
  apply Nat.eq_of_testBit_eq
  intro i
  have e1 : a + 256 * A = 2 ^ 8 * A + a := by omega
  have e2 : b + 256 * B = 2 ^ 8 * B + b := by omega
  have e3 : (a &&& b) + 256 * (A &&& B) = 2 ^ 8 * (A &&& B) + (a &&& b) := by omega
  rw [e3, Nat.testBit_and, e1, e2, Nat.testBit_two_pow_mul_add _ ha',
    Nat.testBit_two_pow_mul_add _ hb', Nat.testBit_two_pow_mul_add _ hab]
  split <;> simp [Nat.testBit_and]

theorem leToNat_zipWith_and (a b : List UInt8) :
    leToNat (List.zipWith (fun x y => x &&& y) a b) = leToNat a &&& leToNat b := by
  induction a generalizing b with
  | nil => simp
  | cons x xs ih =>
    cases b with
    | nil => simp
    | cons y ys =>
      simp only [List.zipWith_cons_cons, leToNat_cons, ih, UInt8.toNat_and]
      exact (and_byte_split _ _ _ _ x.toNat_lt y.toNat_lt).symm

theorem leToNat_map_not (l : List UInt8) : leToNat (l.map (~~~ ·)) = 256 ^ l.length - 1 - leToNat l := by
  induction l with
  | nil => rfl
  | cons b l ih =>
    have := b.toNat_lt
    have := leToNat_lt_pow256 l
    rw [List.map_cons, leToNat_cons, ih, UInt8.toNat_not, leToNat_cons, List.length_cons, pow256_succ]
    show 256 - 1 - _ + _ = _
    omega

theorem leToNat_replicate_255 (n : Nat) : leToNat (List.replicate n 255) = 256 ^ n - 1 := by
  induction n with
  | zero => rfl
  | succ n ih =>
    have := pow256_pos n
    rw [List.replicate_succ, leToNat_cons, ih, pow256_succ]
    show 255 + _ = _
    omega

theorem leToNat_take (n : Nat) (l : List UInt8) :
    leToNat (l.take n) = leToNat l % 256 ^ n := by
  induction n generalizing l with
  | zero => simp [Nat.mod_one]
  | succ n ih =>
    cases l with
    | nil => simp
    | cons b l =>
      have := b.toNat_lt
      have h1 : (b.toNat + 256 * leToNat l) / 256 = leToNat l := by omega
      have h2 : (b.toNat + 256 * leToNat l) % 256 = b.toNat := by omega
      rw [List.take_succ_cons, leToNat_cons, ih, leToNat_cons, pow256_succ, Nat.mod_mul, h1, h2]

theorem leToNat_take_two_pow (n : Nat) (l : List UInt8) :
    leToNat (l.take n) = leToNat l % 2 ^ (8 * n) := by
  rw [leToNat_take, two_pow_eight_mul]

theorem leToNat_drop (n : Nat) (l : List UInt8) :
    leToNat (l.drop n) = leToNat l / 256 ^ n := by
  induction n generalizing l with
  | zero => simp
  | succ n ih =>
    cases l with
    | nil => simp
    | cons b l =>
      have := b.toNat_lt
      rw [List.drop_succ_cons, ih, leToNat_cons, pow256_succ, ← Nat.div_div_eq_div_mul]
      congr 1
      omega

@[simp] theorem natToLE_length (w x : Nat) : (natToLE w x).length = w := by
  induction w generalizing x with
  | zero => rfl
  | succ w ih => simp [natToLE, ih]

theorem natToLE_getElem? : ∀ (w v i : Nat), i < w →
    (natToLE w v)[i]? = some (UInt8.ofNat (v / 256 ^ i % 256))
  | 0, _, _, h => absurd h (by omega)
  | w + 1, v, 0, _ => by simp [natToLE]
  | w + 1, v, i + 1, h => by
    rw [natToLE, List.getElem?_cons_succ, natToLE_getElem? w (v / 256) i (by omega),
      Nat.div_div_eq_div_mul, Nat.pow_succ, Nat.mul_comm]

theorem leToNat_natToLE_pow256 (w x : Nat) : leToNat (natToLE w x) = x % 256 ^ w := by
  induction w generalizing x with
  | zero => simp [natToLE, Nat.mod_one]
  | succ w ih =>
    rw [natToLE, leToNat_cons, ih, UInt8.toNat_ofNat', pow256_succ, Nat.mod_mul]
    omega

theorem leToNat_natToLE (w x : Nat) : leToNat (natToLE w x) = x % 2 ^ (8 * w) := by
  rw [two_pow_eight_mul]; exact leToNat_natToLE_pow256 w x

theorem natToLE_zero (w : Nat) : natToLE w 0 = List.replicate w 0 := by
  induction w with
  | zero => rfl
  | succ w ih => simp [natToLE, ih, List.replicate_succ]

theorem natToLE_leToNat_gen (w : Nat) (bs : List UInt8) :
    natToLE w (leToNat bs) = bs.take w ++ List.replicate (w - bs.length) 0 := by
  induction w generalizing bs with
  | zero => simp [natToLE]
  | succ w ih =>
    cases bs with
    | nil => simp [leToNat, natToLE_zero]
    | cons b bs =>
      have hb := b.toNat_lt
      have h1 : (b.toNat + 256 * leToNat bs) % 256 = b.toNat := by omega
      have h2 : (b.toNat + 256 * leToNat bs) / 256 = leToNat bs := by omega
      simp [natToLE, leToNat, h1, h2, ih]

theorem natToLE_leToNat (bs : List UInt8) : natToLE bs.length (leToNat bs) = bs := by
  simp [natToLE_leToNat_gen]

theorem eq_natToLE {b : List UInt8} {w v : Nat} (hl : b.length = w) (hv : leToNat b = v) :
    b = natToLE w v := by
  rw [← hv, ← hl, natToLE_leToNat]

theorem natToLE_trunc (w x : Nat) : natToLE w (trunc w x) = natToLE w x := by
  have := natToLE_leToNat (natToLE w x)
  rwa [natToLE_length, leToNat_natToLE] at this

theorem setWidth_eq_natToLE (v : List UInt8) (w : Nat) : Expreval.setWidth v w = natToLE w (leToNat v) := by
  rw [natToLE_leToNat_gen]
  unfold Expreval.setWidth
  split
  · next h => simp [Nat.sub_eq_zero_of_le h]
  · next h => rw [List.take_of_length_le (by omega)]

@[simp] theorem setWidth_length (v : List UInt8) (w : Nat) :
    (Expreval.setWidth v w).length = w := by
  rw [setWidth_eq_natToLE, natToLE_length]

theorem leToNat_setWidth (v : List UInt8) (w : Nat) :
    leToNat (Expreval.setWidth v w) = trunc w (leToNat v) := by
  rw [setWidth_eq_natToLE]; exact leToNat_natToLE w _

theorem bigInt_eq (v : List UInt8) (w : Nat) :
    Expreval.bigInt v w = trunc w (leToNat v) := by
  unfold Expreval.bigInt
  split
  · exact leToNat_setWidth v w
  · rename_i h
    rw [trunc_of_lt_pow256 (Nat.lt_of_lt_of_le (leToNat_lt_pow256 v) (Nat.pow_le_pow_right (by decide) (by omega)))]

end Mltwist.Lemmas.Bytes
