import Mltwist.Lemmas.EmulatorStep
import Mltwist.Lemmas.RiscvLiftWF
import Mltwist.Lemmas.RiscvDecode
/-
Emulator (C03, C04): the code view of an image.  Every instruction of `liftCode blocks` is `liftIns` of the
bytes of a block from some offset `4k` (`liftCode_mem`), hence the lifting of a word by an entry of the RV64IMA
tables (`LiftedFrom`, `liftIns_parse`), and all its expressions — before and after constant folding — are well formed
(`RiscvLiftWF.lean`, `Transform.lean`).  So `CodeWF` and `CodeSW` are THEOREMS for the code the tool runs on.
-/
namespace Mltwist.Lemmas.Emulator
open Mltwist Mltwist.State Mltwist.Overlay Mltwist.Emulator Mltwist.Riscv
open Mltwist.Spec.Rv Mltwist.Spec.Lift
open Mltwist.Lemmas.RiscvLift (EffWF validEffects_wfNodes)
open Mltwist.Lemmas.RiscvDecode (Cfg)

/-- the blocks of the image do not wrap around the address space -/
def BlocksOK (blocks : List (Nat × List UInt8)) : Prop := ∀ b ∈ blocks, b.1 + b.2.length ≤ 2 ^ 64

theorem effWF_iff (ef : Effect) : EffWF ef ↔ Effect.wfE ef := by cases ef <;> rfl

theorem wfE_fold {ef : Effect} (h : Effect.wfE ef) : Effect.wfE (Effect.apply constFold ef) := by
  cases ef with
  | regStore v k w => exact Transform.constFold_wf v h
  | memStore v k a w => exact ⟨Transform.constFold_wf v h.1, Transform.constFold_wf a h.2⟩

/-- the instruction `ins` of the code view is the lifting (C21: `parser.newInstruction`) of the 32-bit word
`word` at `ins.addr` by the table entry `e` of RV64IMA -/
structure LiftedFrom (ins : Emulator.Ins) (e : Entry) (word : Nat) : Prop where
  mem : e ∈ instructionSet 64 true true
  word_lt : word < 2 ^ 32
  matches_ : e.matchesWord word = true
  effects : ins.effects = (e.validEffects ⟨ins.addr, word⟩).map (Effect.apply constFold)
  len : ins.len = 4

theorem wordOf_lt (bs : List UInt8) : wordOf bs < 2 ^ 32 := by
  unfold wordOf
  have h := Lemmas.Bytes.leToNat_lt_pow256 (bs.take 4)
  have h2 : (bs.take 4).length ≤ 4 := by simp [List.length_take]; omega
  have : 256 ^ (bs.take 4).length ≤ 256 ^ 4 := Nat.pow_le_pow_right (by decide) h2
  have h4 : (256 : Nat) ^ 4 = 2 ^ 32 := by decide
  omega

/-- the effects as the table lists them, before constant folding -/
theorem LiftedFrom.wfRaw {ins : Emulator.Ins} {e : Entry} {word : Nat} (h : LiftedFrom ins e word) :
    ∀ ef ∈ e.validEffects ⟨ins.addr, word⟩, Effect.wfE ef :=
  fun ef hef => (effWF_iff ef).1 (validEffects_wfNodes Cfg.rv64 h.mem _ ef hef).wf

theorem LiftedFrom.wf {ins : Emulator.Ins} {e : Entry} {word : Nat} (h : LiftedFrom ins e word) : InsWF ins := by
  intro ef hef
  rw [h.effects] at hef
  obtain ⟨ef0, h0, rfl⟩ := List.mem_map.1 hef
  exact wfE_fold (h.wfRaw ef0 h0)

/-- REPAIR F45: the unconditional never-panics theorems need the widths of the stores as well -/
theorem LiftedFrom.sw {ins : Emulator.Ins} {e : Entry} {word : Nat} (h : LiftedFrom ins e word) : InsSW ins := by
  intro v k a w hm
  rw [h.effects] at hm
  obtain ⟨ef0, h0, he0⟩ := List.mem_map.1 hm
  cases ef0 with
  | regStore v0 k0 w0 => cases he0
  | memStore v0 k0 a0 w0 =>
    cases he0
    exact (validEffects_wfNodes Cfg.rv64 h.mem _ _ h0).2.2.1

theorem liftIns_parse {addr : Nat} {bs : List UInt8} {ins : Emulator.Ins} (h : liftIns addr bs = some ins) :
    ∃ e, Riscv.parse (instructionSet 64 true true) addr bs = .ok e ⟨addr, wordOf bs⟩ ∧ 4 ≤ bs.length ∧
      LiftedFrom ins e (wordOf bs) ∧ ins.addr = addr := by
  unfold liftIns at h
  by_cases hlen : 4 ≤ bs.length
  · -- on four bytes and more the parser is the search for the entry that matches the word (C02)
    rw [Lemmas.RiscvDecode.parse_eq_word _ Lemmas.RiscvDecode.rv64Facts.shaped addr bs hlen] at h ⊢
    cases hf : (instructionSet 64 true true).find? (fun e => e.matchesWord (wordOf bs)) with
    | none => rw [hf] at h; cases h
    | some e =>
      rw [hf] at h
      cases h
      exact ⟨e, rfl, hlen, ⟨List.mem_of_find?_eq_some hf, wordOf_lt bs,
        List.find?_some (p := fun e : Entry => e.matchesWord (wordOf bs)) hf, rfl, rfl⟩, rfl⟩
  · rw [Riscv.parse, if_pos (Nat.lt_of_not_le hlen)] at h
    cases h

theorem liftIns_of_parse {addr : Nat} {bs : List UInt8} {e : Riscv.Entry} {i : Riscv.Ins}
    (h : Riscv.parse (Riscv.instructionSet 64 true true) addr bs = .ok e i) :
    liftIns addr bs = some ⟨addr, 4, (e.validEffects i).map (Effect.apply constFold)⟩ := by
  rw [liftIns, h]

theorem liftBlock_nil (fuel addr : Nat) : liftBlock fuel addr [] = some [] := by
  cases fuel <;> rfl

theorem liftBlock_cons {fuel addr : Nat} {bs : List UInt8} {i : Emulator.Ins} {is : List Emulator.Ins} (hne : bs ≠ [])
    (hi : liftIns addr bs = some i) (hr : liftBlock fuel ((addr + 4) % 2 ^ 64) (bs.drop 4) = some is) :
    liftBlock (fuel + 1) addr bs = some (i :: is) := by
  rw [liftBlock, if_neg (by simpa using hne), hi, hr]

theorem liftCode_cons {b : Nat} {bs : List UInt8} {rest : List (Nat × List UInt8)} {is js : List Emulator.Ins}
    (h1 : liftBlock (bs.length / 4 + 1) b bs = some is) (h2 : liftCode rest = some js) :
    liftCode ((b, bs) :: rest) = some (is ++ js) := by
  rw [liftCode, h1, h2]

/-- an instruction of a lifted block is the lifting of the bytes from some offset `4k`; it sits at `addr + 4k`
unless that wraps around the address space -/
theorem liftBlock_mem {ins : Emulator.Ins} (fuel : Nat) : ∀ (addr : Nat) (bs : List UInt8) (is : List Emulator.Ins),
    liftBlock fuel addr bs = some is → ins ∈ is → ∃ k a, (addr + 4 * k < 2 ^ 64 → a = addr + 4 * k) ∧
      liftIns a (bs.drop (4 * k)) = some ins := by
  induction fuel with
  | zero =>
    intro addr bs is h hi
    cases h
    cases hi
  | succ fuel ih =>
    intro addr bs is h hi
    rw [liftBlock] at h
    split at h
    · cases h
      cases hi
    · cases hl : liftIns addr bs with
      | none => rw [hl] at h; cases h
      | some i =>
        cases hr : liftBlock fuel ((addr + 4) % 2 ^ 64) (bs.drop 4) with
        | none => rw [hl, hr] at h; cases h
        | some rest =>
          rw [hl, hr] at h
          cases h
          rcases List.mem_cons.1 hi with rfl | hi'
          · exact ⟨0, addr, fun _ => rfl, hl⟩
          · obtain ⟨k, a, ha, hk⟩ := ih _ _ rest hr hi'
            rw [List.drop_drop, Nat.add_comm, ← Nat.mul_succ] at hk
            refine ⟨k + 1, a, fun hlt => ?_, hk⟩
            -- `addr + 4(k+1) = (addr + 4) + 4k` does not wrap, so `addr + 4` does not
            rw [Nat.mul_succ, Nat.add_comm (4 * k), ← Nat.add_assoc] at hlt ⊢
            rw [Nat.mod_eq_of_lt (Nat.lt_of_le_of_lt (Nat.le_add_right _ _) hlt)] at ha
            exact ha hlt

theorem liftCode_mem {ins : Emulator.Ins} (blocks : List (Nat × List UInt8)) : ∀ code : CodeView,
    liftCode blocks = some code → ins ∈ code → ∃ b ∈ blocks, ∃ k a, (b.1 + 4 * k < 2 ^ 64 → a = b.1 + 4 * k) ∧
      liftIns a (b.2.drop (4 * k)) = some ins := by
  induction blocks with
  | nil =>
    intro code h hi
    cases h
    cases hi
  | cons b rest ih =>
    intro code h hi
    rw [liftCode] at h
    cases h1 : liftBlock (b.2.length / 4 + 1) b.1 b.2 with
    | none => rw [h1] at h; cases h
    | some is =>
      cases h2 : liftCode rest with
      | none => rw [h1, h2] at h; cases h
      | some js =>
        rw [h1, h2] at h
        cases h
        rcases List.mem_append.1 hi with hx | hx
        · exact ⟨b, List.mem_cons_self .., liftBlock_mem _ _ _ is h1 hx⟩
        · obtain ⟨b', hb', g⟩ := ih js h2 hx
          exact ⟨b', List.mem_cons_of_mem _ hb', g⟩

theorem liftCode_lifted {blocks : List (Nat × List UInt8)} {code : CodeView} (h : liftCode blocks = some code) :
    ∀ ins ∈ code, ∃ e word, LiftedFrom ins e word := by
  intro ins hins
  obtain ⟨_, _, _, _, _, hl⟩ := liftCode_mem blocks code h hins
  obtain ⟨e, _, _, he, _⟩ := liftIns_parse hl
  exact ⟨e, _, he⟩

theorem codeWF_of_liftCode {blocks : List (Nat × List UInt8)} {code : CodeView} (h : liftCode blocks = some code) :
    CodeWF code := by
  intro ins hins
  obtain ⟨e, word, hl⟩ := liftCode_lifted h ins hins
  exact hl.wf

theorem codeSW_of_liftCode {blocks : List (Nat × List UInt8)} {code : CodeView} (h : liftCode blocks = some code) :
    CodeSW code := by
  intro ins hins
  obtain ⟨e, word, hl⟩ := liftCode_lifted h ins hins
  exact hl.sw

end Mltwist.Lemmas.Emulator
