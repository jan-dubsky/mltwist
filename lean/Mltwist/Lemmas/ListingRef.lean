import Mltwist.Lemmas.ListingInv
/-
The reference code operations `refOps` (transcription of `internal/deps/moves.go`) satisfy the
assumptions `Spec.Lawful` of C23/C31: the assumptions are satisfiable, and the instance the model driver
compares with the implementation is one of the instances the theorems speak about.  Shown in the form in which the
listing uses the assumptions (`InsMoved`, `BlockMoved` of `Lemmas/ListingInv.lean`).
-/
namespace Mltwist.Lemmas.Listing
open Mltwist.Listing Mltwist.Listing.Spec

theorem moveList_perm {α} (l : List α) (s d : Nat) : (moveList l s d).Perm l := by
  unfold moveList
  cases h : l[s]? with
  | none => exact List.Perm.refl _
  | some x =>
    simp only
    have h1 : (List.take d (l.eraseIdx s) ++ x :: List.drop d (l.eraseIdx s)).Perm (x :: l.eraseIdx s) := by
      refine List.perm_middle.trans (List.Perm.cons x ?_)
      rw [List.take_append_drop]
    refine h1.trans ?_
    rw [List.eraseIdx_eq_take_drop_succ]
    conv => rhs; rw [split_at h]
    exact List.perm_middle.symm

theorem relayIns_length (pos lo hi a : Nat) (l : List Ins) : (relayIns pos lo hi a l).length = l.length := by
  induction l generalizing pos a with
  | nil => rfl
  | cons i is ih => simp only [relayIns]; split <;> simp [ih]

theorem relayIns_content (pos lo hi a : Nat) (l : List Ins) :
    (relayIns pos lo hi a l).map content = l.map content := by
  induction l generalizing pos a with
  | nil => rfl
  | cons i is ih => simp only [relayIns]; split <;> simp [ih, content]

theorem relayIns_idx (pos lo hi a : Nat) (l : List Ins) (j : Nat) (x : Ins)
    (h : (relayIns pos lo hi a l)[j]? = some x) : x.idx = pos + j := by
  induction l generalizing pos a j with
  | nil => simp [relayIns] at h
  | cons i is ih =>
    simp only [relayIns] at h
    split at h <;>
    · cases j with
      | zero => simp at h; subst h; rfl
      | succ j =>
        simp only [List.getElem?_cons_succ] at h
        have := ih _ _ _ h
        omega

theorem relayIns_bounds (pos lo hi a : Nat) (l : List Ins) (x : Ins) (h : x ∈ relayIns pos lo hi a l) :
    ∃ y ∈ l, x.lower = y.lower ∧ x.upper = y.upper := by
  induction l generalizing pos a with
  | nil => simp [relayIns] at h
  | cons i is ih =>
    simp only [relayIns] at h
    split at h <;>
    · rcases List.mem_cons.mp h with rfl | h
      · exact ⟨i, by simp, rfl, rfl⟩
      · obtain ⟨y, hy, hb⟩ := ih _ _ h
        exact ⟨y, by simp [hy], hb⟩

theorem refMoveInsBlock_spec (b b' : Block) (s d : Nat) (h : refMoveInsBlock b s d = some b') :
    b'.idx = b.idx ∧ sameBlock b b' ∧
      (∀ (j : Nat) (x : Ins), b'.ins[j]? = some x → x.idx = j) ∧
      (∀ x ∈ b'.ins, ∃ y ∈ b.ins, x.lower = y.lower ∧ x.upper = y.upper) := by
  unfold refMoveInsBlock at h
  split at h
  · split at h
    · cases h
    · split at h
      · cases h
      · cases h
        refine ⟨rfl, ⟨rfl, rfl, ?_⟩, ?_, ?_⟩
        · simp only [relayIns_content]
          exact (moveList_perm b.ins s d).map content
        · intro j x hx
          simpa using relayIns_idx _ _ _ _ _ j x hx
        · intro x hx
          obtain ⟨y, hy, hb⟩ := relayIns_bounds _ _ _ _ _ x hx
          exact ⟨y, (moveList_perm b.ins s d).mem_iff.mp hy, hb⟩
  · cases h

theorem refMoveIns_spec (c c' : Code) (k s d : Nat) (h : refMoveIns c k s d = some c') :
    ∃ b b', c.blocks[k]? = some b ∧ refMoveInsBlock b s d = some b' ∧ c' = { c with blocks := c.blocks.set k b' } := by
  unfold refMoveIns at h
  split at h
  · cases h
  · next b hb =>
    split at h
    · cases h
    · next b' hb' => cases h; exact ⟨b, b', hb, hb', rfl⟩

theorem renumber_getElem? (bs : List Block) (i : Nat) (b : Block) (h : (renumberBlocks bs)[i]? = some b) :
    b.idx = i ∧ ∃ b0, bs[i]? = some b0 ∧ b.ins = b0.ins := by
  simp only [renumberBlocks, List.getElem?_mapIdx] at h
  cases hb : bs[i]? with
  | none => simp [hb] at h
  | some b0 =>
    simp only [hb, Option.map_some, Option.some.injEq] at h
    subst h
    exact ⟨rfl, b0, rfl, rfl⟩

theorem renumber_map (bs : List Block) :
    (renumberBlocks bs).map (fun b => (b.begin, b.stop, b.ins)) = bs.map (fun b => (b.begin, b.stop, b.ins)) := by
  apply List.ext_getElem?
  intro i
  simp only [renumberBlocks, List.getElem?_map, List.getElem?_mapIdx]
  cases bs[i]? <;> rfl

theorem refMoveIns_moved (c : Code) (k s d : Nat) (c' : Code) (h : refMoveIns c k s d = some c') : InsMoved c k c' := by
  obtain ⟨b, b', hb, hb', rfl⟩ := refMoveIns_spec c c' k s d h
  obtain ⟨hidx, hsame, hins, hbd⟩ := refMoveInsBlock_spec b b' s d hb'
  refine ⟨rfl, ⟨b, b', hb, rfl, hidx, hsame⟩, fun hwf => ⟨?_, ?_, ?_⟩⟩
  · intro i x hx
    change (c.blocks.set k b')[i]? = some x at hx
    by_cases e : k = i
    · subst e
      rw [List.getElem?_set_self (getElem?_lt hb)] at hx
      cases hx
      rw [hidx]; exact hwf.blockIdx _ b hb
    · rw [List.getElem?_set_ne e] at hx
      exact hwf.blockIdx i x hx
  · intro x hx i y hy
    rcases List.mem_or_eq_of_mem_set hx with hx | rfl
    · exact hwf.insIdx x hx i y hy
    · exact hins i y hy
  · intro x hx y hy
    rcases List.mem_or_eq_of_mem_set hx with hx | rfl
    · exact hwf.bounds x hx y hy
    · obtain ⟨z, hz, e1, e2⟩ := hbd y hy
      have := hwf.bounds b (List.mem_of_getElem? hb) z hz
      rw [e1, e2, hsame.length_eq]; exact this

theorem refMoveBlock_moved (c : Code) (s d : Nat) (c' : Code) (h : refMoveBlock c s d = some c') : BlockMoved c c' := by
  unfold refMoveBlock at h
  split at h <;> cases h
  refine ⟨rfl, ?_, fun hwf => ?_⟩
  · simp only [renumber_map]
    exact (moveList_perm c.blocks s d).map _
  · have hmem : ∀ x ∈ renumberBlocks (moveList c.blocks s d), ∃ y ∈ c.blocks, x.ins = y.ins := by
      intro x hx
      obtain ⟨i, hi⟩ := List.mem_iff_getElem?.mp hx
      obtain ⟨_, b0, hb0, e⟩ := renumber_getElem? _ i x hi
      exact ⟨b0, (moveList_perm c.blocks s d).mem_iff.mp (List.mem_of_getElem? hb0), e⟩
    refine ⟨fun i b hb => (renumber_getElem? _ i b hb).1, ?_, ?_⟩
    · intro x hx i y hy
      obtain ⟨z, hz, e⟩ := hmem x hx
      rw [e] at hy
      exact hwf.insIdx z hz i y hy
    · intro x hx y hy
      obtain ⟨z, hz, e⟩ := hmem x hx
      rw [e] at hy ⊢
      exact hwf.bounds z hz y hy

theorem refOps_lawful : Lawful refOps := lawful_of_moved refMoveIns_moved refMoveBlock_moved

end Mltwist.Lemmas.Listing
