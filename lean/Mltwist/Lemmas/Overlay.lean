import Mltwist.Lemmas.OverlayLoad
import Mltwist.Lemmas.Interval
/-
C16: the overlay of two views that satisfy the memory laws satisfies the memory laws for the layered
byte map.  For `Load`, the intervals `Missing` reports for the overlay and the rest of the range are the normal
forms of the absent and of the present addresses of the range (`Exact`); put in order they tile the range
(`exact_tiles`), and reading each from its layer gives good reads.  The same walk through `Load` shows that the
overlay returns only what its layers return, shifted and ored together (`overlay_loads`).
-/
namespace Mltwist.Lemmas.Overlay
open Mltwist Mltwist.Overlay Mltwist.Interval Mltwist.Spec.Overlay
open Mltwist.Lemmas.RiscvLift (WOK)
open Mltwist.Lemmas.Interval (normalOf_singleton normal_nonempty NormalOf cuts_toNat complement_spec intersect_spec
  union_spec)

/-- `l` is the normal form of the addresses of `[a, a+w)` with `P`, as the memory laws write it for `Missing`
(`cuts_toNat`) -/
abbrev Exact (a w : Nat) (P : Nat → Prop) (l : List Intv) : Prop :=
  NormalOf l fun x => (a : Int) ≤ x ∧ x.toNat < a + w ∧ P x.toNat

theorem Exact.sub {a w : Nat} {P : Nat → Prop} {l : List Intv} (h : Exact a w P l) : ∀ i ∈ l, Sub a w i := by
  intro i hi
  have := (cuts_toNat.2 h).inside i hi
  exact ⟨this.1, normal_nonempty h.normal i hi, this.2⟩

theorem Exact.sound {a w : Nat} {P : Nat → Prop} {l : List Intv} (h : Exact a w P l) {i : Intv} (hi : i ∈ l)
    {x : Nat} (hx : In x i) : P x := by
  simpa using ((h.mem x).1 ⟨i, hi, hx⟩).2.2

theorem Exact.complete {a w : Nat} {P : Nat → Prop} {l : List Intv} (h : Exact a w P l) {k : Nat} (hk : k < w)
    (hp : P (a + k)) : ∃ i ∈ l, In (a + k) i := by
  refine (h.mem ((a + k : Nat) : Int)).2 ⟨by omega, ?_⟩
  rw [Int.toNat_natCast]
  exact ⟨Nat.add_lt_add_left hk a, hp⟩

theorem load_of_missing {b o : View} {a w : Nat} (h64 : a + w < 2 ^ 64) {miss : List Intv}
    (hm : o.missing a w = .ok miss) :
    Overlay.load b o a w =
      if miss.length = 0 then o.load a w
      else if [((a : Int), ((a + w : Nat) : Int))] = miss then b.load a w
      else
        match readBase b miss with
        | .error f => .error f
        | .ok none => .ok none
        | .ok (some r1) =>
          match readOver o (mapComplement [((a : Int), ((a + w : Nat) : Int))] miss) with
          | .error f => .error f
          | .ok r2 =>
            match sortReads (r1 ++ r2) with
            | [] => .error .noReads
            | r0 :: rest => .ok (some (combine a w rest r0.ex)) := by
  unfold Overlay.load
  rw [hm]
  simp only [newIntv_range h64, Lemmas.Interval.newMap_singleton]
  rfl

theorem missing_exact {o : View} {mo : AbsMem} (ho : MemLaws o mo) {a w : Nat} (hd : InDom a w) :
    ∃ miss, o.missing a w = .ok miss ∧ Exact a w (fun x => mo x = none) miss ∧
      Exact a w (fun x => mo x ≠ none) (mapComplement [((a : Int), ((a + w : Nat) : Int))] miss) := by
  obtain ⟨miss, hm1, hm2, hm3⟩ := ho.missing a w hd
  have hM : Exact a w (fun x => mo x = none) miss := ⟨hm2, hm3⟩
  have hw : (a : Int) < ((a + w : Nat) : Int) := Int.ofNat_lt.2 (Nat.lt_add_of_pos_right hd.1)
  exact ⟨miss, hm1, hM, cuts_toNat.1 ((complement_spec (normalOf_singleton hw) (cuts_toNat.2 hM)).congr fun x =>
    and_congr_right fun h => not_congr (and_iff_right h))⟩

theorem exact_tiles {a w : Nat} (hd : InDom a w) {P : Nat → Prop} {lp ln l : List Intv} (hp : Exact a w P lp)
    (hn : Exact a w (fun x => ¬ P x) ln) (hperm : l.Perm (lp ++ ln))
    (hs : l.Pairwise (fun i j => ibegin i ≤ ibegin j)) : Lemmas.Sparse.Tiles ibegin ilen a (a + w) l := by
  have hsub : ∀ i ∈ l, Sub a w i := fun i hi => (List.mem_append.1 (hperm.mem_iff.1 hi)).elim (hp.sub i) (hn.sub i)
  have hord : ∀ {l : List Intv}, Normal l → l.Pairwise (fun i j => ∀ z : Nat, ¬ (In z i ∧ In z j)) := fun h =>
    ((Lemmas.Interval.normal_iff _).1 h).2.imp fun h z hz =>
      Int.lt_irrefl _ (Int.lt_trans (Int.lt_of_le_of_lt hz.2.1 hz.1.2) h)
  have hdisj : (lp ++ ln).Pairwise (fun i j => ∀ z : Nat, ¬ (In z i ∧ In z j)) :=
    List.pairwise_append.2 ⟨hord hp.normal, hord hn.normal, fun i hi j hj z hz =>
      hn.sound hj hz.2 (hp.sound hi hz.1)⟩
  refine tiles_of_sorted hd l a hs ((hperm.pairwise_iff fun h z hz => h z hz.symm).2 hdisj)
    (fun i hi => ⟨hsub i hi, (sub_facts (hsub i hi) hd).1⟩) (Nat.le_add_right _ _) fun z hz1 hz2 => ?_
  obtain ⟨j, rfl⟩ := Nat.exists_eq_add_of_le hz1
  have hj := Nat.lt_of_add_lt_add_left hz2
  by_cases hz : P (a + j)
  · obtain ⟨i, hi, hin⟩ := hp.complete hj hz
    exact ⟨i, hperm.mem_iff.2 (List.mem_append_left _ hi), hin⟩
  · obtain ⟨i, hi, hin⟩ := hn.complete hj hz
    exact ⟨i, hperm.mem_iff.2 (List.mem_append_right _ hi), hin⟩

/-- the law of `Load` for the overlay, and with it: a property that all loads of both layers have and that the
step of the or-loop keeps holds of the result -/
theorem overlay_load {b o : View} {mb mo : AbsMem} (hb : MemLaws b mb) (ho : MemLaws o mo)
    (a w : Nat) (hd : InDom a w) :
    ∃ r, Overlay.load b o a w = .ok r ∧ Lemmas.Sparse.Answers byteOf (layer mo mb) a w r ∧
      ∀ e, r = some e → ∀ P : Expr → Prop,
        (∀ acc ex k, P acc → P ex → P (Tools.bitOr acc (offsetExpr ex k w) w)) → Loads P b → Loads P o → P e := by
  obtain ⟨miss, hm1, hM, hO⟩ := missing_exact ho hd
  have ⟨hw1, _, h64⟩ := hd
  have hL : Bytewise (layer mo mb) := bytewise_layer ho.bytewise hb.bytewise
  rw [load_of_missing h64 hm1]
  by_cases h0 : miss.length = 0
  · -- nothing missing: the overlay answers
    rw [if_pos h0]
    obtain ⟨r, h1, h2, h3⟩ := load_transfer (L := layer mo mb) ho hd fun i hi => layer_of_some fun hn => by
      obtain ⟨iv, hiv, _⟩ := hM.complete hi hn
      rw [List.eq_nil_of_length_eq_zero h0] at hiv
      cases hiv
    exact ⟨r, h1, h2, fun e he P _ _ so => h3 e he P so⟩
  · rw [if_neg h0]
    by_cases heq : [((a : Int), ((a + w : Nat) : Int))] = miss
    · -- all missing: the base answers
      rw [if_pos heq]
      obtain ⟨r, h1, h2, h3⟩ := load_transfer (L := layer mo mb) hb hd fun i hi => layer_of_none (by
        refine hM.sound (heq ▸ List.mem_cons_self) (x := a + i) ?_
        show (a : Int) ≤ ((a + i : Nat) : Int) ∧ ((a + i : Nat) : Int) < ((a + w : Nat) : Int)
        omega)
      exact ⟨r, h1, h2, fun e he P _ sb _ => h3 e he P sb⟩
    · -- mixed: `miss` is read from the base, the rest from the overlay
      rw [if_neg heq]
      generalize mapComplement [((a : Int), ((a + w : Nat) : Int))] miss = ov at hO
      obtain ⟨r1, g1, g2, g3⟩ := readBase_spec (L := layer mo mb) hb hd miss hM.sub
        (fun i hi x hx => layer_of_none (hM.sound hi hx))
      rw [g1]
      cases r1 with
      | none =>
        refine ⟨none, rfl, ⟨?_, fun e he => by cases he⟩, fun e he => by cases he⟩
        simp only [ne_eq, not_true_eq_false, false_iff]
        intro hall
        apply g2.2 _ rfl
        intro i hi x hx
        obtain ⟨h1, h2⟩ := in_range (hM.sub i hi) hd hx
        obtain ⟨k, rfl⟩ := Nat.exists_eq_add_of_le h1
        have := hall k (Nat.lt_of_add_lt_add_left h2)
        rwa [layer_of_none (hM.sound hi hx)] at this
      | some rs1 =>
        obtain ⟨q1, q2⟩ := g3 rs1 rfl
        have hbase := g2.1 (by simp)
        obtain ⟨rs2, k1, k2, k3⟩ := readOver_spec (L := layer mo mb) ho hd ov hO.sub
          (fun i hi x hx => ⟨hO.sound hi hx, layer_of_some (hO.sound hi hx)⟩)
        simp only
        rw [k1]
        simp only
        have hgood : ∀ rd ∈ sortReads (rs1 ++ rs2), GoodRead (layer mo mb) a w rd ∧
            ∀ P, Loads P b → Loads P o → P rd.ex := by
          intro rd hrd
          rcases List.mem_append.1 ((sortReads_perm _).mem_iff.1 hrd) with h | h
          · exact ⟨(q2 rd h).1, fun P sb _ => (q2 rd h).2 P sb⟩
          · exact ⟨(k3 rd h).1, fun P _ so => (k3 rd h).2 P so⟩
        -- the carrying step: the sorted reads are `miss ++ ov` permuted
        have htiles := exact_tiles hd hM hO
          (((sortReads_perm (rs1 ++ rs2)).map (·.intv)).trans (by rw [List.map_append, q1, k2]))
          (List.pairwise_map.2 ((sortReads_sorted (rs1 ++ rs2)).imp Int.toNat_le_toNat))
        generalize sortReads (rs1 ++ rs2) = sorted at hgood htiles
        cases sorted with
        | nil => exact absurd (Nat.le_of_eq (Eq.symm htiles)) (Nat.not_le.2 (Nat.lt_add_of_pos_right hw1))
        | cons r0 rest =>
          simp only
          refine ⟨_, rfl, ⟨?_, fun e he => ?_⟩, fun e he P hP sb so => ?_⟩
          · simp only [ne_eq, reduceCtorEq, not_false_eq_true, true_iff]
            intro i hi
            by_cases hmo : mo (a + i) = none
            · rw [layer_of_none hmo]
              obtain ⟨iv, hiv, hin⟩ := hM.complete hi hmo
              exact hbase iv hiv (a + i) hin
            · rw [layer_of_some hmo]; exact hmo
          · cases he
            exact combine_tiles_spec hL hd (fun rd h => (hgood rd h).1) htiles
          · cases he
            rw [combine_eq_foldl]
            exact List.foldlRecOn rest _ ((hgood r0 List.mem_cons_self).2 P sb so) fun acc hacc rd hrd =>
              hP acc rd.ex _ hacc ((hgood rd (List.mem_cons_of_mem _ hrd)).2 P sb so)

theorem overlay_missing {b o : View} {mb mo : AbsMem} (hb : MemLaws b mb) (ho : MemLaws o mo)
    (a w : Nat) (hd : InDom a w) :
    ∃ l, Overlay.missing b o a w = .ok l ∧
      NormalOf l fun x => (a : Int) ≤ x ∧ x.toNat < a + w ∧ layer mo mb x.toNat = none := by
  obtain ⟨lb, b1, b2, b3⟩ := hb.missing a w hd
  obtain ⟨lo, o1, o2, o3⟩ := ho.missing a w hd
  refine ⟨mapIntersect lb lo, by simp [Overlay.missing, b1, o1],
    (intersect_spec ⟨b2, b3⟩ ⟨o2, o3⟩).congr fun x => ?_⟩
  rw [layer_none]
  constructor
  · rintro ⟨⟨h1, h2, h3⟩, _, _, h4⟩; exact ⟨h1, h2, h4, h3⟩
  · rintro ⟨h1, h2, h3, h4⟩; exact ⟨⟨h1, h2, h4⟩, h1, h2, h3⟩

theorem overlay_blocks {b o : View} {mb mo : AbsMem} (hb : MemLaws b mb) (ho : MemLaws o mo) :
    ∃ l, Overlay.blocks b o = .ok l ∧ NormalOf l fun x => (0 : Int) ≤ x ∧ layer mo mb x.toNat ≠ none := by
  obtain ⟨lb, b1, b2, b3⟩ := hb.blocks
  obtain ⟨lo, o1, o2, o3⟩ := ho.blocks
  refine ⟨mapUnion lb lo, by simp [Overlay.blocks, b1, o1], (union_spec ⟨b2, b3⟩ ⟨o2, o3⟩).congr fun x => ?_⟩
  simp only [ne_eq, layer_none, Classical.not_and_iff_not_or_not, and_or_left]
  exact Or.comm

theorem overlay_laws {b o : View} {mb mo : AbsMem} (hb : MemLaws b mb) (ho : MemLaws o mo) :
    MemLaws (Overlay.view b o) (layer mo mb) where
  bytewise := bytewise_layer ho.bytewise hb.bytewise
  load := fun a w hd =>
    let ⟨r, h1, h2, _⟩ := overlay_load hb ho a w hd
    ⟨r, h1, h2.law⟩
  missing := fun a w hd =>
    let ⟨l, h, hl⟩ := overlay_missing hb ho a w hd
    ⟨l, h, hl.normal, hl.mem⟩
  blocks :=
    let ⟨l, h, hl⟩ := overlay_blocks hb ho
    ⟨l, h, hl.normal, hl.mem⟩

theorem overlay_loads {P : Expr → Prop} {b o : View} {mb mo : AbsMem} (hb : MemLaws b mb) (ho : MemLaws o mo)
    (hP : ∀ w, WOK w → ∀ acc ex k, P acc → P ex → P (Tools.bitOr acc (offsetExpr ex k w) w))
    (sb : Loads P b) (so : Loads P o) : Loads P (Overlay.view b o) := by
  intro a w e hd h
  obtain ⟨r, h1, _, h3⟩ := overlay_load hb ho a w hd
  cases h1.symm.trans h
  exact h3 e rfl P (hP w hd.wok) sb so

end Mltwist.Lemmas.Overlay
