import Mltwist.Lemmas.BytesMemNew
import Mltwist.Lemmas.Const
import Mltwist.Lemmas.Interval
/-
C15, the operations of the byte memory against the byte map `ofBlocks`: `address`, `store` and the loop
of `Store` (between the `store` calls of one `Store` the blocks satisfy `Pre`: sorted and disjoint,
adjacency allowed; the final `dedupBlocks` restores `Inv`), then `Load`, `Missing`, `Blocks`.
-/
namespace Mltwist.Lemmas.BytesMem
open Mltwist Mltwist.BytesMem Mltwist.BytesSpec
open Mltwist.Lemmas.Interval (NormalOf)

/-- the invariant between the `store` calls of one `Store`: as `Inv`, adjacency allowed -/
def Pre (l : List Block) : Prop :=
  l.Pairwise (fun x y => bend x ≤ y.1) ∧ ∀ x ∈ l, x.2 ≠ []

theorem inv_pre {l : List Block} (h : Inv l) : Pre l :=
  ⟨h.1.imp (fun {x y} hxy => by unfold bend; omega), h.2⟩

theorem pre_insert_iff {l r : List Block} {b : Block} :
    Pre (l ++ b :: r) ↔
      Pre (l ++ r) ∧ b.2 ≠ [] ∧ (∀ x ∈ l, bend x ≤ b.1) ∧ ∀ y ∈ r, bend b ≤ y.1 := by
  simp only [Pre, List.pairwise_append, List.pairwise_cons, List.mem_append, List.mem_cons]
  constructor
  · rintro ⟨⟨h1, ⟨h2, h3⟩, h4⟩, h5⟩
    exact ⟨⟨⟨h1, h3, fun x hx y hy => h4 x hx y (Or.inr hy)⟩, fun x hx => h5 x (hx.imp_right Or.inr)⟩,
      h5 b (Or.inr (Or.inl rfl)), fun x hx => h4 x hx b (Or.inl rfl), h2⟩
  · rintro ⟨⟨⟨h1, h3, h4⟩, h5⟩, hb, hl, hr⟩
    refine ⟨⟨h1, ⟨hr, h3⟩, fun x hx y hy => ?_⟩, fun x hx => ?_⟩
    · rcases hy with rfl | hy
      · exact hl x hx
      · exact h4 x hx y hy
    · rcases hx with hx | rfl | hx
      · exact h5 x (Or.inl hx)
      · exact hb
      · exact h5 x (Or.inr hx)

theorem locate (bs : List Block) (h : Pre bs) (a : Nat) :
    (∃ l b r, bs = l ++ b :: r ∧ Covers b a) ∨
    (∃ l r, bs = l ++ r ∧ (∀ x ∈ l, bend x ≤ a) ∧ (∀ x ∈ r, a < x.1)) := by
  induction bs with
  | nil => right; exact ⟨[], [], rfl, by simp, by simp⟩
  | cons c bs ih =>
    obtain ⟨htl, hc, _, hr⟩ := (pre_insert_iff (l := [])).1 h
    by_cases hlt : a < c.1
    · right
      refine ⟨[], c :: bs, rfl, by simp, List.forall_mem_cons.2 ⟨hlt, fun x hx => ?_⟩⟩
      exact Nat.lt_of_lt_of_le (Nat.lt_trans hlt (block_pos hc)) (hr x hx)
    · by_cases hce : bend c ≤ a
      · rcases ih htl with ⟨l, b, r, rfl, hb⟩ | ⟨l, r, rfl, hl, hr⟩
        · left; exact ⟨c :: l, b, r, rfl, hb⟩
        · right; exact ⟨c :: l, r, rfl, List.forall_mem_cons.2 ⟨hce, hl⟩, hr⟩
      · left; exact ⟨[], c, bs, rfl, Nat.le_of_not_lt hlt, Nat.lt_of_not_le hce⟩

theorem address_append {l : List Block} {a : Nat} (hl : ∀ x ∈ l, bend x ≤ a) (b : Block)
    (r : List Block) (hb : a < bend b) :
    address (l ++ b :: r) a = if a < b.1 then none else some l.length := by
  have hl' : ∀ x ∈ l, decide (a < bend x) = false := fun x hx =>
    decide_eq_false (Nat.not_lt.2 (hl x hx))
  simp only [address, findIdx_append_false _ l (b :: r) hl', List.findIdx_cons, decide_eq_true hb,
    cond_true, Nat.add_zero, List.getElem?_append_right (Nat.le_refl _), Nat.sub_self,
    List.getElem?_cons_zero]

theorem address_found {l r : List Block} {b : Block} (h : Pre (l ++ b :: r)) {a : Nat}
    (hb : Covers b a) : address (l ++ b :: r) a = some l.length := by
  rw [address_append (fun x hx => Nat.le_trans ((pre_insert_iff.1 h).2.2.1 x hx) hb.1) b r hb.2,
    if_neg (Nat.not_lt.2 hb.1)]

theorem address_none {l r : List Block} {a : Nat} (hl : ∀ x ∈ l, bend x ≤ a)
    (hr : ∀ x ∈ r, a < x.1) : address (l ++ r) a = none := by
  cases r with
  | nil =>
    have hl' : ∀ x ∈ l, decide (a < bend x) = false := fun x hx =>
      decide_eq_false (Nat.not_lt.2 (hl x hx))
    simp only [address, List.append_nil, List.findIdx_eq_length_of_false hl',
      List.getElem?_eq_none (Nat.le_refl _)]
  | cons nb r' =>
    have h1 := hr nb List.mem_cons_self
    rw [address_append hl nb r' (Nat.lt_of_lt_of_le h1 (Nat.le_add_right _ _)), if_pos h1]

theorem ofBlocks_left_none {l : List Block} {a x : Nat} (hl : ∀ y ∈ l, bend y ≤ a) (hx : a ≤ x) :
    ofBlocks l x = none :=
  (ofBlocks_eq_none_iff l x).2 fun y hy hc =>
    Nat.lt_irrefl x (Nat.lt_of_lt_of_le hc.2 (Nat.le_trans (hl y hy) hx))

theorem ofBlocks_append_write {l : List Block} {a : Nat} (hl : ∀ y ∈ l, bend y ≤ a)
    {s s' : List Block} {d : List UInt8} (h : ∀ x, ofBlocks s' x = write (ofBlocks s) a d x) (x : Nat) :
    ofBlocks (l ++ s') x = write (ofBlocks (l ++ s)) a d x := by
  rw [ofBlocks_append, h, write_apply, write_apply, ofBlocks_append]
  split
  · next hx => rw [ofBlocks_left_none hl hx.1, Option.none_or]
  · rfl

theorem getElem?_patch (t d : List UInt8) (k : Nat) (hk : k ≤ t.length) (i : Nat) :
    (t.take k ++ d ++ t.drop (k + d.length))[i]? =
      if k ≤ i ∧ i < k + d.length then d[i - k]? else t[i]? := by
  rw [List.append_assoc, List.getElem?_append, List.length_take_of_le hk]
  rcases Nat.lt_or_ge i k with h1 | h1
  · rw [if_pos h1, if_neg (fun h => Nat.not_le.2 h1 h.1), List.getElem?_take, if_pos h1]
  · obtain ⟨j, rfl⟩ := Nat.exists_eq_add_of_le h1
    rw [if_neg (Nat.not_lt.2 h1), Nat.add_sub_cancel_left, List.getElem?_append]
    rcases Nat.lt_or_ge j d.length with h2 | h2
    · rw [if_pos h2, if_pos ⟨h1, Nat.add_lt_add_left h2 k⟩]
    · obtain ⟨j', rfl⟩ := Nat.exists_eq_add_of_le h2
      rw [if_neg (Nat.not_lt.2 h2), if_neg (fun h => Nat.not_lt.2 h2 (Nat.lt_of_add_lt_add_left h.2)),
        Nat.add_sub_cancel_left, List.getElem?_drop, Nat.add_assoc]

theorem length_patch (t d : List UInt8) (k : Nat) (hk : k ≤ t.length) :
    (t.take k ++ d ++ t.drop (k + d.length)).length = max t.length (k + d.length) := by
  rw [List.length_append, List.length_append, List.length_take_of_le hk, List.length_drop, Nat.add_comm,
    Nat.sub_add_eq_max]

theorem write_patch (m : ByteMap) (s : Nat) (t d : List UInt8) (k : Nat) (hk : k ≤ t.length) (x : Nat) :
    write m s (t.take k ++ d ++ t.drop (k + d.length)) x = write (write m s t) (s + k) d x := by
  rcases Nat.lt_or_ge x s with hx | hx
  · rw [write_of_lt _ _ hx, write_of_lt _ _ (Nat.lt_add_right _ hx), write_of_lt _ _ hx]
  · obtain ⟨i, rfl⟩ := Nat.exists_eq_add_of_le hx
    rw [write_add, getElem?_patch t d k hk]
    rcases Nat.lt_or_ge i k with h1 | h1
    · rw [write_of_lt _ _ (Nat.add_lt_add_left h1 s), write_add, if_neg fun h => Nat.not_le.2 h1 h.1]
    · obtain ⟨j, rfl⟩ := Nat.exists_eq_add_of_le h1
      rw [← Nat.add_assoc, write_add, Nat.add_assoc, write_add, Nat.add_sub_cancel_left]
      by_cases h2 : j < d.length
      · rw [if_pos ⟨h1, Nat.add_lt_add_left h2 k⟩, List.getElem?_eq_getElem h2, Option.some_or,
          Option.some_or]
      · rw [if_neg fun h => h2 (Nat.lt_of_add_lt_add_left h.2),
          List.getElem?_eq_none (Nat.le_of_not_lt h2), Option.none_or]

/-- the end index of the found branch of `store` (the same `if` is in `storeH`), copying `d` bytes
into a block of length `t` from offset `k` on: it is `k + n` for the number `n` of bytes copied -/
theorem copy_len {k d t : Nat} (hk : k < t) (hd : 0 < d) :
    ∃ n, (if k + d > t then t else k + d) = k + n ∧ 0 < n ∧ n ≤ d ∧ k + n ≤ t := by
  by_cases h : k + d > t
  · exact ⟨t - k, by rw [if_pos h, Nat.add_sub_of_le (Nat.le_of_lt hk)], Nat.sub_pos_of_lt hk,
      Nat.sub_le_of_le_add (Nat.le_of_lt (Nat.add_comm k d ▸ h)),
      Nat.le_of_eq (Nat.add_sub_of_le (Nat.le_of_lt hk))⟩
  · exact ⟨d, if_neg h, hd, Nat.le_refl _, Nat.le_of_not_lt h⟩

/-- the found branch of `store` -/
theorem store_found {l r : List Block} {b : Block} (h : Pre (l ++ b :: r)) {a : Nat}
    (hb : Covers b a) {data : List UInt8} (hd : data ≠ []) :
    ∃ n, store (l ++ b :: r) a data = .ok (l ++ (b.1, b.2.take (a - b.1) ++ data.take n ++
        b.2.drop (a - b.1 + n)) :: r, n) ∧ 0 < n ∧ n ≤ data.length ∧ a - b.1 + n ≤ b.2.length := by
  obtain ⟨n, hend, hn⟩ := copy_len (Nat.sub_lt_left_of_lt_add hb.1 hb.2) (List.length_pos_iff.2 hd)
  refine ⟨n, ?_, hn⟩
  simp only [store, address_found h hb, List.getElem?_append_right (Nat.le_refl _), Nat.sub_self,
    List.getElem?_cons_zero, hend]
  rw [if_neg (Nat.not_lt.2 (Nat.le_add_right _ _)), Nat.add_sub_cancel_left, List.set_append,
    if_neg (Nat.lt_irrefl _), Nat.sub_self, List.set_cons_zero]

theorem cutEnd_bounds {r : List Block} (hp : Pre r) {a len : Nat} (hr : ∀ x ∈ r, a < x.1) (hlen : 0 < len) :
    a < cutEnd r[0]? (a + len) ∧ cutEnd r[0]? (a + len) ≤ a + len ∧
      ∀ x ∈ r, cutEnd r[0]? (a + len) ≤ x.1 := by
  cases r with
  | nil => exact ⟨Nat.lt_add_of_pos_right hlen, Nat.le_refl _, by simp⟩
  | cons nb r' =>
    obtain ⟨_, hne, _, hr'⟩ := (pre_insert_iff (l := [])).1 hp
    have h1 := hr nb List.mem_cons_self
    have h2 : ∀ x ∈ r', nb.1 ≤ x.1 := fun x hx => Nat.le_trans (Nat.le_of_lt (block_pos hne)) (hr' x hx)
    simp only [List.getElem?_cons_zero, cutEnd]
    by_cases hcut : nb.1 < a + len
    · rw [if_pos hcut]
      exact ⟨h1, Nat.le_of_lt hcut, List.forall_mem_cons.2 ⟨Nat.le_refl _, h2⟩⟩
    · rw [if_neg hcut]
      have h3 := Nat.le_of_not_lt hcut
      exact ⟨Nat.lt_add_of_pos_right hlen, Nat.le_refl _,
        List.forall_mem_cons.2 ⟨h3, fun x hx => Nat.le_trans h3 (h2 x hx)⟩⟩

theorem store_spec (bs : List Block) (h : Pre bs) (a : Nat) (data : List UInt8) (hd : data ≠ []) :
    ∃ bs' n, store bs a data = .ok (bs', n) ∧ 0 < n ∧ n ≤ data.length ∧ Pre bs' ∧
      ∀ x, ofBlocks bs' x = write (ofBlocks bs) a (data.take n) x := by
  rcases locate bs h a with ⟨l, b, r, rfl, hb⟩ | ⟨l, r, rfl, hl, hr⟩
  · obtain ⟨n, hst, hn1, hn2, hn3⟩ := store_found h hb hd
    have htl : (data.take n).length = n := List.length_take_of_le hn2
    have hk : a - b.1 ≤ b.2.length := Nat.le_trans (Nat.le_add_right _ _) hn3
    obtain ⟨h0, hne, hl, hr⟩ := pre_insert_iff.1 h
    refine ⟨_, n, hst, hn1, hn2, ?_, ?_⟩
    · have hlen := length_patch b.2 (data.take n) (a - b.1) hk
      rw [htl, Nat.max_eq_left hn3] at hlen
      refine pre_insert_iff.2 ⟨h0, fun he => ?_, hl, fun y hy => ?_⟩
      · exact hne (List.eq_nil_of_length_eq_zero ((congrArg List.length he).symm.trans hlen).symm)
      · exact Nat.le_trans (Nat.le_of_eq (congrArg (b.1 + ·) hlen)) (hr y hy)
    · have hp := write_patch (ofBlocks r) b.1 b.2 (data.take n) (a - b.1) hk
      rw [htl, Nat.add_sub_of_le hb.1] at hp
      exact ofBlocks_append_write (fun y hy => Nat.le_trans (hl y hy) hb.1) hp
  · have hpr : Pre r := ⟨(List.pairwise_append.1 h.1).2.1, fun x hx => h.2 x (List.mem_append_right _ hx)⟩
    obtain ⟨he1, he2, he3⟩ := cutEnd_bounds hpr hr (List.length_pos_iff.2 hd)
    generalize he : cutEnd r[0]? (a + data.length) = e at *
    have hea : e - a ≤ data.length := Nat.sub_le_of_le_add (Nat.add_comm a _ ▸ he2)
    have hlen : (data.take (e - a)).length = e - a := List.length_take_of_le hea
    refine ⟨l ++ (a, data.take (e - a)) :: r, e - a, ?_, Nat.sub_pos_of_lt he1, hea, ?_, ?_⟩
    · have hlf : ∀ x ∈ l, decide (a < x.1) = false := fun x hx =>
        decide_eq_false (Nat.not_lt.2 (Nat.le_trans (Nat.le_add_right _ _) (hl x hx)))
      have hidx : (l ++ r).findIdx (fun b => decide (a < b.1)) = l.length := by
        rw [findIdx_append_false _ l r hlf]
        cases r with
        | nil => rfl
        | cons nb r' => simp [List.findIdx_cons, hr nb List.mem_cons_self]
      have hend : cutEnd (l ++ r)[l.length]? (a + data.length) = e := by
        rw [List.getElem?_append_right (Nat.le_refl _), Nat.sub_self]
        exact he
      have hslice : sliceB data 0 (e - a) = some (data.take (e - a)) := by
        unfold sliceB
        rw [if_pos ⟨Nat.zero_le _, hea⟩]
        rfl
      simp only [store, address_none hl hr, hidx, hend, hslice]
      congr 2
      -- Go's grow, shift and overwrite is an insertion at `idx = l.length`:
      -- `((l ++ r ++ [_]).take (idx + 1) ++ (l ++ r).drop idx).set idx x = l ++ x :: r`
      rw [List.append_assoc, List.take_append, List.take_of_length_le (Nat.le_add_right _ _),
        Nat.add_sub_cancel_left, List.drop_append, List.drop_of_length_le (Nat.le_refl _), Nat.sub_self,
        List.drop_zero, List.nil_append, List.append_assoc, List.set_append, if_neg (Nat.lt_irrefl _),
        Nat.sub_self]
      cases r <;> rfl
    · refine pre_insert_iff.2 ⟨h, fun hempty => ?_, hl, fun y hy => ?_⟩
      · exact absurd ((congrArg List.length hempty).symm.trans hlen) (Nat.ne_of_lt (Nat.sub_pos_of_lt he1))
      · show a + (data.take (e - a)).length ≤ y.1
        rw [hlen, Nat.add_sub_of_le (Nat.le_of_lt he1)]
        exact he3 y hy
    · exact ofBlocks_append_write hl (fun _ => rfl)

theorem write_nil (m : ByteMap) (a x : Nat) : write m a [] x = m x :=
  if_neg fun h => Nat.lt_irrefl x (Nat.lt_of_lt_of_le h.2 h.1)

theorem write_split (m : ByteMap) (a : Nat) (data : List UInt8) (n : Nat) (hn : n ≤ data.length)
    (x : Nat) :
    write (write m a (data.take n)) (a + n) (data.drop n) x = write m a data x := by
  have h := write_append m a (data.take n) (data.drop n) x
  rw [List.take_append_drop, List.length_take_of_le hn] at h
  rw [h]
  exact write_comm m _ _ (Nat.le_of_eq (by rw [List.length_take_of_le hn])) x

theorem storeLoop_spec : ∀ (fuel : Nat) (data : List UInt8) (bs : List Block) (a : Nat),
    Pre bs → data.length ≤ fuel →
    ∃ bs', storeLoop fuel bs a data = .ok bs' ∧ Pre bs' ∧
      ∀ x, ofBlocks bs' x = write (ofBlocks bs) a data x := by
  intro fuel
  induction fuel with
  | zero =>
    intro data bs a h hlen
    have : data = [] := List.eq_nil_of_length_eq_zero (by omega)
    subst this
    exact ⟨bs, by simp [storeLoop], h, fun x => (write_nil _ a x).symm⟩
  | succ fuel ih =>
    intro data bs a h hlen
    cases data with
    | nil => exact ⟨bs, by simp [storeLoop], h, fun x => (write_nil _ a x).symm⟩
    | cons d ds =>
      obtain ⟨bs1, n, hst, hn1, hn2, hpre1, hmap1⟩ := store_spec bs h a (d :: ds) (by simp)
      have hlen' : ((d :: ds).drop n).length ≤ fuel := by
        rw [List.length_drop]; simp only [List.length_cons] at *; omega
      obtain ⟨bs2, hloop, hpre2, hmap2⟩ := ih ((d :: ds).drop n) bs1 (a + n) hpre1 hlen'
      refine ⟨bs2, ?_, hpre2, ?_⟩
      · simp only [storeLoop, hst]
        exact hloop
      · intro x
        rw [hmap2 x, ← write_split (ofBlocks bs) a (d :: ds) n hn2 x]
        simp only [write_apply, hmap1]

theorem pre_disj {l : List Block} (h : Pre l) : l.Pairwise Disj :=
  h.1.imp fun hxy a hab => Nat.lt_irrefl a (Nat.lt_of_lt_of_le hab.1.2 (Nat.le_trans hxy hab.2.1))

theorem dedupBlocks_pre (bs : List Block) (h : Pre bs) :
    ∃ bs', dedupBlocks bs = .ok bs' ∧ Inv bs' ∧ ∀ x, ofBlocks bs' x = ofBlocks bs x := by
  have hs : bs.Pairwise (fun x y : Block => x.1 ≤ y.1) :=
    (List.Pairwise.and_mem.1 h.1).imp fun hxy =>
      Nat.le_trans (Nat.le_of_lt (block_pos (h.2 _ hxy.1))) hxy.2.2
  rcases dedupBlocks_spec bs hs h.2 with ⟨_, hnd⟩ | ⟨r, hr, _, hinv, hm⟩
  · exact absurd (pre_disj h) hnd
  · exact ⟨r, hr, hinv, hm⟩

/-- `Store` needs of the blocks only that they are sorted, disjoint and non-empty (`Pre`); it leaves them
non-adjacent as well (`Inv`) -/
theorem storeConst_spec (bs : List Block) (h : Pre bs) (a w : Nat) (c : List UInt8) :
    ∃ bs', storeConst bs a w c = .ok bs' ∧ Inv bs' ∧ ofBlocks bs' = write (ofBlocks bs) a (storeBytes c w) := by
  unfold storeConst
  have hw : Const.withWidth c w = storeBytes c w := Lemmas.Const.withWidth_spec c w
  rw [hw]
  obtain ⟨bs1, hloop, hpre, hmap⟩ :=
    storeLoop_spec (storeBytes c w).length (storeBytes c w) bs a h (Nat.le_refl _)
  obtain ⟨bs2, hdd, hinv, hmap2⟩ := dedupBlocks_pre bs1 hpre
  refine ⟨bs2, ?_, hinv, funext fun x => (hmap2 x).trans (hmap x)⟩
  simp only [hloop]
  exact hdd

theorem runStores_spec : ∀ (hist : List (Nat × Nat × List UInt8)) (bs : List Block), Inv bs →
    ∃ bs', BytesMem.runStores bs hist = .ok bs' ∧ Inv bs' ∧ ofBlocks bs' = BytesSpec.runStores (ofBlocks bs) hist := by
  intro hist
  induction hist with
  | nil => intro bs h; exact ⟨bs, rfl, h, rfl⟩
  | cons op rest ih =>
    intro bs h
    obtain ⟨a, w, c⟩ := op
    obtain ⟨bs1, hst, hinv, hmap⟩ := storeConst_spec bs (inv_pre h) a w c
    obtain ⟨bs2, hrun, hinv2, hmap2⟩ := ih bs1 hinv
    refine ⟨bs2, ?_, hinv2, ?_⟩
    · simp only [BytesMem.runStores, hst]
      exact hrun
    · rw [hmap2, hmap]
      rfl

theorem newConst_self (s : List UInt8) (w : Nat) (h : s.length = w) : Const.newConst s w = s := by
  rw [Lemmas.Const.newConst_spec, ← h, Lemmas.Bytes.natToLE_leToNat]

/-- the byte just behind a block is absent: the next block begins later still -/
theorem absent_at_end {l r : List Block} {b : Block} (h : Inv (l ++ b :: r)) :
    ofBlocks (l ++ b :: r) (bend b) = none := by
  rw [ofBlocks_eq_none_iff]
  have hp := h.1
  rw [List.pairwise_append, List.pairwise_cons] at hp
  intro y hy hc
  rcases List.mem_append.1 hy with hy' | hy'
  · exact Nat.lt_irrefl _ (Nat.lt_trans hc.2 (Nat.lt_trans (hp.2.2 y hy' b List.mem_cons_self)
      (block_pos (h.2 b (by simp)))))
  · rcases List.mem_cons.1 hy' with rfl | hy''
    · exact Nat.lt_irrefl _ hc.2
    · exact Nat.lt_irrefl _ (Nat.lt_of_lt_of_le (hp.2.1.1 y hy'') hc.1)

theorem load_spec (bs : List Block) (h : Inv bs) (a w : Nat) (hw : 1 ≤ w) :
    ∃ r, load bs a w = .ok r ∧ (r.isSome = true ↔ Present (ofBlocks bs) a w) ∧
      ∀ v, r = some v → v.length = w ∧ ∀ i, i < w → v[i]? = ofBlocks bs (a + i) := by
  have hpre := inv_pre h
  rcases locate bs hpre a with ⟨l, b, r, rfl, hb⟩ | ⟨l, r, rfl, hl, hr⟩
  · obtain ⟨k, rfl⟩ : ∃ k, a = b.1 + k := ⟨a - b.1, (Nat.add_sub_of_le hb.1).symm⟩
    have hk : k < b.2.length := Nat.lt_of_add_lt_add_left hb.2
    simp only [load, address_found hpre hb, List.getElem?_append_right (Nat.le_refl _), Nat.sub_self,
      List.getElem?_cons_zero, Nat.add_sub_cancel_left]
    by_cases hshort : bend b < b.1 + k + w
    · -- the range ends behind the block, where no byte is present
      rw [if_pos hshort]
      refine ⟨none, rfl, ?_, by simp⟩
      simp only [Option.isSome_none, Bool.false_eq_true, false_iff]
      intro hp
      have := hp (b.2.length - k) (by unfold bend at hshort; omega)
      rw [show b.1 + k + (b.2.length - k) = bend b by unfold bend; omega] at this
      exact this (absent_at_end h)
    · rw [if_neg hshort]
      have hkw : k + w ≤ b.2.length := by unfold bend at hshort; omega
      have hsl : sliceB b.2 k (k + w) = some ((b.2.drop k).take w) := by
        unfold sliceB
        rw [if_pos ⟨Nat.le_add_right _ _, hkw⟩, Nat.add_sub_cancel_left]
      have hlen : ((b.2.drop k).take w).length = w := by
        rw [List.length_take, List.length_drop]; omega
      have hval : ∀ i, i < w → ((b.2.drop k).take w)[i]? = ofBlocks (l ++ b :: r) (b.1 + k + i) := by
        intro i hi
        have hc : Covers b (b.1 + k + i) := ⟨by omega, by omega⟩
        rw [ofBlocks_eq_of_mem (pre_disj hpre) (by simp) hc, List.getElem?_take, if_pos hi,
          List.getElem?_drop, Nat.add_assoc, Nat.add_sub_cancel_left]
      rw [hsl]
      simp only [newConst_self _ w hlen]
      refine ⟨_, rfl, ?_, ?_⟩
      · simp only [Option.isSome_some, true_iff]
        intro i hi
        rw [← hval i hi, List.getElem?_eq_getElem (by omega)]
        simp
      · intro v hv
        cases hv
        exact ⟨hlen, hval⟩
  · simp only [load, address_none hl hr]
    refine ⟨none, rfl, ?_, by simp⟩
    simp only [Option.isSome_none, Bool.false_eq_true, false_iff]
    intro hp
    refine hp 0 (by omega) ?_
    rw [Nat.add_zero, ofBlocks_eq_none_iff]
    intro y hy hc
    rcases List.mem_append.1 hy with hy' | hy'
    · exact Nat.lt_irrefl a (Nat.lt_of_lt_of_le hc.2 (hl y hy'))
    · exact Nat.lt_irrefl a (Nat.lt_of_lt_of_le (hr y hy') hc.1)

theorem blocks_spec (bs : List Block) (h : Inv bs) :
    NormalOf (blocks bs) fun x => 0 ≤ x ∧ ofBlocks bs x.toNat ≠ none := by
  have hpos : ∀ i ∈ bs.map (fun b : Block => ((b.1 : Int), (bend b : Int))), i.1 < i.2 := by
    intro i hi
    obtain ⟨b, hb, rfl⟩ := List.mem_map.1 hi
    have := block_pos (h.2 b hb)
    simp only
    omega
  refine (Lemmas.Interval.newMap_spec _ hpos).congr fun x => ?_
  rw [ofBlocks_ne_none_iff, Lemmas.Interval.mem_map]
  unfold Covers bend
  exact ⟨fun ⟨b, hb, h1, h2⟩ => ⟨by omega, b, hb, by omega⟩, fun ⟨h0, b, hb, hc⟩ => ⟨b, hb, by omega⟩⟩

theorem missing_spec (bs : List Block) (h : Inv bs) (a w : Nat) (hw : 1 ≤ w) :
    Lemmas.Interval.Cuts (missing bs a w) a ((a + w : Nat) : Int) fun x => ofBlocks bs x.toNat = none := by
  have hq : (a : Int) < ((a + w : Nat) : Int) := Int.ofNat_lt.2 (Nat.lt_add_of_pos_right hw)
  unfold missing
  rw [Lemmas.Interval.newMap_singleton]
  refine Lemmas.Interval.Cuts.congr
    (Lemmas.Interval.complement_spec (Lemmas.Interval.normalOf_singleton hq) (blocks_spec bs h)) fun x h1 _ => ?_
  exact ⟨fun hno => Classical.byContradiction fun hne => hno ⟨Int.le_trans (Int.natCast_nonneg a) h1, hne⟩,
    fun h3 hh => hh.2 h3⟩

end Mltwist.Lemmas.BytesMem
