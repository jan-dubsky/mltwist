import Mltwist.Lemmas.DepsCodeInv
import Mltwist.Lemmas.DepsPaths
import Mltwist.Lemmas.BasicBlock
/-
`NewCode` establishes the invariant: for well-formed instruction lists every successfully built
code satisfies `CInv`; the edges of every block are the result of the finders on the block in
its original order.  What `Parse` returns on well-formed code, the specified blocks, are runs of the
input (`Lemmas.BasicBlock.ginv_blocks`); `newBlock` turns a run into a block with the invariant (`Built`).
-/
namespace Mltwist.Lemmas.Deps
open Mltwist Mltwist.Deps Mltwist.Deps.Spec

/-- a `deps` instruction as `basicblock` sees it -/
def proj (i : Ins) : BasicBlock.Ins := ⟨i.origAddr, i.len, i.jumpTargets⟩

theorem indexFrom_length (k : Nat) (l : List Ins) : (indexFrom k l).length = l.length := by
  induction l generalizing k with
  | nil => rfl
  | cons x xs ih => simp [indexFrom, ih]

theorem indexFrom_ne_nil (k : Nat) (l : List Ins) (h : l ≠ []) : indexFrom k l ≠ [] := by
  cases l with
  | nil => exact absurd rfl h
  | cons x xs => simp [indexFrom]

theorem idxFrom_indexFrom (k : Nat) (l : List Ins) : IdxFrom k (indexFrom k l) := by
  induction l generalizing k with
  | nil => simp [indexFrom, IdxFrom]
  | cons x xs ih => exact ⟨rfl, ih _⟩

theorem idsOf_indexFrom (k : Nat) (l : List Ins) : idsOf (indexFrom k l) = List.range' k l.length := by
  induction l generalizing k with
  | nil => simp [indexFrom, idsOf]
  | cons x xs ih =>
    have := ih (k + 1)
    simp only [idsOf] at this
    simp [indexFrom, idsOf, this, List.range'_succ]

theorem idsOf_indexFrom_zero (l : List Ins) : idsOf (indexFrom 0 l) = List.range l.length := by
  rw [idsOf_indexFrom, List.range_eq_range']

theorem mem_indexFrom (k : Nat) (l : List Ins) (i : Ins) (h : i ∈ indexFrom k l) :
    ∃ i0 ∈ l, ∃ a b, i = { i0 with id := a, blockIdx := b } := by
  induction l generalizing k with
  | nil => simp [indexFrom] at h
  | cons x xs ih =>
    simp only [indexFrom, List.mem_cons] at h
    rcases h with rfl | h
    · exact ⟨x, by simp, _, _, rfl⟩
    · obtain ⟨i0, h0, a, b, e⟩ := ih _ h
      exact ⟨i0, List.mem_cons_of_mem _ h0, a, b, e⟩

theorem tilesI_indexFrom (a k : Nat) (l : List Ins) : TilesI a (indexFrom k l) ↔ TilesI a l := by
  induction l generalizing a k with
  | nil => simp [indexFrom, TilesI]
  | cons x xs ih => simp only [indexFrom, TilesI, ih]

theorem bytesI_indexFrom (k : Nat) (l : List Ins) : bytesI (indexFrom k l) = bytesI l := by
  induction l generalizing k with
  | nil => rfl
  | cons x xs ih => simp only [indexFrom, bytesI_cons, ih]

theorem idsArePositions_indexFrom (l : List Ins) : IdsArePositions (indexFrom 0 l) := by
  intro k hk
  have h1 := idsOf_indexFrom_zero l
  have hk' : k < l.length := by simpa [indexFrom_length] using hk
  have h2 : (idsOf (indexFrom 0 l))[k]'(by simpa [idsOf] using hk) = (indexFrom 0 l)[k].id :=
    idsOf_getElem _ _ hk
  rw [← h2]
  simp [h1]

theorem seqLength_foldl (l : List Ins) (acc : Nat) :
    l.foldl (fun l ins => (l + ins.len) % M) (acc % M) = (acc + bytesI l) % M := by
  induction l generalizing acc with
  | nil => simp [bytesI]
  | cons x xs ih =>
    simp only [List.foldl_cons, bytesI_cons, Nat.mod_add_mod]
    rw [ih, Nat.add_assoc]

theorem seqLength_eq (l : List Ins) : seqLength l = bytesI l % M := by
  have := seqLength_foldl l 0
  simpa [seqLength] using this

theorem tilesI_of_contiguous (x : Ins) (xs : List Ins)
    (h1 : ∀ i ∈ x :: xs, i.currAddr = i.origAddr ∧ 0 < i.len)
    (hc : BasicBlock.Spec.Contiguous ((x :: xs).map proj)) : TilesI x.currAddr (x :: xs) := by
  induction xs generalizing x with
  | nil => exact ⟨rfl, (h1 x (by simp)).2, trivial⟩
  | cons y ys ih =>
    have hxy : x.origAddr + x.len = y.origAddr := hc.1
    have hy := ih y (fun i hi => h1 i (List.mem_cons_of_mem _ hi)) hc.2
    refine ⟨rfl, (h1 x (by simp)).2, ?_⟩
    have e : x.currAddr + x.len = y.currAddr := by
      rw [(h1 x (by simp)).1, (h1 y (by simp)).1]; exact hxy
    rw [e]; exact hy

theorem newBlock_some (k : Nat) (l : List Ins) (hne : l ≠ []) : ∃ b, newBlock k l = some b := by
  obtain ⟨E, hE⟩ := findAllDeps_isSome (indexFrom 0 l) (indexFrom_ne_nil 0 l hne)
  cases l with
  | nil => exact absurd rfl hne
  | cons x xs =>
    simp only [indexFrom] at hE
    simp only [newBlock, indexFrom, hE]
    exact ⟨_, rfl⟩

theorem newBlock_eq (k : Nat) (l : List Ins) (b : Block) (h : newBlock k l = some b) :
    ∃ x xs E, l = x :: xs ∧ findAllDeps (indexFrom 0 l) = some E ∧
      b = { ptr := k, begin := x.currAddr, end_ := (x.currAddr + seqLength (indexFrom 0 l)) % M,
            seq := indexFrom 0 l, edges := E, idx := k } := by
  cases l with
  | nil =>
    simp only [newBlock, indexFrom] at h
    split at h <;> simp_all
  | cons x xs =>
    cases hE : findAllDeps (indexFrom 0 (x :: xs)) with
    | none =>
      simp only [indexFrom] at hE
      simp [newBlock, indexFrom, hE] at h
    | some E =>
      refine ⟨x, xs, E, rfl, rfl, ?_⟩
      simp only [indexFrom] at hE
      simp only [newBlock, indexFrom, hE, Option.some.injEq] at h
      rw [← h]
      simp [indexFrom]

/-- what `newBlock k l` builds -/
structure Built (k : Nat) (l : List Ins) (b : Block) : Prop where
  inv : BInv b
  orig : Orig b b
  addrs : ∀ i ∈ b.seq, i.currAddr = i.origAddr
  ptr : b.ptr = k
  idx : b.idx = k
  first : ∃ f ∈ l, b.begin = f.origAddr
  last : ∃ z ∈ l, b.begin + bytesI b.seq = z.origAddr + z.len

theorem newBlock_inv (k : Nat) (l : List Ins) (b : Block) (h : newBlock k l = some b)
    (hraw : ∀ i ∈ l, i.currAddr = i.origAddr)
    (hwf : ∀ i ∈ l, 0 < i.len ∧ i.origAddr + i.len ≤ M)
    (hc : BasicBlock.Spec.Contiguous (l.map proj)) : Built k l b := by
  obtain ⟨x, xs, E, rfl, hE, rfl⟩ := newBlock_eq k l b h
  have htl : TilesI x.currAddr (x :: xs) :=
    tilesI_of_contiguous x xs (fun i hi => ⟨hraw i hi, (hwf i hi).1⟩) hc
  obtain ⟨z, hz, hzE⟩ := tilesI_last _ _ htl (by simp)
  have hzE' : x.currAddr + bytesI (indexFrom 0 (x :: xs)) = z.origAddr + z.len := by
    rw [bytesI_indexFrom, hzE, hraw z hz]
  have hids := idsOf_indexFrom_zero (x :: xs)
  exact {
    inv := {
      ne := indexFrom_ne_nil 0 _ (by simp)
      idx := idxFrom_indexFrom 0 _
      ids := by
        show (idsOf (indexFrom 0 (x :: xs))).Perm (List.range (indexFrom 0 (x :: xs)).length)
        rw [hids, indexFrom_length]
      tiles := (tilesI_indexFrom _ _ _).2 htl
      top := hzE' ▸ (hwf z hz).2
      end_ := by
        show (x.currAddr + seqLength (indexFrom 0 (x :: xs))) % M
          = (x.currAddr + bytesI (indexFrom 0 (x :: xs))) % M
        rw [seqLength_eq, Nat.add_mod_mod]
      fwd := by
        -- an edge of the finders joins an instruction to one behind it, and the ids are distinct
        intro e he
        obtain ⟨_, a, c, hd, rfl⟩ := (mem_findAllDeps hE e).1 he
        have hsub : [a.id, c.id].Sublist (idsOf (indexFrom 0 (x :: xs))) := hd.span.sublist.map _
        exact ⟨hsub.subset (by simp), hsub.subset (by simp),
          idxOf_lt_of_sublist hsub (hids ▸ List.nodup_range)⟩ }
    orig := .refl (idsArePositions_indexFrom _) hE
    addrs := fun i hi => by
      obtain ⟨i0, h0, a, c, rfl⟩ := mem_indexFrom _ _ _ hi
      exact hraw i0 h0
    ptr := rfl
    idx := rfl
    first := ⟨x, by simp, hraw x (by simp)⟩
    last := ⟨z, hz, hzE'⟩ }

theorem newBlocks_some (k : Nat) (ls : List (List Ins)) (hne : ∀ l ∈ ls, l ≠ []) :
    ∃ bs, newBlocks k ls = some bs := by
  induction ls generalizing k with
  | nil => exact ⟨[], rfl⟩
  | cons l rest ih =>
    obtain ⟨b, hb⟩ := newBlock_some k l (hne l (by simp))
    obtain ⟨bs, hbs⟩ := ih (k + 1) (fun l hl => hne l (List.mem_cons_of_mem _ hl))
    exact ⟨b :: bs, by simp [newBlocks, hb, hbs]⟩

theorem newBlocks_spec (k : Nat) (ls : List (List Ins)) (bs : List Block)
    (h : newBlocks k ls = some bs) :
    bs.length = ls.length ∧
      ∀ j (h1 : j < ls.length) (h2 : j < bs.length), newBlock (k + j) ls[j] = some bs[j] := by
  induction ls generalizing k bs with
  | nil =>
    obtain rfl : [] = bs := Option.some.inj h
    exact ⟨rfl, fun j h1 => absurd h1 (Nat.not_lt_zero _)⟩
  | cons l rest ih =>
    rw [newBlocks] at h
    split at h
    · rename_i b bs' hb hbs
      obtain rfl : b :: bs' = bs := Option.some.inj h
      obtain ⟨hl, hj⟩ := ih (k + 1) bs' hbs
      refine ⟨by rw [List.length_cons, List.length_cons, hl], fun j h1 h2 => ?_⟩
      cases j with
      | zero => exact hb
      | succ j =>
        have := hj j (Nat.lt_of_succ_lt_succ h1) (Nat.lt_of_succ_lt_succ h2)
        rwa [Nat.add_assoc, Nat.add_comm 1] at this
    · cases h

theorem find_of_distinct (ins : List Ins)
    (hd : ins.Pairwise fun a b => a.origAddr ≠ b.origAddr) (x : Ins) (hx : x ∈ ins) :
    findRaw ins (proj x) = some x := by
  induction ins with
  | nil => cases hx
  | cons i0 rest ih =>
    have hd' := List.pairwise_cons.1 hd
    simp only [findRaw, List.find?_cons, proj]
    rcases List.mem_cons.1 hx with rfl | hx
    · simp
    · have hb : (i0.origAddr == x.origAddr) = false := by simpa using hd'.1 x hx
      rw [hb]
      exact ih hd'.2 hx

theorem filterMap_findRaw (ins : List Ins)
    (hd : ins.Pairwise fun a b => a.origAddr ≠ b.origAddr) (l : List Ins) (hl : ∀ x ∈ l, x ∈ ins) :
    (l.map proj).filterMap (findRaw ins) = l := by
  induction l with
  | nil => rfl
  | cons x xs ih =>
    rw [List.map_cons, List.filterMap_cons, find_of_distinct ins hd x (hl x List.mem_cons_self),
      ih fun y hy => hl y (List.mem_cons_of_mem _ hy)]

theorem exists_map_of_mem {α β : Type} (f : α → β) (A : List α) (s : List β) (h : ∀ x ∈ s, x ∈ A.map f) :
    ∃ l : List α, s = l.map f ∧ ∀ y ∈ l, y ∈ A := by
  induction s with
  | nil => exact ⟨[], rfl, fun _ h => nomatch h⟩
  | cons x xs ih =>
    obtain ⟨y, hy, rfl⟩ := List.mem_map.1 (h _ List.mem_cons_self)
    obtain ⟨l, rfl, hl⟩ := ih fun z hz => h z (List.mem_cons_of_mem _ hz)
    exact ⟨y :: l, rfl, List.forall_mem_cons.2 ⟨hy, hl⟩⟩

/-- the instructions as `basicblock` sees them -/
def toBB (raw : List (Nat × Nat × Nat × List Effect)) : List BasicBlock.Ins :=
  raw.map fun (_, a, l, efs) => BasicBlock.mkIns a l efs

/-- the instruction objects `NewCode` creates -/
def rawIns (raw : List (Nat × Nat × Nat × List Effect)) : List Ins :=
  raw.map fun (t, a, l, efs) => newInstruction t a l efs

theorem rawIns_proj (raw : List (Nat × Nat × Nat × List Effect)) :
    (rawIns raw).map proj = toBB raw := by
  simp only [rawIns, toBB, List.map_map]
  apply List.map_congr_left
  rintro ⟨t, a, l, efs⟩ _
  rfl

theorem rawIns_raw (raw : List (Nat × Nat × Nat × List Effect)) :
    ∀ i ∈ rawIns raw, i.currAddr = i.origAddr := by
  intro i hi
  obtain ⟨⟨t, a, l, efs⟩, _, rfl⟩ := List.mem_map.1 hi
  rfl

theorem newCode_unfold (entry : Nat) (raw : List (Nat × Nat × Nat × List Effect)) :
    newCode entry raw =
      (BasicBlock.parse entry (toBB raw)).bind fun seqs =>
        match newBlocks 0 (seqs.map fun s => s.filterMap (findRaw (rawIns raw))) with
        | none => .error .panic
        | some bs => .ok { entry, store := bs, blocks := List.range bs.length } := by
  rw [← rawIns_proj]
  rfl

theorem newCode_ok {entry : Nat} {raw : List (Nat × Nat × Nat × List Effect)} {c : Code} (h : newCode entry raw = .ok c) :
    ∃ seqs bs, BasicBlock.parse entry (toBB raw) = .ok seqs ∧
      newBlocks 0 (seqs.map fun s => s.filterMap (findRaw (rawIns raw))) = some bs ∧
      c.store = bs ∧ c.blocks = List.range bs.length := by
  rw [newCode_unfold] at h
  cases hp : BasicBlock.parse entry (toBB raw) with
  | error e => rw [hp] at h; cases h
  | ok seqs =>
    rw [hp] at h
    simp only [Except.bind] at h
    cases hnb : newBlocks 0 (seqs.map fun s => s.filterMap (findRaw (rawIns raw))) with
    | none => rw [hnb] at h; cases h
    | some bs => rw [hnb] at h; cases h; exact ⟨seqs, bs, rfl, hnb, rfl, rfl⟩

theorem rawIns_distinct (raw : List (Nat × Nat × Nat × List Effect)) (hwf : BasicBlock.Spec.WF (toBB raw)) :
    (rawIns raw).Pairwise fun a b => a.origAddr ≠ b.origAddr := by
  have : (toBB raw).Pairwise fun a b => a.addr ≠ b.addr :=
    List.Pairwise.imp_of_mem (fun {a b} ha hb hab => by
      have := (hwf.1 a ha).1
      have := (hwf.1 b hb).1
      omega) hwf.2
  rwa [← rawIns_proj, List.pairwise_map] at this

theorem parsed_raw (raw : List (Nat × Nat × Nat × List Effect)) (hwf : BasicBlock.Spec.WF (toBB raw))
    (s : List BasicBlock.Ins) (hs : ∀ x ∈ s, x ∈ toBB raw) :
    (s.filterMap (findRaw (rawIns raw))).map proj = s ∧
      ∀ i ∈ s.filterMap (findRaw (rawIns raw)), i ∈ rawIns raw := by
  -- `s` is the view of a list `l` of instruction objects, and `findRaw` gives `l` back
  obtain ⟨l, rfl, hl⟩ := exists_map_of_mem proj (rawIns raw) s (by rwa [rawIns_proj])
  rw [filterMap_findRaw _ (rawIns_distinct raw hwf) l hl]
  exact ⟨rfl, hl⟩

/-- what `deps.NewCode` builds from well-formed code -/
structure BuiltCode (c : Code) : Prop where
  inv : CInv c
  orig : ∀ b ∈ c.store, Orig b b
  addrs : ∀ b ∈ c.store, ∀ i ∈ b.seq, i.currAddr = i.origAddr

theorem newCode_inv (entry : Nat) (raw : List (Nat × Nat × Nat × List Effect))
    (hwf : BasicBlock.Spec.WF (toBB raw)) (c : Code) (h : newCode entry raw = .ok c) : BuiltCode c := by
  obtain ⟨_, bs, _⟩ := c
  obtain ⟨seqs, _, hp, hnb, hs, hbl⟩ := newCode_ok h
  dsimp only at hs hbl
  subst hs hbl
  obtain ⟨-, rfl⟩ := (Lemmas.BasicBlock.parse_ok_iff entry _ hwf seqs).1 hp
  obtain ⟨hI, hmem⟩ := Lemmas.BasicBlock.ginv_blocks entry _ hwf
  obtain ⟨hlen, hj⟩ := newBlocks_spec 0 _ bs hnb
  rw [List.length_map] at hlen
  have hraw := fun i (hi : i < (BasicBlock.Spec.blocks entry (toBB raw)).length) =>
    parsed_raw raw hwf _ (hmem _ (List.getElem_mem hi))
  have key : ∀ j (h2 : j < bs.length) (h1 : j < (BasicBlock.Spec.blocks entry (toBB raw)).length),
      Built j ((BasicBlock.Spec.blocks entry (toBB raw))[j].filterMap (findRaw (rawIns raw))) bs[j] := by
    intro j h2 h1
    have hnbj := hj j (by simpa using h1) h2
    rw [List.getElem_map, Nat.zero_add] at hnbj
    obtain ⟨hm1, hm2⟩ := hraw j h1
    refine newBlock_inv j _ bs[j] hnbj (fun i hi => rawIns_raw raw i (hm2 i hi)) (fun i hi => ?_)
      (by rw [hm1]; exact hI.contiguous _ (List.getElem_mem h1))
    exact hwf.1 (proj i) (by rw [← rawIns_proj]; exact List.mem_map_of_mem (hm2 i hi))
  -- a member of the `i`-th block stands, as `basicblock` sees it, in the `i`-th sequence
  have hin : ∀ i (hi : i < (BasicBlock.Spec.blocks entry (toBB raw)).length),
      ∀ z ∈ (BasicBlock.Spec.blocks entry (toBB raw))[i].filterMap (findRaw (rawIns raw)),
      proj z ∈ (BasicBlock.Spec.blocks entry (toBB raw))[i] := fun i hi z hz => by
    rw [← (hraw i hi).1]
    exact List.mem_map_of_mem hz
  have hget : ∀ b ∈ bs, ∃ j l, Built j l b := fun b hb => by
    obtain ⟨j, hj, rfl⟩ := List.getElem_of_mem hb
    exact ⟨_, _, key j hj (hlen ▸ hj)⟩
  refine ⟨⟨?_, ?_, ?_, ?_, ?_⟩, ?_, ?_⟩
  · intro b hb
    obtain ⟨_, _, hB⟩ := hget b hb
    exact hB.inv
  · intro p hpl
    exact (key p hpl (hlen ▸ hpl)).ptr
  · exact List.Perm.refl _
  · intro k hk hkp
    show (bs[(List.range bs.length)[k]]'hkp).idx = k
    have hk' : k < bs.length := by simpa using hk
    have e : (List.range bs.length)[k] = k := List.getElem_range _
    simp only [e]
    exact (key k hk' (hlen ▸ hk')).idx
  · show bs.Pairwise _
    rw [List.pairwise_iff_getElem]
    intro i j hi hj hij
    obtain ⟨z, hz, hzb⟩ := (key i hi (hlen ▸ hi)).last
    obtain ⟨f, hf, hfb⟩ := (key j hj (hlen ▸ hj)).first
    rw [hzb, hfb]
    exact (List.pairwise_iff_getElem.1 hI.pairwise) i j (hlen ▸ hi) (hlen ▸ hj) hij _ (hin i _ z hz) _
      (hin j _ f hf)
  · intro b hb
    obtain ⟨_, _, hB⟩ := hget b hb
    exact hB.orig
  · intro b hb
    obtain ⟨_, _, hB⟩ := hget b hb
    exact hB.addrs

/-- the fields `deps.NewCode` copies from its input -/
def stripped (i : Ins) : Nat × Nat × Nat × List Effect := (i.typ, i.origAddr, i.len, i.effects)

theorem stripped_indexFrom (k : Nat) (l : List Ins) : (indexFrom k l).map stripped = l.map stripped := by
  induction l generalizing k with
  | nil => rfl
  | cons x xs ih => simp only [indexFrom, List.map_cons, ih]; rfl

theorem newBlocks_seqs (k : Nat) (ls : List (List Ins)) (bs : List Block) (h : newBlocks k ls = some bs) :
    (bs.map (·.seq)).map (List.map stripped) = ls.map (List.map stripped) := by
  obtain ⟨hlen, hj⟩ := newBlocks_spec k ls bs h
  refine List.ext_getElem (by simp only [List.length_map, hlen]) fun j h1 h2 => ?_
  simp only [List.length_map] at h1 h2
  obtain ⟨_, _, _, _, _, hb⟩ := newBlock_eq _ _ _ (hj j h2 h1)
  simp only [List.getElem_map, hb, stripped_indexFrom]

theorem rawIns_stripped (raw : List (Nat × Nat × Nat × List Effect)) : (rawIns raw).map stripped = raw := by
  rw [rawIns, List.map_map]
  exact (List.map_congr_left fun _ _ => rfl).trans (List.map_id _)

theorem newCode_instructions (entry : Nat) (raw : List (Nat × Nat × Nat × List Effect))
    (hwf : BasicBlock.Spec.WF (toBB raw)) (hs : Lemmas.BasicBlock.SortedWF (toBB raw)) (c : Code)
    (h : newCode entry raw = .ok c) : (c.store.flatMap (·.seq)).map stripped = raw := by
  obtain ⟨seqs, bs, hp, hnb, rfl, -⟩ := newCode_ok h
  obtain ⟨-, rfl⟩ := (Lemmas.BasicBlock.parse_ok_iff entry _ hwf seqs).1 hp
  have hfl : (BasicBlock.Spec.blocks entry (toBB raw)).flatten = toBB raw := by
    -- the parser's instructions are in address order already
    rw [BasicBlock.Spec.blocks, Lemmas.BasicBlock.groups_flatten, BasicBlock.Spec.sortByAddr,
      List.mergeSort_of_pairwise (hs.2.imp fun h => decide_eq_true (Nat.le_of_add_right_le h))]
  rw [List.flatMap_def, List.map_flatten, newBlocks_seqs _ _ _ hnb, ← List.map_flatten,
    ← List.filterMap_flatten, hfl, ← rawIns_proj,
    filterMap_findRaw _ (rawIns_distinct raw hwf) _ (fun _ h => h), rawIns_stripped]

theorem newCode_nopanic (entry : Nat) (raw : List (Nat × Nat × Nat × List Effect))
    (hwf : BasicBlock.Spec.WF (toBB raw)) : newCode entry raw ≠ .error .panic := by
  rw [newCode_unfold]
  cases hp : BasicBlock.parse entry (toBB raw) with
  | error e =>
    intro h
    simp only [Except.bind] at h
    cases h
    exact (Lemmas.BasicBlock.parse_nopanic entry (toBB raw)).1 hp
  | ok seqs =>
    simp only [Except.bind]
    obtain ⟨-, rfl⟩ := (Lemmas.BasicBlock.parse_ok_iff entry _ hwf seqs).1 hp
    obtain ⟨hI, hmem⟩ := Lemmas.BasicBlock.ginv_blocks entry _ hwf
    have hne' : ∀ l ∈ (BasicBlock.Spec.blocks entry (toBB raw)).map
        (fun s => s.filterMap (findRaw (rawIns raw))), l ≠ [] := by
      intro l hl
      obtain ⟨s, hs, rfl⟩ := List.mem_map.1 hl
      obtain ⟨hm1, _⟩ := parsed_raw raw hwf s (hmem s hs)
      intro hnil
      rw [hnil] at hm1
      exact hI.ne s hs hm1.symm
    obtain ⟨bs, hbs⟩ := newBlocks_some 0 _ hne'
    rw [hbs]
    intro h
    cases h

end Mltwist.Lemmas.Deps
