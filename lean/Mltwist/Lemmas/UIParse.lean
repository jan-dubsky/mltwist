import Mltwist.Model.UI
import Mltwist.Lemmas.NumParse
/-
C22: the command maps of the three modes and `UI.parseCommand`.  A map that `newCmdMap` built is the list of the keys of
its table, so whatever a lookup returns is one of the commands of the table; `parseCommand` (after the repairs of F20 and
F43) never panics, and the arguments it delivers have the types the command declares, so that no type assertion of an
action can fail.
-/
namespace Mltwist.Lemmas.UI
open Mltwist Mltwist.UI

theorem addKeys_eq (cmd : Command) : ∀ (ks : List Str) (m m' : CmdMap), addKeys cmd ks m = some m' →
    m' = m ++ ks.map (·, cmd)
  | [], m, m', h => by cases h; exact (List.append_nil m).symm
  | k :: ks, m, m', h => by
    simp only [addKeys] at h
    split at h
    · cases h
    · rw [addKeys_eq cmd ks _ _ h, List.append_assoc]; rfl

theorem addCmds_eq : ∀ (cs : List Command) (m m' : CmdMap), addCmds cs m = some m' →
    m' = m ++ cs.flatMap fun c => c.keys.map (·, c)
  | [], m, m', h => by cases h; exact (List.append_nil m).symm
  | c :: cs, m, m', h => by
    simp only [addCmds] at h
    split at h
    · cases h
    · next m1 h1 => rw [addCmds_eq cs _ _ h, addKeys_eq c _ _ _ h1, List.append_assoc, List.flatMap_cons]

theorem find_mem_addCmds (cs : List Command) (m : CmdMap) (h : addCmds cs [] = some m) (k : Str) (c : Command)
    (hf : m.find k = some c) : c ∈ cs := by
  obtain ⟨p, hp, rfl⟩ := Option.map_eq_some_iff.1 hf
  rw [addCmds_eq _ _ _ h] at hp
  obtain ⟨c, hc, hpc⟩ := List.mem_flatMap.1 (List.mem_of_find?_eq_some hp)
  obtain ⟨_, _, rfl⟩ := List.mem_map.1 hpc
  exact hc

-- the table is an argument of its own above: a proof that meets `addStandardCmds cmds` takes the help texts apart
theorem find_mem (cmds : List Command) (m : CmdMap) (h : newCmdMap cmds = some m) (k : Str) (c : Command)
    (hf : m.find k = some c) : c ∈ addStandardCmds cmds :=
  find_mem_addCmds (addStandardCmds cmds) m h k c hf

/-- `AddMode` never fails for the three modes: their command keys are distinct -/
theorem newCmdMap_isSome (k : UI.Kind) : (newCmdMap (commandsOf k)).isSome = true := by
  cases k <;> decide +kernel

/-- a line of spaces holds no word (F20: the pinned `parseCommand` then takes the first element of an empty slice) -/
theorem split_spaces (n : Nat) : dropEmptyStrs (split (List.replicate n 0x20)) = [] := by
  unfold split
  induction n with
  | zero => rfl
  | succ n ih =>
    simp only [List.replicate_succ, splitLoop, ↓reduceIte, List.reverse_nil, dropEmptyStrs]
    rw [List.filter_cons_of_neg (by simp)]
    exact ih

def kindOfVal : ArgVal → ArgKind
  | .num _ => .num
  | .str _ => .str
  | .addr _ => .addr

theorem parseArg_cases (k : ArgKind) (s : Str) :
    parseArg k s = .err ∨ ∃ v, parseArg k s = .ok v ∧ kindOfVal v = k := by
  cases k with
  | num =>
    simp only [parseArg]
    split
    · exact .inr ⟨_, rfl, rfl⟩
    · exact .inl rfl
  | str => exact .inr ⟨_, rfl, rfl⟩
  | addr =>
    simp only [parseArg]
    split
    · exact .inr ⟨_, rfl, rfl⟩
    · exact .inl rfl
    · next h => exact absurd h (Lemmas.NumParse.parseAddr_no_panic s)

theorem parseArgs_cases : ∀ (ks : List ArgKind) (ss : List Str), ks.length ≤ ss.length →
    parseArgs ks ss = .err ∨ ∃ vs, parseArgs ks ss = .ok vs ∧ vs.map kindOfVal = ks
  | [], _, _ => .inr ⟨[], rfl, rfl⟩
  | _ :: _, [], h => by simp at h
  | k :: ks, s :: ss, h => by
    simp only [parseArgs]
    rcases parseArg_cases k s with hv | ⟨v, hv, hk⟩ <;> rw [hv]
    · exact .inl rfl
    · rcases parseArgs_cases ks ss (by simpa using h) with hr | ⟨vs, hr, hs⟩ <;> rw [hr]
      · exact .inl rfl
      · exact .inr ⟨v :: vs, rfl, by rw [List.map_cons, hk, hs]⟩

/-- the arguments have the declared types, plus one string if optional words were joined -/
def ArgsFit (cmd : Command) (args : List ArgVal) : Prop :=
  args.map kindOfVal = cmd.args ∨ (cmd.opt = true ∧ args.map kindOfVal = cmd.args ++ [.str])

theorem parseCommand_cases (m : CmdMap) (str : Str) :
    parseCommand m str = .err ∨
    ∃ cmd args, parseCommand m str = .ok cmd args ∧ (∃ k, m.find k = some cmd) ∧ ArgsFit cmd args := by
  unfold parseCommand parseCommandWith
  split
  · exact Or.inl rfl
  next cmdStr parts _ =>
    cases hfind : m.find cmdStr with
    | none => exact Or.inl rfl
    | some cmd =>
      simp only
      by_cases hlen : parts.length < cmd.args.length
      · rw [if_pos hlen]
        exact Or.inl rfl
      · rw [if_neg hlen]
        rcases parseArgs_cases cmd.args parts (by omega) with hvs | ⟨vs, hvs, hshape⟩ <;> rw [hvs]
        · exact Or.inl rfl
        · simp only [Bool.false_eq_true, ↓reduceIte]
          split
          · exact Or.inr ⟨_, _, rfl, ⟨cmdStr, hfind⟩, Or.inl hshape⟩
          · split
            · exact Or.inl rfl
            · next hopt =>
              exact Or.inr ⟨_, _, rfl, ⟨cmdStr, hfind⟩, Or.inr ⟨by simpa using hopt, by simp [hshape, kindOfVal]⟩⟩

theorem parseCommand_no_panic (m : CmdMap) (str : Str) : parseCommand m str ≠ .panic := by
  intro h
  rcases parseCommand_cases m str with h' | ⟨_, _, h', _⟩ <;> rw [h'] at h <;> cases h

theorem parseCommand_ok (m : CmdMap) (str : Str) (cmd : Command) (args : List ArgVal)
    (h : parseCommand m str = .ok cmd args) : (∃ k, m.find k = some cmd) ∧ ArgsFit cmd args := by
  rcases parseCommand_cases m str with h' | ⟨_, _, h', hf⟩ <;> rw [h'] at h <;> cases h
  exact hf

end Mltwist.Lemmas.UI
