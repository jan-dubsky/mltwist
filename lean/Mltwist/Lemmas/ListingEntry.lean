import Mltwist.Lemmas.ListingRun
/-
`entrypoint` lands on the row of the entry instruction (C31): under `Spec.AddrWF` the two address look-ups are exact
(`lookups_exact`), so the target the specification computes with its own finders is the target of the model
(`expectEntry_eq`).
-/
namespace Mltwist.Lemmas.Listing
open Mltwist.Listing Mltwist.Listing.Spec

/-- among disjoint blocks in ascending order, the first that ends behind `a` is the block containing `a` -/
theorem code_address_complete (c : Code) (ha : AddrWF c) (a : Nat) (bk : Block) (hm : bk ∈ c.blocks)
    (h1 : bk.begin ≤ a) (h2 : a < bk.stop) : c.address a = some bk := by
  have hd : (sortByBegin c.blocks).Pairwise (fun b b' => b.stop ≤ b'.begin ∨ b'.stop ≤ b.begin) :=
    (List.Perm.pairwise_iff (fun h => h.symm) (sortByBegin_perm c.blocks)).mpr ha.disjoint
  have := find?_of_pairwise (p := fun b => b.stop > a) ((sortByBegin_sorted _).and hd)
    ((sortByBegin_perm _).mem_iff.mpr hm) (by simpa using h2) (fun b hb => by simp only [decide_eq_false_iff_not]; omega)
  simp only [Code.address, this]
  rw [if_neg (by omega)]

/-- the two look-ups of `entrypoint` are exact: at the address of an instruction they return its block and the instruction
(so there is at most one instruction at an address) -/
theorem lookups_exact (c : Code) (ha : AddrWF c) (b : Block) (hb : b ∈ c.blocks) (x : Ins) (hx : x ∈ b.ins) :
    c.address x.addr = some b ∧ b.address x.addr = some x := by
  obtain ⟨i1, i2⟩ := ha.inside b hb x hx
  have := find?_of_pairwise (p := fun i => i.addr ≥ x.addr) (ha.ascending b hb) hx (by simp)
    (fun y hy => by simp only [decide_eq_false_iff_not]; omega)
  refine ⟨code_address_complete c ha x.addr b hb i1 i2, ?_⟩
  simp only [Block.address, this]
  rw [if_neg (by simp)]

theorem findIns_eq (a : Nat) (ins : List Ins) (ipos : Nat) :
    findIns a ipos ins = (ins.findIdx? (·.addr = a)).map (· + ipos) := by
  induction ins generalizing ipos with
  | nil => rfl
  | cons i is ih =>
    simp only [findIns, List.findIdx?_cons, decide_eq_true_eq]
    split
    · simp
    · rw [ih]; cases List.findIdx? _ is <;> simp; omega

theorem findAddr_eq (a : Nat) (bs : List Block) (pos : Nat) :
    findAddr a pos bs = (bs.zipIdx pos).findSome? fun p => (findIns a 0 p.1.ins).map (p.2, ·) := by
  induction bs generalizing pos with
  | nil => rfl
  | cons b bs ih =>
    simp only [findAddr, List.zipIdx_cons, List.findSome?_cons, ih]
    cases findIns a 0 b.ins <;> rfl

theorem findAddr_none {a : Nat} {bs : List Block} (h : findAddr a 0 bs = none) :
    ∀ b ∈ bs, ∀ x ∈ b.ins, x.addr ≠ a := by
  intro b hb x hx
  obtain ⟨k, hk⟩ := List.mem_iff_getElem?.1 hb
  have := List.findSome?_eq_none_iff.1 (findAddr_eq a bs 0 ▸ h) (b, k) (List.mk_mem_zipIdx_iff_getElem?.2 hk)
  rw [Option.map_eq_none_iff, findIns_eq, Option.map_eq_none_iff, List.findIdx?_eq_none_iff] at this
  simpa using this x hx

theorem findAddr_some {a : Nat} {bs : List Block} {k j : Nat} (h : findAddr a 0 bs = some (k, j)) :
    ∃ b x, bs[k]? = some b ∧ b.ins[j]? = some x ∧ x.addr = a := by
  rw [findAddr_eq] at h
  obtain ⟨⟨b, k'⟩, hp, hf⟩ := List.exists_of_findSome?_eq_some h
  obtain ⟨j', hj, e⟩ := Option.map_eq_some_iff.1 hf
  cases e
  simp only [findIns_eq, Nat.add_zero, Option.map_id', List.findIdx?_eq_some_iff_getElem] at hj
  obtain ⟨hlt, hx, _⟩ := hj
  exact ⟨b, _, List.mk_mem_zipIdx_iff_getElem?.1 hp, List.getElem?_eq_getElem hlt, by simpa using hx⟩

/-- the instruction the finders of the specification meet first is the one the look-ups return, at the positions its
indices name -/
theorem expectEntry_eq {c : Code} (hwf : WF c) (ha : AddrWF c) : expectEntry c = entryTarget c := by
  unfold expectEntry entryTarget
  cases hf : findAddr c.entry 0 c.blocks with
  | none =>
    cases hb : c.address c.entry with
    | none => rfl
    | some b =>
      simp only
      cases hx : b.address c.entry with
      | none => rfl
      | some x =>
        obtain ⟨hbget, hxget, hxa⟩ := address_get hwf hb hx
        exact absurd hxa (findAddr_none hf b (List.mem_of_getElem? hbget) x (List.mem_of_getElem? hxget))
  | some p =>
    obtain ⟨k, j⟩ := p
    obtain ⟨b, x, hb, hx, hxa⟩ := findAddr_some hf
    have hbm := List.mem_of_getElem? hb
    obtain ⟨h1, h2⟩ := lookups_exact c ha b hbm x (List.mem_of_getElem? hx)
    rw [hxa] at h1 h2
    simp only [h1, h2, hwf.blockIdx k b hb, hwf.insIdx b hbm j x hx]

theorem entry_spec (ops : CodeOps) (st : St) (hinv : Inv st) (ha : AddrWF st.code) :
    ∃ s st', step ops st .entrypoint = some (s, st') ∧ Navigated st (expectEntry st.code) s st' :=
  expectEntry_eq hinv.wf ha ▸ entry_lands ops st hinv

end Mltwist.Lemmas.Listing
