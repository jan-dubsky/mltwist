import Mltwist.Lemmas.DepsCodeInv
/-
Code level of C07: the invariant `CInv` under the operations of the tool.  `Code.Move` (block moves)
only permutes `blocks` and rewrites block indices; `blocksByAddr` (`store`) keeps every address,
instruction and edge: under the invariant `Code.move` is the index check followed by `c.reorder` of the
rotated order (`CInv.move_eq`).  An accepted instruction move replaces one block object by its successor
(`CInv.index_eq`, `CInv.put_moved`).  The invariant is kept by every operation of a history, and a history cannot
change the edges, the set of instructions of a block or the addresses of blocks (`SameCode`, `CInv.run`).
-/
namespace Mltwist.Lemmas.Deps
open Mltwist Mltwist.Deps Mltwist.Deps.Spec

/-- the blocks with their positions as indices -/
def renum (l : List Block) : List Block := l.mapIdx fun k b => { b with idx := k }

/-- blocks have no address of their own to refresh: a refresh renumbers -/
theorem readdr_block (k a : Nat) (l : List Block) :
    readdr blockMovable k a l = l.mapIdx fun i b => { b with idx := i + k } := by
  induction l generalizing k a with
  | nil => rfl
  | cons x xs ih =>
    rw [List.mapIdx_cons, readdr, ih, Nat.zero_add]
    simp only [Nat.add_assoc, Nat.add_comm 1]
    rfl

/-- what stands before and behind the moved segment has its position as index already -/
theorem move_blocks (arr : List Block) (f t : Nat) (hf : f < arr.length) (ht : t < arr.length)
    (hidx : renum arr = arr) :
    Deps.move blockMovable arr f t = some (renum (rotate arr f t)) := by
  by_cases hne : f = t
  · subst hne
    rw [move_self, rotate_self, hidx]
  · obtain ⟨P, seg, seg', S, y, rfl, _, hp, hmv, hrot⟩ := move_split blockMovable arr f t hf ht hne
    rw [hmv, hrot]
    simp only [renum, List.mapIdx_append] at hidx ⊢
    obtain ⟨h12, h3⟩ := List.append_inj' hidx (by simp)
    obtain ⟨h1, -⟩ := List.append_inj h12 (by simp)
    rw [h1, readdr_block, List.length_append, hp.length_eq, ← List.length_append, h3]

/-- the store after writing all blocks of `l` back -/
def putAll (l : List Block) (st : List Block) : List Block := l.foldl (fun st b => st.set b.ptr b) st

theorem putAll_length (l : List Block) (st : List Block) : (putAll l st).length = st.length := by
  induction l generalizing st with
  | nil => rfl
  | cons x xs ih => simp [putAll, List.foldl_cons] at ih ⊢; rw [ih]; simp

theorem putAll_not_mem (l : List Block) (st : List Block) (p : Nat) (hp : p ∉ l.map (·.ptr)) :
    (putAll l st)[p]? = st[p]? := by
  induction l generalizing st with
  | nil => rfl
  | cons x xs ih =>
    simp only [List.map_cons, List.mem_cons, not_or] at hp
    have := ih (st.set x.ptr x) hp.2
    simp only [putAll, List.foldl_cons] at this ⊢
    rw [this, List.getElem?_set_ne (fun h => hp.1 h.symm)]

theorem putAll_mem (l : List Block) (st : List Block) (hnd : (l.map (·.ptr)).Nodup) (b : Block)
    (hb : b ∈ l) (hlt : b.ptr < st.length) : (putAll l st)[b.ptr]? = some b := by
  induction l generalizing st with
  | nil => simp at hb
  | cons x xs ih =>
    simp only [List.map_cons, List.nodup_cons] at hnd
    rcases List.mem_cons.1 hb with rfl | hb
    · have := putAll_not_mem xs (st.set b.ptr b) b.ptr hnd.1
      simp only [putAll, List.foldl_cons] at this ⊢
      rw [this, List.getElem?_set_self hlt]
    · have := ih (st.set x.ptr x) hnd.2 hb (by simpa using hlt)
      simpa only [putAll, List.foldl_cons] using this

theorem filterMap_getElem? {α : Type} [Inhabited α] (st : List α) (l : List Nat) (h : ∀ p ∈ l, p < st.length) :
    l.filterMap (fun p => st[p]?) = l.map (fun p => st.getD p default) := by
  induction l with
  | nil => rfl
  | cons p l ih =>
    have hp := h p (by simp)
    simp only [List.filterMap_cons, List.getElem?_eq_getElem hp, List.map_cons, List.getD_eq_getElem?_getD,
      Option.getD_some]
    rw [ih (fun q hq => h q (by simp [hq]))]
    simp [List.getD_eq_getElem?_getD]

theorem map_getD_range {α : Type} [Inhabited α] (st : List α) :
    (List.range st.length).map (fun p => st.getD p default) = st := by
  apply List.ext_getElem
  · simp
  · intro i h1 h2
    simp at h1
    simp [h1]

theorem frozen_eq {b b' : Block} (h : frozen b = frozen b') : b = { b' with idx := b.idx } := by
  cases b; cases b'
  simp only [frozen, Prod.mk.injEq] at h
  obtain ⟨rfl, rfl, rfl, rfl, rfl⟩ := h
  rfl

theorem BInv.of_frozen {b b' : Block} (hb : BInv b) (h : frozen b' = frozen b) : BInv b' := by
  rw [frozen_eq h]
  exact { hb with }

theorem CInv.lt {c : Code} (hc : CInv c) : ∀ p ∈ c.blocks, p < c.store.length := by
  intro p hp
  have := hc.perm.mem_iff.1 hp
  simpa using this

theorem CInv.ptr_lt {c : Code} (hc : CInv c) (k : Nat) (hk : k < c.blocks.length) :
    c.blocks[k] < c.store.length :=
  hc.lt _ (List.getElem_mem hk)

theorem CInv.current_eq {c : Code} (hc : CInv c) :
    c.current = c.blocks.map (fun p => c.store.getD p default) :=
  filterMap_getElem? c.store c.blocks hc.lt

theorem CInv.current_length {c : Code} (hc : CInv c) : c.current.length = c.blocks.length := by
  rw [hc.current_eq, List.length_map]

theorem CInv.nodup {c : Code} (hc : CInv c) : c.blocks.Nodup :=
  hc.perm.nodup_iff.2 List.nodup_range

theorem CInv.current_perm {c : Code} (hc : CInv c) : c.current.Perm c.store := by
  rw [hc.current_eq]
  have := hc.perm.map (fun p => c.store.getD p default)
  rwa [map_getD_range] at this

theorem CInv.current_getElem {c : Code} (hc : CInv c) (k : Nat) (hk : k < c.blocks.length) :
    c.current[k]? = some (c.store[c.blocks[k]]'(hc.ptr_lt k hk)) := by
  have hp := hc.ptr_lt k hk
  rw [hc.current_eq]
  simp [hk, hp]

/-- the invariant looks at a block object only through its own invariant, its pointer, its address
range and (for the object behind `blocks[k]`) its index -/
theorem CInv.of_similar {c : Code} (hc : CInv c) {st : List Block} {bl : List Nat}
    (hlen : st.length = c.store.length)
    (hst : ∀ q (h : q < c.store.length) (h' : q < st.length), BInv st[q] ∧ st[q].ptr = q ∧
      st[q].begin = c.store[q].begin ∧ bytesI st[q].seq = bytesI c.store[q].seq)
    (hperm : bl.Perm (List.range st.length))
    (hidx : ∀ k (h : k < bl.length) (hp : bl[k] < st.length), st[bl[k]].idx = k) :
    CInv { c with store := st, blocks := bl } := by
  refine ⟨fun b hb => ?_, fun q hq => (hst q (hlen ▸ hq) hq).2.1, hperm, hidx, ?_⟩
  · obtain ⟨q, hq, rfl⟩ := List.getElem_of_mem hb
    exact (hst q (hlen ▸ hq) hq).1
  · show st.Pairwise _
    rw [List.pairwise_iff_getElem]
    intro i j hi hj hij
    have := List.pairwise_iff_getElem.1 hc.sorted i j (hlen ▸ hi) (hlen ▸ hj) hij
    rw [(hst i _ hi).2.2.1, (hst i _ hi).2.2.2, (hst j _ hj).2.2.1]
    exact this

/-- the code with its blocks in the order `bl`: every block object stays what and where it is and gets its
position in `bl` as index -/
def _root_.Mltwist.Deps.Code.reorder (c : Code) (bl : List Nat) : Code :=
  { c with store := c.store.map fun b => { b with idx := bl.idxOf b.ptr }, blocks := bl }

theorem reorder_frozen (c : Code) (bl : List Nat) :
    (c.reorder bl).store.map frozen = c.store.map frozen := by
  rw [Code.reorder, List.map_map]
  rfl

theorem reorder_getElem (c : Code) (bl : List Nat) (p : Nat) (h : p < (c.reorder bl).store.length)
    (h0 : p < c.store.length) : (c.reorder bl).store[p] = { c.store[p] with idx := bl.idxOf c.store[p].ptr } :=
  List.getElem_map ..

theorem CInv.reorder {c : Code} (hc : CInv c) {bl : List Nat}
    (hperm : bl.Perm (List.range c.store.length)) : CInv (c.reorder bl) := by
  refine hc.of_similar (List.length_map ..) (fun q h h' => ?_) (by rwa [List.length_map])
    fun k hk hp => ?_
  · rw [List.getElem_map]
    exact ⟨(hc.blocks _ (List.getElem_mem h)).of_frozen rfl, hc.ptr q h, rfl, rfl⟩
  · rw [List.getElem_map, hc.ptr]
    exact (hperm.nodup_iff.2 List.nodup_range).idxOf_getElem k hk

theorem CInv.putAll_renum {c : Code} (hc : CInv c) {bl : List Nat}
    (hperm : bl.Perm (List.range c.store.length)) :
    (renum (bl.map fun p => c.store.getD p default)).map (·.ptr) = bl ∧
      putAll (renum (bl.map fun p => c.store.getD p default)) c.store = (c.reorder bl).store := by
  have hnd : bl.Nodup := hperm.nodup_iff.2 List.nodup_range
  have hlt : ∀ p ∈ bl, p < c.store.length := fun p hp => List.mem_range.1 (hperm.mem_iff.1 hp)
  have hb : ∀ k (hk : k < bl.length), (renum (bl.map fun p => c.store.getD p default))[k]? =
      some { c.store[bl[k]]'(hlt _ (List.getElem_mem hk)) with idx := k } := fun k hk => by
    simp [renum, hk, hlt _ (List.getElem_mem hk)]
  have hptr : (renum (bl.map fun p => c.store.getD p default)).map (·.ptr) = bl := by
    apply List.ext_getElem?
    intro k
    by_cases hk : k < bl.length
    · rw [List.getElem?_map, hb k hk, List.getElem?_eq_getElem hk, Option.map_some, hc.ptr]
    · simp [renum, List.getElem?_eq_none (Nat.le_of_not_lt hk)]
  refine ⟨hptr, List.ext_getElem (by simp [putAll_length, Code.reorder]) fun p h1 h2 => ?_⟩
  have hp : p < c.store.length := by simpa [putAll_length] using h1
  obtain ⟨k, hk, rfl⟩ := List.getElem_of_mem (hperm.mem_iff.2 (List.mem_range.2 hp))
  have := putAll_mem _ c.store (hptr.symm ▸ hnd) _ (List.mem_of_getElem? (hb k hk))
    (by simpa [hc.ptr] using hp)
  simp only [hc.ptr _ hp] at this
  rw [(List.getElem_eq_iff h1).2 this]
  simp [Code.reorder, hc.ptr, hnd.idxOf_getElem]

theorem CInv.move_current {c : Code} (hc : CInv c) (f t : Nat) (hf : f < c.blocks.length)
    (ht : t < c.blocks.length) :
    Deps.move blockMovable c.current f t =
      some (renum ((rotate c.blocks f t).map fun p => c.store.getD p default)) := by
  rw [rotate_map, ← hc.current_eq]
  refine move_blocks c.current f t (by rwa [hc.current_length]) (by rwa [hc.current_length]) ?_
  rw [renum, List.mapIdx_eq_iff]
  intro j
  by_cases hj : j < c.blocks.length
  · rw [hc.current_getElem j hj, Option.map_some]
    have h := hc.idx j hj (hc.ptr_lt j hj)
    generalize c.store[c.blocks[j]]'(hc.ptr_lt j hj) = b at h
    subst h
    rfl
  · rw [List.getElem?_eq_none (by rw [hc.current_length]; omega)]
    rfl

theorem CInv.move_eq {c : Code} (hc : CInv c) (f t : Int) :
    c.move f t = (checkFromToIndex f t c.blocks.length).map fun _ =>
      c.reorder (rotate c.blocks f.toNat t.toNat) := by
  rcases checkFromToIndex_spec f t c.blocks.length with ⟨hok, h0, h1, h2, h3⟩ | ⟨e, he, -, -⟩
  · have hmv := hc.move_current f.toNat t.toNat (by omega) (by omega)
    obtain ⟨hptr, hst⟩ := hc.putAll_renum
      ((rotate_perm c.blocks f.toNat t.toNat (by omega) (by omega)).trans hc.perm)
    simp only [Code.move, hok, bind, Except.bind, Except.map]
    rw [show (c.blocks.filterMap fun p => c.store[p]?) = c.current from rfl, hmv]
    show Except.ok { c with store := putAll _ c.store, blocks := _ } = _
    rw [hptr, hst]
    rfl
  · simp only [Code.move, he, bind, Except.bind, Except.map]

theorem CInv.move_iff {c : Code} (hc : CInv c) (f t : Int) (c' : Code) :
    c.move f t = .ok c' ↔ (0 ≤ f ∧ f < c.blocks.length ∧ 0 ≤ t ∧ t < c.blocks.length) ∧
      c' = c.reorder (rotate c.blocks f.toNat t.toNat) := by
  rw [hc.move_eq]
  rcases checkFromToIndex_spec f t c.blocks.length with ⟨hok, hv⟩ | ⟨e, he, -, hv⟩
  · rw [hok]
    exact ⟨fun h => ⟨hv, (Except.ok.inj h).symm⟩, fun h => h.2 ▸ rfl⟩
  · rw [he]
    exact ⟨nofun, fun h => absurd h.1 hv⟩

/-- the code `c` is the code `c0` after some history: every place of the store holds the same block object -/
structure SameCode (c0 c : Code) : Prop where
  entry : c.entry = c0.entry
  len : c.store.length = c0.store.length
  blocks : ∀ p (h0 : p < c0.store.length) (h : p < c.store.length), SameBlock c0.store[p] c.store[p]

theorem SameCode.refl (c : Code) : SameCode c c := ⟨rfl, rfl, fun _ _ _ => SameBlock.refl _⟩

theorem SameCode.trans {a b c : Code} (h1 : SameCode a b) (h2 : SameCode b c) : SameCode a c :=
  ⟨h2.entry.trans h1.entry, h2.len.trans h1.len, fun p h0 h =>
    (h1.blocks p h0 (by rw [h1.len]; exact h0)).trans (h2.blocks p (by rw [h1.len]; exact h0) h)⟩

theorem SameCode.reorder (c : Code) (bl : List Nat) : SameCode c (c.reorder bl) :=
  ⟨rfl, List.length_map .., fun p h0 h => by
    rw [reorder_getElem c bl p h h0]
    exact ⟨rfl, rfl, rfl, rfl, .refl _⟩⟩

/-- what an accepted block move `c.move f t = .ok c'` does -/
structure CodeMoved (c c' : Code) (f t : Int) : Prop where
  inv : CInv c'
  same : SameCode c c'
  blocks : c'.blocks = rotate c.blocks f.toNat t.toNat
  frozen : c'.store.map frozen = c.store.map frozen

theorem CInv.move_ok {c c' : Code} (hc : CInv c) (f t : Int) (h : c.move f t = .ok c') :
    CodeMoved c c' f t := by
  obtain ⟨hv, rfl⟩ := (hc.move_iff f t c').1 h
  exact ⟨hc.reorder ((rotate_perm _ _ _ (by omega) (by omega)).trans hc.perm), .reorder c _, rfl,
    reorder_frozen c _⟩

theorem CInv.move_err {c : Code} (hc : CInv c) (f t : Int) (e : MoveErr) (h : c.move f t = .error e) :
    e ≠ .panic := by
  rw [hc.move_eq] at h
  rcases checkFromToIndex_spec f t c.blocks.length with ⟨hok, -⟩ | ⟨e', he, hne, -⟩
  · rw [hok] at h
    cases h
  · rw [he] at h
    cases h
    exact hne

theorem CInv.blocks_length {c : Code} (hc : CInv c) : c.blocks.length = c.store.length := by
  simpa using hc.perm.length_eq

theorem CInv.index_nat {c : Code} (hc : CInv c) (k : Nat) (hk : k < c.blocks.length) :
    c.index (k : Int) = some (c.store[c.blocks[k]]'(hc.ptr_lt k hk)) := by
  have := hc.ptr_lt k hk
  simp [Code.index, hk, this]

theorem CInv.index_eq {c : Code} (hc : CInv c) {bi : Int} {b : Block} (h : c.index bi = some b) :
    ∃ k, ∃ hk : k < c.blocks.length, bi = (k : Int) ∧ b = c.store[c.blocks[k]]'(hc.ptr_lt k hk) := by
  unfold Code.index at h
  by_cases h0 : bi < 0
  · simp [h0] at h
  · simp only [h0, if_false] at h
    obtain ⟨k, rfl⟩ := Int.eq_ofNat_of_zero_le (by omega : 0 ≤ bi)
    simp only [Int.toNat_natCast] at h
    cases hk : c.blocks[k]? with
    | none => rw [hk] at h; simp at h
    | some p =>
      rw [hk] at h
      obtain ⟨hk', rfl⟩ := List.getElem?_eq_some_iff.1 hk
      refine ⟨k, hk', rfl, ?_⟩
      rw [Option.bind_some, List.getElem?_eq_getElem (hc.ptr_lt k hk')] at h
      exact (Option.some.inj h).symm

theorem CInv.put_moved {c : Code} (hc : CInv c) {p : Nat} (hp : p < c.store.length) {b' : Block} {f t : Int}
    (hM : Moved c.store[p] b' f t) : CInv (c.put b') := by
  obtain rfl : b'.ptr = p := hM.same.ptr.trans (hc.ptr p hp)
  refine hc.of_similar (st := c.store.set b'.ptr b') (List.length_set ..) (fun q h h' => ?_)
    (by rw [List.length_set]; exact hc.perm) fun k hk hq => ?_
  · rw [List.getElem_set]
    split
    · next e => subst e; exact ⟨hM.inv, rfl, hM.same.begin, sameBlock_bytes hM.same⟩
    · exact ⟨hc.blocks _ (List.getElem_mem h), hc.ptr q h, rfl, rfl⟩
  · rw [List.getElem_set]
    split
    · next e => rw [hM.idx]; simp only [e]; exact hc.idx k hk _
    · exact hc.idx k hk _

theorem CInv.current_put {c : Code} (hc : CInv c) (k : Nat) (hk : k < c.blocks.length) {b' : Block} {f t : Int}
    (hM : Moved (c.store[c.blocks[k]]'(hc.ptr_lt k hk)) b' f t) : (c.put b').current = c.current.set k b' := by
  have hptr : b'.ptr = c.blocks[k] := hM.same.ptr.trans (hc.ptr _ _)
  have hc' := hc.put_moved (hc.ptr_lt k hk) hM
  apply List.ext_getElem?
  intro j
  by_cases hj : j < c.blocks.length
  · rw [hc'.current_getElem j hj]
    have hp := hc.ptr_lt j hj
    by_cases hjk : j = k
    · subst hjk
      rw [List.getElem?_set_self (by rw [hc.current_length]; exact hj)]
      simp [Code.put, hptr]
    · rw [List.getElem?_set_ne (fun h => hjk h.symm), hc.current_getElem j hj]
      have hne : c.blocks[k] ≠ c.blocks[j] := fun he => hjk ((List.getElem_inj hc.nodup).1 he.symm)
      simp [Code.put, hptr, List.getElem_set_ne hne]
  · have h1 : (c.put b').current.length ≤ j := by
      rw [hc'.current_length]; exact Nat.le_of_not_lt hj
    have h2 : (c.current.set k b').length ≤ j := by
      rw [List.length_set, hc.current_length]; exact Nat.le_of_not_lt hj
    rw [List.getElem?_eq_none h1, List.getElem?_eq_none h2]

/-- what `c.step op` does: an accepted move of an instruction or of a block, or nothing -/
inductive Steps (c : Code) : Op → Code × Answer → Prop
  | same (op : Op) (a : Answer) : Steps c op (c, a)
  | mv {bi f t : Int} {b b' : Block} (hi : c.index bi = some b) (hm : b.move f t = .ok b') :
      Steps c (.mv bi f t) (c.put b', .ok)
  | bmv {f t : Int} {c' : Code} (hm : c.move f t = .ok c') : Steps c (.bmv f t) (c', .ok)

theorem step_effect (c : Code) (op : Op) : Steps c op (c.step op) := by
  cases op with
  | mv bi f t =>
    simp only [Code.step]
    cases hi : c.index bi with
    | none => exact .same ..
    | some b =>
      dsimp only
      cases hm : b.move f t with
      | error e => cases e <;> exact .same ..
      | ok b' => exact .mv hi hm
  | bmv f t =>
    simp only [Code.step]
    cases hm : c.move f t with
    | error e => cases e <;> exact .same ..
    | ok c' => exact .bmv hm
  | lb bi i => simp only [Code.step]; cases (c.index bi).bind (·.lowerBound i) <;> exact .same ..
  | ub bi i => simp only [Code.step]; cases (c.index bi).bind (·.upperBound i) <;> exact .same ..
  | addr a =>
    simp only [Code.step]
    cases c.address a with
    | none => exact .same ..
    | some r =>
      cases r with
      | none => exact .same ..
      | some b => simp only; cases b.address a <;> exact .same ..
  | edges bi => simp only [Code.step]; cases c.index bi <;> exact .same ..

theorem step_mv_code (c : Code) (bi f t : Int) :
    (c.step (.mv bi f t)).1 = ((c.index bi).bind fun b => (b.move f t).toOption.map c.put).getD c := by
  simp only [Code.step]
  cases c.index bi with
  | none => rfl
  | some b =>
    show (match b.move f t with
      | .ok b' => (c.put b', Answer.ok)
      | .error .panic => (c, .panic)
      | .error e => (c, .err e)).1 = ((b.move f t).toOption.map c.put).getD c
    cases b.move f t with
    | error e => cases e <;> rfl
    | ok b' => rfl

theorem step_bmv_code (c : Code) (f t : Int) : (c.step (.bmv f t)).1 = (c.move f t).toOption.getD c := by
  simp only [Code.step]
  cases c.move f t with
  | error e => cases e <;> rfl
  | ok c' => rfl

theorem step_unchanged (c : Code) (op : Op) (h : (c.step op).2 ≠ .ok) : (c.step op).1 = c := by
  have h0 := step_effect c op
  generalize c.step op = r at h h0 ⊢
  cases h0 with
  | same => rfl
  | mv => exact absurd rfl h
  | bmv => exact absurd rfl h

theorem CInv.step {c : Code} (hc : CInv c) (op : Op) :
    CInv (c.step op).1 ∧ SameCode c (c.step op).1 := by
  have h0 := step_effect c op
  generalize c.step op = r at h0 ⊢
  cases h0 with
  | same => exact ⟨hc, SameCode.refl c⟩
  | mv hi hm =>
    obtain ⟨k, hk, -, rfl⟩ := hc.index_eq hi
    have hM := (hc.blocks _ (List.getElem_mem _)).move_ok hm
    refine ⟨hc.put_moved (hc.ptr_lt k hk) hM, rfl, List.length_set .., fun q h0 h => ?_⟩
    simp only [Code.put, hM.same.ptr, hc.ptr, List.getElem_set]
    split
    · next e => subst e; exact hM.same
    · exact SameBlock.refl _
  | bmv hm =>
    have hM := hc.move_ok _ _ hm
    exact ⟨hM.inv, hM.same⟩

theorem CInv.run {c : Code} (hc : CInv c) (ops : List Op) :
    CInv (c.run ops) ∧ SameCode c (c.run ops) := by
  induction ops generalizing c with
  | nil => exact ⟨hc, SameCode.refl c⟩
  | cons op ops ih =>
    obtain ⟨h1, h2⟩ := hc.step op
    obtain ⟨h3, h4⟩ := ih h1
    exact ⟨h3, h2.trans h4⟩

end Mltwist.Lemmas.Deps
