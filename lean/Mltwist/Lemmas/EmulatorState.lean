import Mltwist.Model.Emulator
import Mltwist.Lemmas.State
/-
Emulator (C03, C04): the state.  `Inv` is the invariant of the emulator state.  What a store of a constant does to the
register map and to the byte maps, key by key and byte by byte (`get_store_const`, `abs_store_const`): every later
argument about a fill or a write goes through these two.  The orders on states that fills and writes move along:
extension (`RExt`, `AExt`: what was there stays, with its value) and `KnowsMore` (what was known stays known).
-/
namespace Mltwist.Lemmas.Emulator
open Mltwist Mltwist.State Mltwist.Overlay Mltwist.Emulator Mltwist.Spec.Overlay
open Mltwist.Lemmas.State (Good assocGet_set_same assocGet_set_other)

/-- the bytes `RegMap.Load` returns for a stored constant `v` read `w` bytes wide -/
def cw (v : List UInt8) (w : Nat) : List UInt8 := if v.length = w then v else Expreval.setWidth v w

theorem cw_of_length {v : List UInt8} {w : Nat} (h : v.length = w) : cw v w = v := if_pos h

theorem cw_eq (v : List UInt8) (w : Nat) : cw v w = natToLE w (leToNat v) := by
  unfold cw
  split
  · next h => rw [← h, Lemmas.Bytes.natToLE_leToNat]
  · exact Lemmas.Bytes.setWidth_eq_natToLE v w

theorem setWidth_const (v : List UInt8) (w : Nat) : setWidth (.const v) w = .const (cw v w) := by
  rw [Lemmas.Transform.setWidth_const, cw_eq]

theorem cw_length (v : List UInt8) (w : Nat) : (cw v w).length = w := by
  rw [cw_eq]; exact Lemmas.Bytes.natToLE_length w _

theorem cw_value (v : List UInt8) (w : Nat) : leToNat (cw v w) = trunc w (leToNat v) := by
  rw [cw_eq]; exact Lemmas.Bytes.leToNat_natToLE w _

theorem withWidth_eq_cw (v : List UInt8) (w : Nat) : Const.withWidth v w = cw v w :=
  (Lemmas.Const.withWidth_spec v w).trans (cw_eq v w).symm

theorem withWidth_value (v : List UInt8) (w : Nat) : leToNat (Const.withWidth v w) = trunc w (leToNat v) := by
  rw [withWidth_eq_cw]; exact cw_value v w

theorem accessBad_false {a w : Nat} (h : a + w < 2 ^ 64) : accessBad a w = false := by
  unfold accessBad
  rw [Nat.mod_eq_of_lt h]
  simp

theorem accessBad_true {a w : Nat} (ha : a < 2 ^ 64) (hw : w < 2 ^ 64) (h : 2 ^ 64 ≤ a + w) : accessBad a w = true := by
  -- over a variable modulus: arithmetic next to the numeral `2 ^ 64` is slow to check
  have wrap : ∀ n, a < n → w < n → n ≤ a + w → (a + w) % n < a := by
    intro n ha hw h
    rw [Nat.mod_eq_sub_mod h, Nat.mod_eq_of_lt (by omega)]
    omega
  exact decide_eq_true (wrap _ ha hw h)

/-- for the accesses of well-formed code, `checkAccess` tests exactly the domain of C14 -/
theorem accessBad_iff {a w : Nat} (ha : a < 2 ^ 64) (hw : w < 2 ^ 64) : accessBad a w = true ↔ 2 ^ 64 ≤ a + w := by
  refine ⟨fun h => Nat.le_of_not_lt fun hc => ?_, accessBad_true ha hw⟩
  rw [accessBad_false hc] at h
  cases h

def RegsConst (m : RegMap) : Prop := ∀ k e, assocGet k m = some e → ∃ c, e = .const c

theorem RegsConst.get {m : RegMap} (h : RegsConst m) {k : String} (hk : assocGet k m ≠ none) :
    ∃ c, assocGet k m = some (.const c) := by
  cases hg : assocGet k m with
  | none => exact absurd hg hk
  | some e => exact (h k e hg).imp fun _ he => congrArg some he

def IsByteConst (e : Expr) : Prop := ∃ c, e = .const c ∧ 1 ≤ c.length ∧ c.length ≤ 255

/-- every expression a memory stores is a constant (of a width Go can represent) -/
def AllConst : Mem → Prop
  | .bytes _ => True
  | .sparse t => ∀ kv ∈ t, IsByteConst kv.val.ex
  | .overlay b o => AllConst b ∧ AllConst o

def MemsConst (m : MemMap) : Prop := ∀ key mem, assocGet key m = some mem → AllConst mem

/-- the invariant of the emulator state: the memories satisfy their representation invariants (C14,
C15), accept every store, and registers and memories hold constants only -/
structure Inv (s : State) : Prop where
  good : Good s
  regs : RegsConst s.regs
  mems : MemsConst s.mems

def RExt (m m' : RegMap) : Prop := ∀ k e, assocGet k m = some e → assocGet k m' = some e

theorem RExt.refl (m : RegMap) : RExt m m := fun _ _ h => h
theorem RExt.trans {a b c : RegMap} (h1 : RExt a b) (h2 : RExt b c) : RExt a c :=
  fun k e h => h2 k e (h1 k e h)

theorem get_store_const (m : RegMap) (k : String) (v : List UInt8) (w : Nat) (k' : String) :
    assocGet k' (m.store k (.const v) w) = if k' = k then some (.const (cw v w)) else assocGet k' m := by
  rw [Lemmas.State.get_store, setWidth_const]

theorem rext_store {m : RegMap} {k : String} (h : assocGet k m = none) (v : List UInt8) (w : Nat) :
    RExt m (m.store k (.const v) w) := by
  intro k2 e2 h2
  rw [get_store_const, if_neg]
  · exact h2
  · rintro rfl
    rw [h] at h2
    cases h2

theorem regsConst_store {m : RegMap} (h : RegsConst m) (k : String) (v : List UInt8) (w : Nat) :
    RegsConst (m.store k (.const v) w) := by
  intro k2 e2 h2
  rw [get_store_const] at h2
  split at h2
  · cases h2
    exact ⟨_, rfl⟩
  · exact h k2 e2 h2

/-- with `load_none` the only place that opens `RegMap.load`: elsewhere "known" is said of the association list, at no width -/
theorem load_const {m : RegMap} {k : String} {v : List UInt8} (h : assocGet k m = some (.const v)) (w : Nat) :
    m.load k w = some (.const (cw v w)) := by
  rw [Lemmas.State.load_eq, h, Option.map_some, setWidth_const]

theorem load_none {m : RegMap} {k : String} (h : assocGet k m = none) (w : Nat) : m.load k w = none := by
  rw [Lemmas.State.load_eq, h]
  rfl

theorem storable_const : ∀ (m : Mem) (c : List UInt8), m.Storable (.const c)
  | .bytes _, _ => rfl
  | .sparse _, _ => trivial
  | .overlay _ o, c => storable_const o c

theorem abs_store_const {s : State} (hg : Good s) {key : String} {a w : Nat} {c : List UInt8} {m' : MemMap}
    (hd : InDom a w) (hs : s.mems.store key a (.const c) w = .ok m') (key' : String) (x : Nat) :
    m'.abs key' x = if key' = key ∧ a ≤ x ∧ x < a + w
      then some (fun _ => trunc w (leToNat c) / 256 ^ (x - a) % 256) else s.mems.abs key' x := by
  obtain ⟨m2, g1, _, g3, g4⟩ := Lemmas.State.storable_store hg key a (.const c) w hd
  rw [hs] at g1
  cases g1
  by_cases hk : key' = key
  · subst hk
    rw [g3]
    unfold AbsMem.store
    by_cases hr : a ≤ x ∧ x < a + w
    · rw [if_pos hr, if_pos ⟨rfl, hr⟩]
      rfl
    · rw [if_neg hr, if_neg (fun h => hr h.2)]
  · rw [g4 key' hk, if_neg (fun h => hk h.1)]

theorem allConst_store : ∀ {m m' : Mem}, m.Inv → AllConst m → ∀ {a w : Nat} {c : List UInt8}, InDom a w →
    (1 ≤ c.length ∧ c.length ≤ 255) → m.store a (.const c) w = .ok m' → AllConst m'
  | .bytes bs, m', _, _, a, w, c, _, _, h => by
    obtain ⟨_, _, rfl⟩ := Lemmas.Overlay.store_bytes_ok h
    trivial
  | .sparse t, m', hi, hm, a, w, c, hd, hc, h => by
    obtain ⟨t', ht', rfl⟩ := Lemmas.Overlay.store_sparse_ok h
    exact Lemmas.Sparse.store_ex hi hd ht' ⟨c, rfl, hc⟩ hm
  | .overlay b o, m', hi, hm, a, w, c, hd, hc, h => by
    obtain ⟨o', ho', rfl⟩ := Lemmas.Overlay.store_overlay_ok h
    exact ⟨hm.1, allConst_store hi.2 hm.2 hd hc ho'⟩

theorem memsConst_store {m m' : MemMap} (hi : m.Inv) (hm : MemsConst m) {key : String} {a w : Nat} (hd : InDom a w)
    {c : List UInt8} (hc : 1 ≤ c.length ∧ c.length ≤ 255) (h : m.store key a (.const c) w = .ok m') :
    MemsConst m' := by
  rw [Lemmas.Overlay.memmap_store_eq] at h
  split at h
  · rename_i mem' hmem'
    cases h
    intro k2 mem2 h2
    by_cases hk : k2 = key
    · subst hk
      rw [assocGet_set_same] at h2
      cases h2
      -- an unknown key is a fresh sparse memory
      cases hg : assocGet k2 m with
      | none =>
        rw [hg] at hmem'
        exact allConst_store (m := .sparse []) ⟨List.Pairwise.nil, fun _ h => nomatch h⟩ (fun _ h => nomatch h)
          hd hc hmem'
      | some mem =>
        rw [hg] at hmem'
        exact allConst_store (hi k2 mem hg) (hm k2 mem hg) hd hc hmem'
    · rw [assocGet_set_other key k2 _ hk] at h2
      exact hm k2 mem2 h2
  · cases h

theorem withWidth_byteConst (v : List UInt8) {a w : Nat} (hd : InDom a w) :
    1 ≤ (Const.withWidth v w).length ∧ (Const.withWidth v w).length ≤ 255 := by
  rw [Lemmas.Const.withWidth_length]; exact ⟨hd.1, hd.2.1⟩

theorem inv_regStore {s : State} (h : Inv s) (v : List UInt8) (k : String) (w : Nat) :
    Inv { s with regs := s.regs.store k (.const v) w } :=
  ⟨h.good, regsConst_store h.regs k v w, h.mems⟩

theorem inv_store {s : State} (h : Inv s) {key : String} {a w : Nat} {c : List UInt8} {mems' : MemMap}
    (hd : InDom a w) (hc : 1 ≤ c.length ∧ c.length ≤ 255)
    (hs : s.mems.store key a (.const c) w = .ok mems') : Inv { s with mems := mems' } := by
  obtain ⟨m', h1, h2, _, _⟩ := Lemmas.State.storable_store h.good key a (.const c) w hd
  rw [hs] at h1
  cases h1
  exact ⟨h2, h.regs, memsConst_store h.good.1 h.mems hd hc hs⟩

abbrev AMap := String → AbsMem

/-- the byte maps of a state, one per address space (a byte of an `AbsMem` is a function of a valuation; here always a
constant one) -/
def absOf (s : State) : AMap := fun key => s.mems.abs key

def AExt (A A' : AMap) : Prop := ∀ key x b, A key x = some b → A' key x = some b

theorem AExt.refl (A : AMap) : AExt A A := fun _ _ _ h => h
theorem AExt.trans {A B C : AMap} (h1 : AExt A B) (h2 : AExt B C) : AExt A C :=
  fun k x b h => h2 k x b (h1 k x b h)

/-- the emulator knows the byte `a` of the address space `key` -/
def ByteKnown (s : State) (key : String) (a : Nat) : Prop := s.mems.abs key a ≠ none

/-- the emulator knows the register `k` -/
def RegKnown (s : State) (k : String) : Prop := assocGet k s.regs ≠ none

/-- the emulator holds the instruction pointer, and its value is `v` -/
def IpIs (s : State) (v : Nat) : Prop := ∃ c, assocGet ipKey s.regs = some (.const c) ∧ leToNat c = v

/-- `s'` knows every register and every byte that `s` knows (not necessarily with the same value) -/
def KnowsMore (s s' : State) : Prop :=
  (∀ k, RegKnown s k → RegKnown s' k) ∧ ∀ key x, ByteKnown s key x → ByteKnown s' key x

theorem KnowsMore.refl (s : State) : KnowsMore s s := ⟨fun _ h => h, fun _ _ h => h⟩
theorem KnowsMore.trans {a b c : State} (h1 : KnowsMore a b) (h2 : KnowsMore b c) : KnowsMore a c :=
  ⟨fun k h => h2.1 k (h1.1 k h), fun key x h => h2.2 key x (h1.2 key x h)⟩

theorem knowsMore_regStore (s : State) (k : String) (v : List UInt8) (w : Nat) :
    KnowsMore s { s with regs := s.regs.store k (.const v) w } := by
  refine ⟨fun k' hk => ?_, fun _ _ h => h⟩
  show assocGet k' (RegMap.store _ _ _ _) ≠ none
  rw [get_store_const]
  split
  · exact Option.some_ne_none _
  · exact hk

theorem knowsMore_memStore {s : State} (hg : Good s) {key : String} {a w : Nat} {c : List UInt8} {m' : MemMap}
    (hd : InDom a w) (hs : s.mems.store key a (.const c) w = .ok m') : KnowsMore s { s with mems := m' } := by
  refine ⟨fun _ h => h, fun key' x hk => ?_⟩
  show m'.abs key' x ≠ none
  rw [abs_store_const hg hd hs]
  split
  · exact Option.some_ne_none _
  · exact hk

/-- `s'` results from `s` by stores of constants, into registers and into byte ranges in the domain of C14: provider
fills, the writes of a step, its fall-through (`Fill.stores`, `Applied.stores`, `finish_stores`).  What such stores keep
is proved once, by induction on `Stores`. -/
inductive Stores : State → State → Prop where
  | refl (s : State) : Stores s s
  | reg (s : State) (k : String) (v : List UInt8) (w : Nat) : Stores s { s with regs := s.regs.store k (.const v) w }
  | mem {s : State} {key : String} {a w : Nat} {c : List UInt8} {m' : MemMap} : InDom a w →
      1 ≤ c.length ∧ c.length ≤ 255 → s.mems.store key a (.const c) w = .ok m' → Stores s { s with mems := m' }
  | trans {a b c : State} : Stores a b → Stores b c → Stores a c

theorem Stores.inv {s s' : State} (h : Stores s s') (hi : Inv s) : Inv s' := by
  induction h with
  | refl _ => exact hi
  | reg _ k v w => exact inv_regStore hi v k w
  | mem hd hc hs => exact inv_store hi hd hc hs
  | trans _ _ ih1 ih2 => exact ih2 (ih1 hi)

theorem Stores.knowsMore {s s' : State} (h : Stores s s') (hi : Inv s) : KnowsMore s s' := by
  induction h with
  | refl s => exact KnowsMore.refl s
  | reg s k v w => exact knowsMore_regStore s k v w
  | mem hd _ hs => exact knowsMore_memStore hi.good hd hs
  | trans h1 _ ih1 ih2 => exact (ih1 hi).trans (ih2 (h1.inv hi))

end Mltwist.Lemmas.Emulator
