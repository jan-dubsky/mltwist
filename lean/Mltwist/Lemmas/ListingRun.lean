import Mltwist.Lemmas.ListingInv
import Mltwist.Lemmas.SortSearch
/-
The commands of the disassembler mode together (C23, C31).  `Cursor.Set` under the invariant (`setCursor_lands`, with
`target` the line it reaches) and the navigation commands built on it, each keeping everything but the cursor and
landing where a function of the state says (`Navigated`; `entryTarget` for `entrypoint`: the row the look-ups of the
model find); every command does what `Did` says (`step_does`); histories of commands (`Reachable`).
-/
namespace Mltwist.Lemmas.Listing
open Mltwist.Listing Mltwist.Listing.Spec

/-- a navigation command keeps everything but the cursor -/
structure NavKeeps (st st' : St) : Prop where
  inv : Inv st'
  lines : st'.lines = st.lines
  code : st'.code = st.code

theorem NavKeeps.refl {st : St} (hinv : Inv st) : NavKeeps st st := ⟨hinv, rfl, rfl⟩

theorem NavKeeps.keeps {st st' : St} (h : NavKeeps st st') : Keeps st st' :=
  ⟨h.inv, by rw [h.code], by rw [h.lines]⟩

/-- what a navigation command that answered `s` and left the state `st'` has done to `st`: it has kept everything but the
cursor, and the cursor has landed (`Spec.Lands`) where `e` says -/
structure Navigated (st : St) (e : Expect) (s : Status) (st' : St) : Prop where
  keeps : NavKeeps st st'
  lands : Lands e (s = .ok) st.cursor.value st'.cursor.value

theorem Navigated.stay {st : St} (hinv : Inv st) {s : Status} (hs : s ≠ .ok) : Navigated st .failed s st :=
  ⟨NavKeeps.refl hinv, hs, rfl⟩

theorem setCursor_neg (st : St) (v : Int) (h : v < 0) : setCursor st v = (.err .negative, st) := by
  simp [setCursor, Cursor.set, h]

theorem setCursor_high (st : St) (v : Int) (h1 : ¬ v < 0) (h : v ≥ (st.cursor.maxValue : Int)) :
    setCursor st v = (.err .tooHigh, st) := by
  simp [setCursor, Cursor.set, h1, h]

theorem setCursor_ok (st : St) (v : Int) (h1 : ¬ v < 0) (h : ¬ v ≥ (st.cursor.maxValue : Int)) :
    setCursor st v = (.ok, { st with cursor := { st.cursor with value := v.toNat } }) := by
  simp [setCursor, Cursor.set, h1, h]

/-- where `Cursor.Set(v)` puts the cursor of a listing of `len` lines -/
def target (len : Nat) (v : Int) : Expect := if 0 ≤ v ∧ v < len then .moved v.toNat else .failed

theorem target_of_lt {len i : Nat} (h : i < len) : target len i = .moved i := by
  rw [target, if_pos (by omega), Int.toNat_natCast]

theorem target_of_ge {len i : Nat} (h : len ≤ i) : target len i = .failed := by
  rw [target, if_neg (by omega)]

theorem setCursor_lands (st : St) (hinv : Inv st) (v : Int) :
    Navigated st (target st.lines.lines.length v) (setCursor st v).1 (setCursor st v).2 := by
  have hm := hinv.curMax
  unfold target
  by_cases h1 : v < 0
  · rw [setCursor_neg st v h1, if_neg (by omega)]
    exact .stay hinv nofun
  · by_cases h2 : v ≥ (st.cursor.maxValue : Int)
    · rw [setCursor_high st v h1 h2, if_neg (by omega)]
      exact .stay hinv nofun
    · rw [setCursor_ok st v h1 h2, if_pos (by omega)]
      exact ⟨⟨{ hinv with curVal := by show v.toNat < st.cursor.maxValue; omega }, rfl, rfl⟩, rfl, rfl⟩

theorem wrap_small (x : Int) (h0 : -9223372036854775808 ≤ x) (h1 : x < 9223372036854775808) : wrap64 x = x := by
  unfold wrap64; omega

theorem wrap_big (x : Int) (h0 : 9223372036854775808 ≤ x) (h1 : x < 18446744073709551616) : wrap64 x < 0 := by
  unfold wrap64; omega

/-- a cursor target computed in 64 bits is accepted exactly when the exact one is: listings have fewer than
`2^63` lines, so a wrapped sum is negative -/
theorem wrap64_target (x : Int) (len : Nat) (hlen : len ≤ maxInt) (h0 : -(maxInt : Int) ≤ x)
    (h1 : x ≤ 2 * (maxInt : Int)) : target len (wrap64 x) = target len x := by
  unfold maxInt at hlen h0 h1
  unfold target
  by_cases h : x < 9223372036854775808
  · rw [wrap_small x (by omega) h]
  · have := wrap_big x (by omega) (by omega)
    rw [if_neg (by omega), if_neg (by omega)]

theorem expectDown_eq (c n len : Nat) : expectDown len c n = target len ((c : Int) + n) := by
  unfold expectDown target
  by_cases h : c + n < len
  · rw [if_pos h, if_pos (by omega)]; rfl
  · rw [if_neg h, if_neg (by omega)]

theorem expectUp_eq (c n len : Nat) (hc : c < len) : expectUp c n = target len ((c : Int) + -(n : Int)) := by
  unfold expectUp target
  by_cases h : n ≤ c
  · rw [if_pos h, if_pos (by omega)]; congr 1; omega
  · rw [if_neg h, if_neg (by omega)]

theorem nav_of_setCursor (ops : CodeOps) (st : St) (hinv : Inv st) (cmd : Cmd) (v : Int) (e : Expect)
    (hstep : step ops st cmd = some (setCursor st v)) (he : e = target st.lines.lines.length v) :
    ∃ s st', step ops st cmd = some (s, st') ∧ Navigated st e s st' :=
  ⟨_, _, hstep, he ▸ setCursor_lands st hinv v⟩

theorem down_spec (ops : CodeOps) (st : St) (hinv : Inv st) (n : Nat) (hn : n ≤ maxInt)
    (hfit : st.lines.lines.length ≤ maxInt) :
    ∃ s st', step ops st (.down n) = some (s, st') ∧
      Navigated st (expectDown st.lines.lines.length st.cursor.value n) s st' :=
  nav_of_setCursor ops st hinv (.down n) _ _ rfl
    ((expectDown_eq _ _ _).trans (wrap64_target _ _ hfit (by omega) (by have := hinv.cur_lt; omega)).symm)

theorem up_spec (ops : CodeOps) (st : St) (hinv : Inv st) (n : Nat) (hn : n ≤ maxInt)
    (hfit : st.lines.lines.length ≤ maxInt) :
    ∃ s st', step ops st (.up n) = some (s, st') ∧ Navigated st (expectUp st.cursor.value n) s st' :=
  nav_of_setCursor ops st hinv (.up n) _ _ rfl
    ((expectUp_eq _ _ _ hinv.cur_lt).trans (wrap64_target _ _ hfit (by omega) (by have := hinv.cur_lt; omega)).symm)

theorem goto_spec (ops : CodeOps) (st : St) (hinv : Inv st) (n : Nat) :
    ∃ s st', step ops st (.goto n) = some (s, st') ∧ Navigated st (expectGoto st.lines.lines.length n) s st' := by
  refine ⟨(cmdGoto st n).1, (cmdGoto st n).2, rfl, ?_⟩
  unfold cmdGoto expectGoto
  by_cases h2 : n < st.lines.lines.length
  · rw [if_pos h2, if_neg (by simp only [Lines.len]; omega), ← target_of_lt h2]
    exact setCursor_lands st hinv n
  · rw [if_neg h2]
    split
    · exact .stay hinv nofun
    · rw [← target_of_ge (Nat.not_lt.mp h2)]
      exact setCursor_lands st hinv n

theorem succ_mod_ne (len off k : Nat) (hoff : off < len) (hk : k + 1 < len) : (off + 1 + k) % len ≠ off := by
  by_cases h : off + 1 + k < len
  · rw [Nat.mod_eq_of_lt h]; omega
  · rw [Nat.mod_eq_sub_mod (by omega), Nat.mod_eq_of_lt (by omega)]; omega

/-- the search loop of `find` from the `k`-th line after the cursor line `off` on (`k` lines are passed, `d` are left before
the loop is back at `off`): it finds the first match among those `d` lines -/
theorem findLoop_spec (ms : List Bool) (len off : Nat) (hoff : off < len) (hms : ms.length = len) :
    ∀ (d k fuel : Nat), k + d + 1 = len → d + 1 ≤ fuel →
      findLoop ms len off fuel ((off + 1 + k) % len) =
        match ((List.range' k d).map (fun j => (off + 1 + j) % len)).find? (fun i => ms.getD i false) with
        | some i => .found i
        | none => .notFound := by
  intro d
  induction d with
  | zero =>
    intro k fuel hk hf
    obtain ⟨f, rfl⟩ : ∃ f, fuel = f + 1 := ⟨fuel - 1, by omega⟩
    have : (off + 1 + k) % len = off := by
      have : off + 1 + k = off + len := by omega
      rw [this, Nat.add_mod_right, Nat.mod_eq_of_lt hoff]
    simp [findLoop, this]
  | succ d ih =>
    intro k fuel hk hf
    obtain ⟨f, rfl⟩ : ∃ f, fuel = f + 1 := ⟨fuel - 1, by omega⟩
    have hne := succ_mod_ne len off k hoff (by omega)
    have hlt : (off + 1 + k) % len < ms.length := by
      rw [hms]; exact Nat.mod_lt _ (Nat.zero_lt_of_lt hoff)
    have hget : ms[(off + 1 + k) % len]? = some (ms.getD ((off + 1 + k) % len) false) := by
      rw [List.getD_eq_getElem?_getD, List.getElem?_eq_getElem hlt]; simp
    simp only [findLoop, if_neg hne, hget, List.range'_succ, List.map_cons, List.find?_cons]
    cases hb : ms.getD ((off + 1 + k) % len) false with
    | true => simp
    | false =>
      simp only
      rw [Nat.mod_add_mod]
      exact ih (k + 1) f (by omega) (by omega)

theorem find_spec (ops : CodeOps) (st : St) (hinv : Inv st) (ms : Option (List Bool))
    (hms : ValidCmd st.lines.lines.length (.find ms)) :
    ∃ s st', step ops st (.find ms) = some (s, st') ∧
      Navigated st (expectFind ms st.lines.lines.length st.cursor.value) s st' := by
  cases ms with
  | none => exact ⟨_, _, rfl, .stay hinv nofun⟩
  | some v =>
    have hv : v.length = st.lines.lines.length := hms
    have hc := hinv.curVal
    have hm := hinv.curMax
    have hpos : st.lines.lines.length ≠ 0 := by omega
    simp only [step, cmdFind, Lines.len, if_neg hpos, findStart, if_true, expectFind, cyclicAfter]
    have := findLoop_spec v st.lines.lines.length st.cursor.value (by omega) hv
      (st.lines.lines.length - 1) 0 (st.lines.lines.length + 1) (by omega) (by omega)
    rw [Nat.add_zero] at this
    rw [this, List.range_eq_range']
    generalize hf : List.find? _ _ = r
    cases r with
    | none => exact ⟨_, _, rfl, .stay hinv nofun⟩
    | some i =>
      obtain ⟨j, _, hj⟩ := List.mem_map.mp (List.mem_of_find?_eq_some hf)
      have : i < st.lines.lines.length := by rw [← hj]; exact Nat.mod_lt _ (by omega)
      simp only [← target_of_lt this]
      exact ⟨_, _, rfl, setCursor_lands st hinv i⟩

theorem sortByBegin_perm (l : List Block) : (sortByBegin l).Perm l :=
  InsertSort.rec_perm (p := fun a b : Block => a.begin ≤ b.begin) (ins := insertByBegin) (fun _ => rfl)
    (fun _ _ _ => rfl) rfl (fun _ _ => rfl) l

theorem sortByBegin_sorted (l : List Block) : (sortByBegin l).Pairwise (fun x y => x.begin ≤ y.begin) :=
  InsertSort.rec_sorted (p := fun a b : Block => a.begin ≤ b.begin) (ins := insertByBegin) (fun _ => rfl)
    (fun _ _ _ => rfl) id Nat.le_of_not_le Nat.le_trans rfl (fun _ _ => rfl) l

theorem code_address_mem (c : Code) (a : Nat) (b : Block) (h : c.address a = some b) : b ∈ c.blocks := by
  unfold Code.address at h
  split at h
  · cases h
  · next b' hb' =>
    split at h
    · cases h
    · cases h; exact (sortByBegin_perm _).mem_iff.mp (List.mem_of_find?_eq_some hb')

theorem block_address_mem (b : Block) (a : Nat) (x : Ins) (h : b.address a = some x) : x ∈ b.ins ∧ x.addr = a := by
  unfold Block.address at h
  split at h
  · cases h
  · next x' hx' =>
    split at h
    · cases h
    · next hne =>
      cases h
      exact ⟨List.mem_of_find?_eq_some hx', by simpa using hne⟩

/-- where `entrypoint` puts the cursor, read off the model: the row of the instruction the two address look-ups find -/
def entryTarget (c : Code) : Expect :=
  match c.address c.entry with
  | none => .failed
  | some b =>
    match b.address c.entry with
    | none => .failed
    | some x => .moved (lineOf c b.idx x.idx)

theorem address_get {c : Code} (hwf : WF c) {a : Nat} {b : Block} {x : Ins} (hb : c.address a = some b)
    (hx : b.address a = some x) : c.blocks[b.idx]? = some b ∧ b.ins[x.idx]? = some x ∧ x.addr = a := by
  have hbm := code_address_mem _ _ _ hb
  obtain ⟨hxm, hxa⟩ := block_address_mem _ _ _ hx
  exact ⟨wf_getElem? c hwf b hbm, wf_ins_getElem? c hwf b hbm x hxm, hxa⟩

theorem entryTarget_cases {c : Code} (hwf : WF c) :
    (∃ (k j : Nat) (b : Block) (x : Ins), c.blocks[k]? = some b ∧ b.ins[j]? = some x ∧ x.addr = c.entry ∧
      entryTarget c = .moved (lineOf c k j)) ∨ entryTarget c = .failed := by
  unfold entryTarget
  cases hb : c.address c.entry with
  | none => exact .inr rfl
  | some b =>
    simp only
    cases hx : b.address c.entry with
    | none => exact .inr rfl
    | some x =>
      obtain ⟨h1, h2, h3⟩ := address_get hwf hb hx
      exact .inl ⟨_, _, b, x, h1, h2, h3, rfl⟩

theorem entry_lands (ops : CodeOps) (st : St) (hinv : Inv st) :
    ∃ s st', step ops st .entrypoint = some (s, st') ∧ Navigated st (entryTarget st.code) s st' := by
  simp only [step, cmdEntrypoint, entryTarget]
  cases hb : st.code.address st.code.entry with
  | none => exact ⟨_, _, rfl, .stay hinv nofun⟩
  | some b =>
    simp only
    cases hx : b.address st.code.entry with
    | none => exact ⟨_, _, rfl, .stay hinv nofun⟩
    | some x =>
      obtain ⟨hbget, hxget, _⟩ := address_get hinv.wf hb hx
      have hlt := lineOf_lt st.code b.idx b hbget x.idx (getElem?_lt hxget)
      have hlen := shown_length hinv.rows
      simp only [hinv.shows.line hbget rfl]
      -- the error of `Cursor.Set` is dropped, but the row exists
      have hl := setCursor_lands st hinv (lineOf st.code b.idx x.idx : Nat)
      rw [target_of_lt (by omega)] at hl
      exact ⟨_, _, rfl, hl.keeps, rfl, hl.lands.2⟩

theorem cursor_ext (c c' : Cursor) (h1 : c.maxValue = c'.maxValue) (h2 : c.value = c'.value) : c = c' := by
  cases c; cases c'; simp_all

theorem Navigated.did {st st' : St} {s : Status} {e : Expect} (hinv : Inv st) (h : Navigated st e s st') :
    Did st st.code s st' := by
  refine ⟨h.keeps.keeps, fun hf => ⟨by rw [h.keeps.lines], h.keeps.code, cursor_ext _ _ ?_ ?_⟩, h.keeps.code⟩
  · rw [h.keeps.inv.curMax, hinv.curMax, h.keeps.lines]
  · have hl := h.lands
    unfold Lands at hl
    split at hl
    · exact absurd hl.1 hf
    · exact hl.2

theorem entry_lands_cases (ops : CodeOps) (st : St) (hinv : Inv st) :
    ∃ s st', step ops st .entrypoint = some (s, st') ∧ NavKeeps st st' ∧
      ((s = .ok ∧ ∃ (k j : Nat) (b : Block) (x : Ins), st.code.blocks[k]? = some b ∧ b.ins[j]? = some x ∧
          x.addr = st.code.entry ∧ st'.cursor.value = lineOf st.code k j) ∨
       (s ≠ .ok ∧ st'.cursor = st.cursor)) := by
  obtain ⟨s, st', h, nv⟩ := entry_lands ops st hinv
  refine ⟨s, st', h, nv.keeps, ?_⟩
  have hl := nv.lands
  rcases entryTarget_cases hinv.wf with ⟨k, j, b, x, a1, a2, a3, ht⟩ | ht <;> rw [ht] at hl
  · exact .inl ⟨hl.1, k, j, b, x, a1, a2, a3, hl.2⟩
  · exact .inr ⟨hl.1, ((nv.did hinv).unchanged hl.1).cursor⟩

theorem step_does (ops : CodeOps) (hl : Lawful ops) (st : St) (hinv : Inv st) (c : Cmd)
    (hv : ValidCmd st.lines.lines.length c) :
    ∃ s st', step ops st c = some (s, st') ∧ Did st (nextCode ops st c) s st' := by
  have nav : ∀ {c e}, (∃ s st', step ops st c = some (s, st') ∧ Navigated st e s st') →
      ∃ s st', step ops st c = some (s, st') ∧ Did st st.code s st' :=
    fun ⟨s, st', h, nv⟩ => ⟨s, st', h, nv.did hinv⟩
  cases c with
  | down n => exact nav (nav_of_setCursor ops st hinv (.down n) _ _ rfl rfl)
  | up n => exact nav (nav_of_setCursor ops st hinv (.up n) _ _ rfl rfl)
  | move f t => exact cmdMove_spec ops hl st hinv f t
  | bounds n => exact cmdBounds_spec st hinv n
  | find ms => exact nav (find_spec ops st hinv ms hv)
  | goto n => exact nav (goto_spec ops st hinv n)
  | entrypoint => exact nav (entry_lands ops st hinv)

theorem run_spec (ops : CodeOps) (hl : Lawful ops) (st : St) (hinv : Inv st) (cmds : List Cmd)
    (hv : ∀ c ∈ cmds, ValidCmd st.lines.lines.length c) : ∃ st', run ops st cmds = some st' ∧ Keeps st st' := by
  induction cmds generalizing st with
  | nil => exact ⟨st, rfl, .refl hinv⟩
  | cons c cs ih =>
    obtain ⟨s, st1, h1, d1⟩ := step_does ops hl st hinv c (hv c (by simp))
    have k1 := d1.keeps
    obtain ⟨st2, h2, k2⟩ := ih st1 k1.inv (fun c' hc' => by rw [k1.length]; exact hv c' (by simp [hc']))
    exact ⟨st2, by simp only [run, h1, h2], k1.trans k2⟩

/-- what the invariant means in terms of the specification -/
theorem inv_shows (st : St) (hinv : Inv st) :
    shown st.lines = rows st.code ∧
    ∀ (k : Nat) (b : Block), st.code.blocks[k]? = some b → ∀ i, st.lines.line b i = some (lineOf st.code k i) :=
  ⟨hinv.rows.trans (shown_newLines _ hinv.wf), fun k b hb i => hinv.shows.line hb (hinv.wf.blockIdx k b hb) i⟩

/-- states of the disassembler mode reachable from the initial state on code `c` -/
def Reachable (ops : CodeOps) (c : Code) (st : St) : Prop :=
  ∃ cmds : List Cmd, (∀ x ∈ cmds, ValidCmd (newLines c).lines.length x) ∧ run ops (St.init c) cmds = some st

theorem reachable_inv (ops : CodeOps) (hl : Lawful ops) (c : Code) (hwf : WF c) (st : St)
    (h : Reachable ops c st) : Keeps (St.init c) st := by
  obtain ⟨cmds, hv, hrun⟩ := h
  obtain ⟨st', h', k⟩ := run_spec ops hl (St.init c) (inv_init c hwf) cmds hv
  cases hrun.symm.trans h'
  exact k

end Mltwist.Lemmas.Listing
