import Mltwist.Lemmas.ListingBasic
/-
The invariant of the disassembler mode (C23) and the two commands that change the listing, `move` and `bounds`.  The
listing shows the fresh rendering of the current code and `blockStarts` are the header lines (`Shows`); marks and cursor
are within the listing (`Inv`); marks do not change what is shown (`Remarked`); what a line is (`LineAt`); what every
command keeps (`Keeps`) and has done (`Did`).  What the listing takes from
`Spec.Lawful` is what an accepted move does to the code (`InsMoved`, `BlockMoved`): `Reload` after an instruction move
overwrites exactly the lines of the block, a block move builds the listing anew.  Which code the state holds afterwards
is a function of the rows at the two line numbers, written once for any pair of move operations (`movedBy`, `afterCmd`),
so that whoever supplies the code operations need not follow `Lines.Move` again.
-/
namespace Mltwist.Lemmas.Listing
open Mltwist.Listing Mltwist.Listing.Spec

/-- the listing shows the fresh rendering of the code and knows where its block headers are -/
structure Shows (l : Lines) (c : Code) : Prop where
  rows : shown l = shown (newLines c)
  starts : l.blockStarts = (newLines c).blockStarts

theorem shown_length {l l' : Lines} (h : shown l = shown l') : l.lines.length = l'.lines.length := by
  simpa [shown] using congrArg List.length h

theorem rowOf_setMark (ln : Line) (m : Mark) : rowOf { ln with mark := m } = rowOf ln := rfl

/-- `l'` is `l` with other marks: same rows, same `blockStarts`, new marks on lines of `js` only -/
structure Remarked (l l' : Lines) (js : List Nat) : Prop where
  rows : shown l' = shown l
  starts : l'.blockStarts = l.blockStarts
  marks : ∀ j ∈ l'.marks, j ∈ l.marks ∨ j ∈ js

namespace Remarked
variable {l l1 l2 : Lines} {js ks : List Nat}

theorem length (h : Remarked l l1 js) : l1.lines.length = l.lines.length := shown_length h.rows

theorem trans (h : Remarked l l1 js) (h' : Remarked l1 l2 ks) : Remarked l l2 (js ++ ks) where
  rows := h'.rows.trans h.rows
  starts := h'.starts.trans h.starts
  marks j hj := (h'.marks j hj).elim (fun h1 => (h.marks j h1).imp id (List.mem_append_left ks))
    fun h2 => Or.inr (List.mem_append_right js h2)

theorem shows {c : Code} (h : Remarked l l1 js) (hs : Shows l c) : Shows l1 c :=
  ⟨h.rows.trans hs.rows, h.starts.trans hs.starts⟩

theorem row (h : Remarked l l1 js) (j : Nat) : (l1.lines[j]?).map rowOf = (l.lines[j]?).map rowOf := by
  simpa only [shown, List.getElem?_map] using congrArg (·[j]?) h.rows

end Remarked

theorem setMark_spec (l : Lines) (i : Nat) (m : Mark) (hi : i < l.lines.length) :
    ∃ l', l.setMark i m = some l' ∧ Remarked l l' [i] := by
  have h : l.lines[i]? = some l.lines[i] := List.getElem?_eq_getElem hi
  refine ⟨{ l with lines := l.lines.set i { l.lines[i] with mark := m },
                   marks := if i ∈ l.marks then l.marks else i :: l.marks },
    by simp only [Lines.setMark, h], map_set_of_eq rowOf h rfl, rfl, fun j hj => ?_⟩
  simp only at hj
  split at hj
  · exact Or.inl hj
  · exact (List.mem_cons.mp hj).elim (fun e => Or.inr (e ▸ List.mem_singleton_self i)) Or.inl

theorem setMark_none (l : Lines) (i : Nat) (m : Mark) (hi : l.lines.length ≤ i) : l.setMark i m = none := by
  simp [Lines.setMark, List.getElem?_eq_none hi]

theorem clearMarks_spec (is : List Nat) (ls : List Line) (h : ∀ i ∈ is, i < ls.length) :
    ∃ ls', clearMarks is ls = some ls' ∧ ls'.map rowOf = ls.map rowOf := by
  induction is generalizing ls with
  | nil => exact ⟨ls, rfl, rfl⟩
  | cons i is ih =>
    have hi : i < ls.length := h i List.mem_cons_self
    have hget : ls[i]? = some ls[i] := List.getElem?_eq_getElem hi
    simp only [clearMarks, hget]
    obtain ⟨ls', h1, h2⟩ := ih (ls.set i { ls[i] with mark := markNone })
      (fun j hj => by simpa using h j (List.mem_cons_of_mem i hj))
    exact ⟨ls', h1, h2.trans (map_set_of_eq rowOf hget rfl)⟩

theorem unmarkAll_remarked (l : Lines) (h : ∀ i ∈ l.marks, i < l.lines.length) :
    ∃ l', l.unmarkAll = some l' ∧ Remarked l l' [] := by
  obtain ⟨ls', h1, h2⟩ := clearMarks_spec l.marks l.lines h
  exact ⟨{ l with lines := ls', marks := [] }, by simp only [Lines.unmarkAll, h1], h2, rfl, fun j hj => nomatch hj⟩

theorem overwrite_rows (ls new : List Line) (A B C : List Row) (h : ls.map rowOf = A ++ B ++ C)
    (hB : B.length = new.length) :
    (overwrite ls A.length new).map rowOf = A ++ new.map rowOf ++ C := by
  have hlen : ls.length = A.length + B.length + C.length := by
    have := congrArg List.length h
    simp at this; omega
  simp only [overwrite, List.map_take, List.map_append, List.map_drop, h]
  have h1 : List.take A.length (A ++ B ++ C) = A := by
    rw [List.append_assoc, List.take_left']
    rfl
  have h2 : List.drop (A.length + new.length) (A ++ B ++ C) = C := by
    rw [← hB, ← List.length_append, List.drop_left']
    rfl
  rw [h1, h2]
  apply List.take_of_length_le
  simp [hlen, hB]; omega

/-- the effect of `Reload(k)` when block `k` is replaced by a block with as many instructions:
only the lines of that block differ between the two fresh listings, and `overwrite` replaces exactly those -/
theorem reload_spec (l : Lines) (c c' : Code) (k : Nat) (b b' : Block) (hs : Shows l c)
    (hb : c.blocks[k]? = some b) (hc' : c'.blocks = c.blocks.set k b')
    (hlen : b'.ins.length = b.ins.length) :
    ∃ l', l.reload c' k = some l' ∧ Shows l' c' ∧ l'.lines.length = l.lines.length ∧ l'.marks = l.marks := by
  have hk := getElem?_lt hb
  have hb' : c'.blocks[k]? = some b' := by rw [hc', List.getElem?_set_self hk]
  have hS : (newLines c').blockStarts = (newLines c).blockStarts :=
    newLines_starts_congr (hc' ▸ map_set_of_eq (·.ins.length) hb hlen)
  obtain ⟨P, R, hst, hR, hsplit⟩ := newLines_split c k b hb
  replace hst : l.blockStarts[k]? = some P.length := by
    rw [hs.starts, newLines_starts, hst, List.getElem?_map, List.getElem?_range hk]; rfl
  have hL := hsplit c b (set_self hb).symm
  have hL' := hsplit c' b' hc'
  replace hR := List.length_pos_iff.mpr hR
  -- from here on the three parts of the listing are just lists
  obtain ⟨B', hB'⟩ : ∃ B', blockToLines b' = B' := ⟨_, rfl⟩
  have hnb : B'.length = (blockToLines b).length := by rw [← hB', blockToLines_length, blockToLines_length, hlen]
  generalize blockToLines b = B at hnb hL
  rw [hB'] at hL'
  have hrows : l.lines.map rowOf = P.map rowOf ++ B.map rowOf ++ R.map rowOf := by
    have := hs.rows
    rwa [shown, shown, hL, List.map_append, List.map_append] at this
  have hll : l.lines.length = P.length + (B.length + R.length) := by
    simpa using congrArg List.length hrows
  refine ⟨{ l with lines := overwrite l.lines P.length B' }, ?_, ⟨?_, hs.starts.trans hS.symm⟩, ?_, rfl⟩
  · simp only [Lines.reload, hb', hst, hB']
    rw [if_neg (by omega), if_neg (by omega)]
  · have := overwrite_rows l.lines B' _ _ _ hrows (by simp [hnb])
    rw [List.length_map] at this
    rw [shown, shown, hL', List.map_append, List.map_append]
    exact this
  · show (overwrite l.lines P.length B').length = l.lines.length
    simp [overwrite]; omega

/-- the invariant of the disassembler mode (C23, C31): `Shows` for the current code, written out; marks and cursor
inside the listing -/
structure Inv (st : St) : Prop where
  wf : WF st.code
  rows : shown st.lines = shown (newLines st.code)
  starts : st.lines.blockStarts = (newLines st.code).blockStarts
  marks : ∀ i ∈ st.lines.marks, i < st.lines.lines.length
  curMax : st.cursor.maxValue = st.lines.lines.length
  curVal : st.cursor.value < st.cursor.maxValue

theorem Inv.shows {st : St} (h : Inv st) : Shows st.lines st.code := ⟨h.rows, h.starts⟩

theorem Inv.cur_lt {st : St} (h : Inv st) : st.cursor.value < st.lines.lines.length := h.curMax ▸ h.curVal

theorem inv_init (c : Code) (hwf : WF c) : Inv (St.init c) where
  wf := hwf
  rows := rfl
  starts := rfl
  marks := by simp [St.init, newLines_marks]
  curMax := rfl
  curVal := newLines_pos c

theorem wf_getElem? (c : Code) (hwf : WF c) (b : Block) (hb : b ∈ c.blocks) : c.blocks[b.idx]? = some b := by
  obtain ⟨i, hi⟩ := List.mem_iff_getElem?.mp hb
  rw [hwf.blockIdx i b hi]; exact hi

theorem wf_ins_getElem? (c : Code) (hwf : WF c) (b : Block) (hb : b ∈ c.blocks) (x : Ins) (hx : x ∈ b.ins) :
    b.ins[x.idx]? = some x := by
  obtain ⟨i, hi⟩ := List.mem_iff_getElem?.mp hx
  rw [hwf.insIdx b hb i x hi]; exact hi

/-- what line `i` of a listing that shows the well-formed code `c` is: blank, the header of a block, or one of its
instructions (its row is the row of a fresh line); with what `Lines.Block` returns for it; block and instruction are found
at the indices the line holds -/
inductive LineAt (l : Lines) (c : Code) (i : Nat) (ln : Line) : Prop
  | blank (block : ln.block = none) (instr : ln.instr = none) (found : l.block c i = some none)
  | header (b : Block) (get : c.blocks[b.idx]? = some b) (block : ln.block = some b.idx)
      (found : l.block c i = some (some b)) (instr : ln.instr = none)
  | ins (b : Block) (x : Ins) (get : c.blocks[b.idx]? = some b) (block : ln.block = some b.idx)
      (found : l.block c i = some (some b)) (getIns : b.ins[x.idx]? = some x) (instr : ln.instr = some x.idx)

theorem Shows.lineAt {l : Lines} {c : Code} (hs : Shows l c) (hwf : WF c) {i : Nat} {ln : Line}
    (h : l.lines[i]? = some ln) : LineAt l c i ln := by
  have h1 : (shown l)[i]? = some (rowOf ln) := by rw [shown, List.getElem?_map, h]; rfl
  rw [hs.rows, shown, List.getElem?_map, Option.map_eq_some_iff] at h1
  obtain ⟨ln', h', hr⟩ := h1
  have hb : ln.block = ln'.block := congrArg Row.block hr.symm
  have hi : ln.instr = ln'.instr := congrArg Row.instr hr.symm
  rcases mem_newLines (List.mem_of_getElem? h') with ⟨h1, h2⟩ | ⟨b, hbm, hblk, hins⟩
  · exact .blank (hb.trans h1) (hi.trans h2) (by simp only [Lines.block, h, hb, h1])
  · have hget := wf_getElem? c hwf b hbm
    have hfound : l.block c i = some (some b) := by simp only [Lines.block, h, hb, hblk, hget]
    rcases hins with h2 | ⟨x, hx, hxi⟩
    · exact .header b hget (hb.trans hblk) hfound (hi.trans h2)
    · exact .ins b x hget (hb.trans hblk) hfound (wf_ins_getElem? c hwf b hbm x hx) (hi.trans hxi)

theorem Shows.line {l : Lines} {c : Code} (hs : Shows l c) {k : Nat} {b : Block} (hb : c.blocks[k]? = some b)
    (hidx : b.idx = k) (i : Nat) : l.line b i = some (lineOf c k i) := by
  simpa [Lines.line, hs.starts] using line_newLines c k b hb hidx i

theorem set_of_agree {α} (l l' : List α) (k : Nat) (a : α) (hlen : l'.length = l.length)
    (hk : l'[k]? = some a) (hother : ∀ j, j ≠ k → l'[j]? = l[j]?) : l' = l.set k a := by
  apply List.ext_getElem?
  intro j
  rw [List.getElem?_set]
  split
  · next h =>
    subst h
    have := getElem?_lt hk
    rw [hk]; simp [← hlen, this]
  · next h => exact hother j (fun e => h e.symm)

theorem _root_.Mltwist.Listing.Spec.sameBlock.length_eq {b b' : Block} (h : sameBlock b b') :
    b'.ins.length = b.ins.length := by
  simpa using h.2.2.length_eq

/-- what an accepted move of an instruction of block `k` does to the code: that block is replaced by one with the
same index, range and instructions up to their order -/
structure InsMoved (c : Code) (k : Nat) (c' : Code) : Prop where
  entry : c'.entry = c.entry
  block : ∃ b b', c.blocks[k]? = some b ∧ c'.blocks = c.blocks.set k b' ∧ b'.idx = b.idx ∧ sameBlock b b'
  wf : WF c → WF c'

/-- what an accepted move of a block does to the code -/
structure BlockMoved (c c' : Code) : Prop where
  entry : c'.entry = c.entry
  perm : (c'.blocks.map fun b => (b.begin, b.stop, b.ins)).Perm (c.blocks.map fun b => (b.begin, b.stop, b.ins))
  wf : WF c → WF c'

/-- `Spec.Lawful` says clause by clause what `InsMoved` (of a block that exists) and `BlockMoved` (verbatim) say of the
accepted moves: its three clauses about single blocks amount to `c'.blocks = c.blocks.set k b'` -/
theorem insMoved_of_lawful {ops : CodeOps} (hl : Lawful ops) {c c' : Code} {k s d : Nat} {b : Block}
    (hb : c.blocks[k]? = some b) (hm : ops.moveIns c k s d = some c') : InsMoved c k c' := by
  have hlen := hl.moveIns_length _ _ _ _ _ hm
  obtain ⟨b', hb'⟩ : ∃ b', c'.blocks[k]? = some b' := ⟨_, List.getElem?_eq_getElem (hlen ▸ getElem?_lt hb)⟩
  obtain ⟨hidx, hsame⟩ := hl.moveIns_block _ _ _ _ _ hm b b' hb hb'
  exact ⟨hl.moveIns_entry _ _ _ _ _ hm,
    ⟨b, b', hb, set_of_agree c.blocks c'.blocks k b' hlen hb' (hl.moveIns_other _ _ _ _ _ hm), hidx, hsame⟩,
    fun hwf => hl.moveIns_wf _ _ _ _ _ hwf hm⟩

/-- conversely, code operations whose accepted moves do this are lawful (this is how both instances, the reference
operations and those of the dependency model, are shown lawful) -/
theorem lawful_of_moved {ops : CodeOps} (hi : ∀ c k s d c', ops.moveIns c k s d = some c' → InsMoved c k c')
    (hb : ∀ c s d c', ops.moveBlock c s d = some c' → BlockMoved c c') : Lawful ops where
  moveIns_wf c k s d c' hwf h := (hi c k s d c' h).wf hwf
  moveIns_entry c k s d c' h := (hi c k s d c' h).entry
  moveIns_length c k s d c' h := by
    obtain ⟨_, _, _, e, _⟩ := (hi c k s d c' h).block
    rw [e, List.length_set]
  moveIns_other c k s d c' h j hj := by
    obtain ⟨_, _, _, e, _⟩ := (hi c k s d c' h).block
    rw [e, List.getElem?_set_ne (Ne.symm hj)]
  moveIns_block c k s d c' h b1 b1' hb1 hb1' := by
    obtain ⟨b, b', hb, e, hsame⟩ := (hi c k s d c' h).block
    rw [e, List.getElem?_set_self (getElem?_lt hb)] at hb1'
    cases hb.symm.trans hb1
    cases hb1'
    exact hsame
  moveBlock_wf c s d c' hwf h := (hb c s d c' h).wf hwf
  moveBlock_entry c s d c' h := (hb c s d c' h).entry
  moveBlock_perm c s d c' h := (hb c s d c' h).perm

/-- what `Lines.Move` leaves behind on a listing that shows the code: the result shows its code, with the same
number of lines, the same marks and the same entry point; if it reports an error nothing has changed -/
structure Moved (l : Lines) (c : Code) (r : MoveRes) : Prop where
  wf : WF r.code
  shows : Shows r.lines r.code
  length : r.lines.lines.length = l.lines.length
  marks : r.lines.marks = l.marks
  entry : r.code.entry = c.entry
  refused : r.err ≠ none → r.lines = l ∧ r.code = c

/-- THE CASE ANALYSIS OF `Lines.Move` on the rows at the two line numbers, for any two operations "move a block" and "move
an instruction of a block" with results in `γ`: two headers move a block, two instructions of one block move an
instruction; a refused move and every other pair give `keep`.  The listing uses it with the abstract code operations
(`nextCode`), the composition with those of the dependency model (`Compose.movedDeps` is this function at `Deps.Code`). -/
def movedBy {γ : Type} (mvB : Nat → Nat → Option γ) (mvI : Nat → Nat → Nat → Option γ) (keep : γ)
    (rf rt : Option Row) : γ :=
  match rf, rt with
  | some a, some b =>
    match a.block, b.block with
    | some fb, some tb =>
      match a.instr, b.instr with
      | none, none => (mvB fb tb).getD keep
      | some fi, some ti => if fb = tb then (mvI fb fi ti).getD keep else keep
      | _, _ => keep
    | _, _ => keep
  | _, _ => keep

/-- `movedBy` after a command on the listing `l`: only `move` with both line numbers inside the listing gets that far -/
def afterCmd {γ : Type} (mvB : Nat → Nat → Option γ) (mvI : Nat → Nat → Nat → Option γ) (keep : γ) (l : Lines) :
    Cmd → γ
  | .move f t =>
    if f ≥ l.len ∨ t ≥ l.len then keep
    else movedBy mvB mvI keep ((l.lines[f]?).map rowOf) ((l.lines[t]?).map rowOf)
  | _ => keep

/-- `afterCmd` is natural in the operations: a relation that holds between the two `keep`s and between what corresponding
operations return (`keep` when they refuse) holds between the two results.  (With a relation that ignores one side: whatever
holds of `keep` and of the results of the operations holds of the result.) -/
theorem afterCmd_rel {γ δ : Type} {R : γ → δ → Prop} {mvB : Nat → Nat → Option γ} {mvI : Nat → Nat → Nat → Option γ}
    {keep : γ} {mvB' : Nat → Nat → Option δ} {mvI' : Nat → Nat → Nat → Option δ} {keep' : δ} (h0 : R keep keep')
    (hB : ∀ s d, R ((mvB s d).getD keep) ((mvB' s d).getD keep'))
    (hI : ∀ k s d, R ((mvI k s d).getD keep) ((mvI' k s d).getD keep')) (l : Lines) (cmd : Cmd) :
    R (afterCmd mvB mvI keep l cmd) (afterCmd mvB' mvI' keep' l cmd) := by
  cases cmd with
  | move f t =>
    simp only [afterCmd, movedBy]
    split
    · exact h0
    · split
      · split
        · split
          · exact hB _ _
          · split
            · exact hI _ _ _
            · exact h0
          · exact h0
        · exact h0
      · exact h0
  | _ => exact h0

/-- the code after a command: only `move` touches it -/
def nextCode (ops : CodeOps) (st : St) (cmd : Cmd) : Code :=
  afterCmd (ops.moveBlock st.code) (ops.moveIns st.code) st.code st.lines cmd

theorem move_spec (ops : CodeOps) (hl : Lawful ops) (l : Lines) (c : Code) (hwf : WF c) (hs : Shows l c)
    (f t : Nat) (hf : f < l.lines.length) (ht : t < l.lines.length) :
    ∃ r, l.move ops c f t = some r ∧ Moved l c r ∧
      r.code = movedBy (ops.moveBlock c) (ops.moveIns c) c ((l.lines[f]?).map rowOf) ((l.lines[t]?).map rowOf) := by
  obtain ⟨a, hF⟩ : ∃ a, l.lines[f]? = some a := ⟨_, List.getElem?_eq_getElem hf⟩
  obtain ⟨d, hT⟩ : ∃ d, l.lines[t]? = some d := ⟨_, List.getElem?_eq_getElem ht⟩
  have refused : ∀ e, ∃ r, some (⟨some e, l, c⟩ : MoveRes) = some r ∧ Moved l c r ∧ r.code = c :=
    fun e => ⟨_, rfl, ⟨hwf, hs, rfl, rfl, rfl, fun _ => ⟨rfl, rfl⟩⟩, rfl⟩
  simp only [Lines.move, Lines.moveWith, hF, hT, Option.map_some, movedBy, rowOf]
  cases hs.lineAt hwf hF with
  | blank ha => simp only [ha]; exact refused _
  | header b hb ha _ hai =>
    cases hs.lineAt hwf hT with
    | blank hd => simp only [ha, hd]; exact refused _
    | ins b2 x2 _ hd _ _ hdi => simp only [ha, hd, hai, hdi]; exact refused _
    | header b2 _ hd _ hdi =>
      -- two headers: the blocks are moved and the listing is built anew
      simp only [ha, hd, hai, hdi]
      cases hm : ops.moveBlock c b.idx b2.idx with
      | none => exact refused _
      | some c' =>
        exact ⟨_, rfl, ⟨hl.moveBlock_wf _ _ _ _ hwf hm, ⟨rfl, rfl⟩,
          (perm_sizes (hl.moveBlock_perm _ _ _ _ hm)).trans (shown_length hs.rows).symm, rfl,
          hl.moveBlock_entry _ _ _ _ hm, fun h => absurd rfl h⟩, rfl⟩
  | ins b x hb ha _ _ hai =>
    cases hs.lineAt hwf hT with
    | blank hd => simp only [ha, hd]; exact refused _
    | header b2 _ hd _ hdi => simp only [ha, hd, hai, hdi]; exact refused _
    | ins b2 x2 _ hd _ _ hdi =>
      -- two instructions: of one block, which is reloaded
      simp only [ha, hd, hai, hdi]
      by_cases hne : b.idx ≠ b2.idx
      · rw [if_pos hne, if_neg hne]
        exact refused _
      · rw [if_neg hne, if_neg (Nat.not_le.mpr (getElem?_lt hb)), if_pos (Decidable.not_not.mp hne)]
        cases hm : ops.moveIns c b.idx x.idx x2.idx with
        | none => exact refused _
        | some c' =>
          have M := insMoved_of_lawful hl hb hm
          obtain ⟨b0, b', hb0, hset, _, hsame⟩ := M.block
          cases hb.symm.trans hb0
          obtain ⟨l', h1, h2, h3, h4⟩ := reload_spec l c c' b.idx b b' hs hb hset hsame.length_eq
          simp only [h1]
          exact ⟨_, rfl, ⟨M.wf hwf, h2, h3, h4, M.entry, fun h => absurd rfl h⟩, rfl⟩

theorem markMove_spec (l : Lines) (f t : Nat) (failed : Bool) (hf : f < l.lines.length) (ht : t < l.lines.length) :
    ∃ l', markMove l f t failed = some l' ∧ Remarked l l' [f, t] := by
  obtain ⟨l1, h1, r1⟩ := setMark_spec l f (if failed then markErrMovedFrom else markMovedFrom) hf
  obtain ⟨l2, h2, r2⟩ := setMark_spec l1 t (if failed then markErrMovedTo else markMovedTo) (r1.length ▸ ht)
  exact ⟨l2, by simp only [markMove, h1, h2], r1.trans r2⟩

/-- what a command does besides its specific effect -/
structure Keeps (st st' : St) : Prop where
  inv : Inv st'
  entry : st'.code.entry = st.code.entry
  length : st'.lines.lines.length = st.lines.lines.length

theorem Keeps.refl {st : St} (hinv : Inv st) : Keeps st st := ⟨hinv, rfl, rfl⟩

theorem Keeps.trans {st st1 st2 : St} (h : Keeps st st1) (h' : Keeps st1 st2) : Keeps st st2 :=
  ⟨h'.inv, h'.entry.trans h.entry, h'.length.trans h.length⟩

theorem keeps_of_shows (st : St) (hinv : Inv st) (c' : Code) (l' : Lines) (hwf : WF c') (hs : Shows l' c')
    (hlen : l'.lines.length = st.lines.lines.length) (hmarks : ∀ j ∈ l'.marks, j < st.lines.lines.length)
    (he : c'.entry = st.code.entry) : Keeps st { st with lines := l', code := c' } :=
  ⟨⟨hwf, hs.rows, hs.starts, fun j hj => hlen ▸ hmarks j hj, hinv.curMax.trans hlen.symm, hinv.curVal⟩, he, hlen⟩

theorem keeps_remarked (st : St) (hinv : Inv st) {l' : Lines} {js : List Nat} (h : Remarked st.lines l' js)
    (hjs : ∀ j ∈ js, j < st.lines.lines.length) : Keeps st { st with lines := l' } :=
  keeps_of_shows st hinv st.code l' hinv.wf (h.shows hinv.shows) h.length
    (fun j hj => (h.marks j hj).elim (hinv.marks j) (hjs j)) rfl

/-- nothing changed but the marks -/
structure Unchanged (st st' : St) : Prop where
  rows : shown st'.lines = shown st.lines
  code : st'.code = st.code
  cursor : st'.cursor = st.cursor

/-- what a command that answered `s` and left the state `st'` has done to `st`: it has kept what commands keep; unless it
reported success nothing but marks has changed; the code it left is `code` -/
structure Did (st : St) (code : Code) (s : Status) (st' : St) : Prop where
  keeps : Keeps st st'
  unchanged : s ≠ .ok → Unchanged st st'
  code : st'.code = code

theorem cmdMove_spec (ops : CodeOps) (hl : Lawful ops) (st : St) (hinv : Inv st) (f t : Nat) :
    ∃ s st', cmdMove ops st f t = some (s, st') ∧ Did st (nextCode ops st (.move f t)) s st' := by
  unfold cmdMove
  simp only [nextCode, afterCmd]
  by_cases hr : f ≥ st.lines.len ∨ t ≥ st.lines.len
  · rw [if_pos hr, if_pos hr]
    exact ⟨_, _, rfl, .refl hinv, fun _ => ⟨rfl, rfl, rfl⟩, rfl⟩
  · rw [if_neg hr, if_neg hr]
    simp only [Lines.len, not_or, Nat.not_le] at hr
    obtain ⟨l0, h0, R0⟩ := unmarkAll_remarked st.lines hinv.marks
    have hl0 := R0.length
    obtain ⟨r, hm, M, hcode⟩ :=
      move_spec ops hl l0 st.code hinv.wf (R0.shows hinv.shows) f t (by omega) (by omega)
    rw [R0.row f, R0.row t] at hcode
    have hlen := M.length
    -- the marks of either outcome
    have marked : ∀ failed, ∃ l2, markMove r.lines f t failed = some l2 ∧ shown l2 = shown r.lines ∧
        Keeps st { st with lines := l2, code := r.code } := by
      intro failed
      obtain ⟨l2, h2, R2⟩ := markMove_spec r.lines f t failed (by omega) (by omega)
      refine ⟨l2, h2, R2.rows,
        keeps_of_shows st hinv r.code l2 M.wf (R2.shows M.shows) (by rw [R2.length, hlen, hl0]) (fun j hj => ?_)
          M.entry⟩
      rcases R2.marks j hj with h | h
      · exact (R0.marks j (M.marks ▸ h)).elim (hinv.marks j) (fun h => nomatch h)
      · simp only [List.mem_cons, List.not_mem_nil, or_false] at h
        omega
    simp only [h0, hm]
    cases he : r.err with
    | some e =>
      obtain ⟨l2, h2, rows2, k⟩ := marked true
      obtain ⟨hlines, hcode'⟩ := M.refused (by simp [he])
      simp only [h2]
      exact ⟨_, _, rfl, k, fun _ => ⟨rows2.trans (hlines ▸ R0.rows), hcode', rfl⟩, hcode⟩
    | none =>
      obtain ⟨l2, h2, _, k⟩ := marked false
      simp only [h2]
      exact ⟨_, _, rfl, k, fun h => absurd rfl h, hcode⟩

theorem cmdBounds_spec (st : St) (hinv : Inv st) (n : Nat) :
    ∃ s st', cmdBounds st n = some (s, st') ∧ Did st st.code s st' := by
  unfold cmdBounds
  by_cases hr : n ≥ st.lines.len
  · rw [if_pos hr]; exact ⟨_, _, rfl, .refl hinv, fun _ => ⟨rfl, rfl, rfl⟩, rfl⟩
  · rw [if_neg hr]
    simp only [Lines.len, Nat.not_le] at hr
    obtain ⟨l0, h0, R0⟩ := unmarkAll_remarked st.lines hinv.marks
    have hl0 := R0.length
    have S0 := R0.shows hinv.shows
    have hn : n < l0.lines.length := by omega
    obtain ⟨ln, hN⟩ : ∃ ln, l0.lines[n]? = some ln := ⟨_, List.getElem?_eq_getElem hn⟩
    -- whatever is marked afterwards, on lines of the listing
    have marked : ∀ {l' : Lines} {js : List Nat} (s : Status), Remarked l0 l' js →
        (∀ j ∈ js, j < st.lines.lines.length) →
        ∃ s' st', some (s, { st with lines := l' }) = some (s', st') ∧ Did st st.code s' st' :=
      fun s R hjs => ⟨_, _, rfl, keeps_remarked st hinv (R0.trans R) hjs, fun _ => ⟨(R0.trans R).rows, rfl, rfl⟩, rfl⟩
    -- marking line `n` alone
    have markErr : ∀ e, ∃ s st', (match l0.setMark n markErr with
          | none => none
          | some l1 => some (Status.err e, { st with lines := l1 })) = some (s, st') ∧ Did st st.code s st' := by
      intro e
      obtain ⟨l1, h1, R1⟩ := setMark_spec l0 n markErr hn
      simp only [h1]
      exact marked _ R1 (by simpa using hr)
    simp only [h0]
    cases S0.lineAt hinv.wf hN with
    | blank _ _ hblk =>
      simp only [hblk]
      exact markErr _
    | header b _ _ hblk hi =>
      simp only [hblk, hN, hi]
      exact markErr _
    | ins b x hbget _ hblk hxget hi =>
      simp only [hblk, hN, hi, hxget, S0.line hbget rfl]
      have hbd := hinv.wf.bounds b (List.mem_of_getElem? hbget) x (List.mem_of_getElem? hxget)
      have hlo := lineOf_lt st.code b.idx b hbget x.lower hbd.1
      have hup := lineOf_lt st.code b.idx b hbget x.upper hbd.2
      have hlen := shown_length hinv.rows
      obtain ⟨l1, h1, R1⟩ := setMark_spec l0 (lineOf st.code b.idx x.lower - 1) markLowerBound (by omega)
      obtain ⟨l2, h2, R2⟩ := setMark_spec l1 (lineOf st.code b.idx x.upper + 1) markUpperBound
        (by rw [R1.length]; omega)
      simp only [h1, h2]
      refine marked _ (R1.trans R2) (fun j hj => ?_)
      simp only [List.cons_append, List.nil_append, List.mem_cons, List.not_mem_nil, or_false] at hj
      omega

end Mltwist.Lemmas.Listing
