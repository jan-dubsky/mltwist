import Mltwist.Model.RiscvTables
import Mltwist.Lemmas.RiscvLiftSchema
/-
C01: the regenerated instruction tables are the schema.  `tables64`/`tables32` compare the full instruction set of a variant
with `Desc.lift`, mnemonic and effects, entry by entry in table order, by conversion: they fail to check as soon as an
entry is not literally the schema's any more.  `desc_of_mem` hands this to every entry of every configuration; it is the
only place where a proof looks at the EFFECTS of a table (the encodings are checked in `RiscvDecode` against the rows of the
reference, the flags in `RiscvTextTables` against the classes, through the pairing `pair_of_mem`).
-/
namespace Mltwist.Lemmas.RiscvLift
open Mltwist Mltwist.Riscv
open Mltwist.Lemmas.RiscvDecode (Cfg chunks_sublist)

/-- the classes that are instructions of the variant with `W`-byte registers, in table order -/
def classesOf (W : Nat) : List (String × Desc) := classify.filter (·.2.ok W)

theorem tables64 :
    (instructionSet 64 true true).map (fun e => (e.name, e.effects)) = (classesOf 8).map (fun p => (p.1, p.2.lift 8)) := rfl

theorem tables32 :
    (instructionSet 32 true true).map (fun e => (e.name, e.effects)) = (classesOf 4).map (fun p => (p.1, p.2.lift 4)) := rfl

theorem exists_zip_of_map_eq {α β γ : Type} {f : α → γ} {g : β → γ} : ∀ {l : List α} {l' : List β},
    l.map f = l'.map g → ∀ x ∈ l, ∃ y, (x, y) ∈ l.zip l' ∧ f x = g y
  | [], _, _, _, h => nomatch h
  | _ :: _, [], h, _, _ => nomatch h
  | _ :: _, b :: _, h, x, hx => by
    obtain ⟨h1, h2⟩ := List.cons.inj h
    rcases List.mem_cons.1 hx with rfl | hx
    · exact ⟨b, List.mem_cons_self .., h1⟩
    · obtain ⟨y, hy, hxy⟩ := exists_zip_of_map_eq h2 x hx
      exact ⟨y, List.mem_cons_of_mem _ hy, hxy⟩

theorem pair_of_mem {xlen : Nat} (hx : Cfg xlen) {m a : Bool} {e : Entry} (he : e ∈ instructionSet xlen m a) :
    ∃ p, (e, p) ∈ (instructionSet xlen true true).zip (classesOf (xlen / 8)) ∧
      e.name = p.1 ∧ e.effects = p.2.lift (xlen / 8) := by
  have key : (instructionSet xlen true true).map (fun e => (e.name, e.effects))
      = (classesOf (xlen / 8)).map (fun p => (p.1, p.2.lift (xlen / 8))) := by
    rcases hx with rfl | rfl
    · exact tables32
    · exact tables64
  exact (exists_zip_of_map_eq key e ((chunks_sublist ..).subset he)).imp
    fun _ hp => ⟨hp.1, (Prod.mk.inj hp.2).1, (Prod.mk.inj hp.2).2⟩

theorem desc_of_mem {xlen : Nat} (hx : Cfg xlen) {m a : Bool} {e : Entry} (he : e ∈ instructionSet xlen m a) :
    ∃ d, (e.name, d) ∈ classify ∧ d.ok (xlen / 8) = true ∧ e.effects = d.lift (xlen / 8) := by
  obtain ⟨p, hp, hn, hl⟩ := pair_of_mem hx he
  obtain ⟨hc, hok⟩ := List.mem_filter.1 (List.of_mem_zip hp).2
  exact ⟨p.2, hn ▸ hc, hok, hl⟩

end Mltwist.Lemmas.RiscvLift
