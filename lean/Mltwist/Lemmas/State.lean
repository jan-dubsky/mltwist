import Mltwist.Model.State
import Mltwist.Lemmas.OverlayInst
import Mltwist.Spec.State
import Mltwist.Lemmas.Const
/-
C18: the register map over write histories, `Apply` case by case, and the memories of a state: an applied
`MemStore` is the store of C14/C16 in the address space of its key.
-/
namespace Mltwist.Lemmas.State
open Mltwist Mltwist.State Mltwist.Overlay Mltwist.Spec.State Mltwist.Spec.Overlay

theorem load_empty (k : String) (w : Nat) : RegMap.load RegMap.empty k w = none := rfl

theorem get_store (m : RegMap) (k : String) (e : Expr) (w : Nat) (k' : String) :
    assocGet k' (m.store k e w) = if k' = k then some (setWidth e w) else assocGet k' m := by
  unfold RegMap.store
  by_cases hk : k' = k
  · rw [hk, assocGet_set_same, if_pos rfl]
  · rw [assocGet_set_other k k' _ hk, if_neg hk]

theorem load_eq (m : RegMap) (k : String) (w : Nat) : m.load k w = (assocGet k m).map (setWidth · w) := by
  unfold RegMap.load
  cases assocGet k m <;> rfl

theorem load_store_same (m : RegMap) (k : String) (e : Expr) (w w' : Nat) :
    (m.store k e w).load k w' = some (setWidth (setWidth e w) w') := by
  rw [load_eq, get_store, if_pos rfl]
  rfl

theorem load_store_other (m : RegMap) (k k2 : String) (e : Expr) (w w' : Nat) (h : k2 ≠ k) :
    (m.store k e w).load k2 w' = m.load k2 w' := by
  rw [load_eq, get_store, if_neg h, load_eq]

/-- replay of a write history (oldest first) on the model -/
def runWrites (m : RegMap) : RegHist → RegMap
  | [] => m
  | r :: rest => runWrites (m.store r.key r.value r.w) rest

theorem lastWrite_cons (k : String) (r : RegWrite) (rest : RegHist) :
    lastWrite k (r :: rest) = (lastWrite k rest).or (if r.key = k then some r else none) := by
  rw [lastWrite]
  cases lastWrite k rest <;> rfl

theorem runWrites_load (k : String) (w' : Nat) : ∀ (h : RegHist) (m : RegMap),
    (runWrites m h).load k w' =
      match lastWrite k h with
      | some r => some (setWidth (setWidth r.value r.w) w')
      | none => m.load k w'
  | [], m => by simp [runWrites, lastWrite]
  | r :: rest, m => by
    rw [runWrites, runWrites_load k w' rest, lastWrite]
    cases hl : lastWrite k rest with
    | some r' => rfl
    | none =>
      simp only
      by_cases hk : r.key = k
      · rw [if_pos hk, ← hk, load_store_same]
      · rw [if_neg hk, load_store_other _ _ _ _ _ _ (fun e => hk e.symm)]

theorem constUint8 (c : List UInt8) : (Const.constUint 8 c).1 = leToNat c % 2 ^ 64 := by
  rw [Lemmas.Const.constUint_spec 8 c (by decide)]

theorem apply_regStore (s : State) (v : Expr) (k : String) (w : Nat) :
    s.apply (.regStore v k w) = .ok ({ s with regs := s.regs.store k v w }, true) := rfl

theorem apply_memStore_const (s : State) (v : Expr) (key : String) (addr : Expr) (w : Nat)
    (c : List UInt8) (h : constFold addr = .const c) :
    s.apply (.memStore v key addr w) =
      match s.mems.store key (leToNat c % 2 ^ 64) v w with
      | .ok mems' => .ok ({ s with mems := mems' }, true)
      | .error f => .error f := by
  simp only [State.apply, h, constUint8]
  cases s.mems.store key (leToNat c % 2 ^ 64) v w <;> rfl

/-- the memories of the state satisfy their invariants and accept every store -/
def Good (s : State) : Prop := s.mems.Inv ∧ ∀ key e, s.mems.Storable key e

theorem storable_store {s : State} (hg : Good s) (key : String) (a : Nat) (v : Expr) (w : Nat)
    (hd : InDom a w) :
    ∃ m', s.mems.store key a v w = .ok m' ∧ Good { s with mems := m' } ∧
      m'.abs key = (s.mems.abs key).store a v w ∧
      ∀ key', key' ≠ key → m'.abs key' = s.mems.abs key' := by
  obtain ⟨m', h1, h2, h3, h4⟩ := Lemmas.Overlay.memmap_store s.mems hg.1 key a v w (hg.2 key v) hd
  exact ⟨m', h1, ⟨h2, fun key' e => (Lemmas.Overlay.memmap_storable_store h1 key' e).2 (hg.2 key' e)⟩, h3,
    fun key' hne => Lemmas.Overlay.memmap_abs_congr (h4 key' hne)⟩

end Mltwist.Lemmas.State
