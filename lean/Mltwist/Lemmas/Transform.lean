import Mltwist.Lemmas.Expreval
import Mltwist.Lemmas.EvalBasic
import Mltwist.Model.Transform
import Mltwist.Spec.Checks
/-
Semantics of `internal/exprtransform` (C09, C12, C13): `SetWidth`, the purge of width gadgets, `ConstFold`,
`Possibilities`, in that order, after the node equations of `Expr.wf`, `Expr.closed`, `Expr.noConstOp`.
`setWidth` enters every proof through its four cases (`setWidth_rel`).  `prune` and `stripSame` are the same loop with two
tests (`stripWhile`): what they have in common is proved once, through `stripWhile_rel`; they drop a gadget only where the
width that is read makes it invisible (`stripWhile_eval`), so `purge` keeps value and width.  `constFoldRaw` likewise enters
through the rule `cfr_rel` (either both compared or combined operands fold to constants, or the node stays), one
application per property.  Idempotence of `constFold` (`Props.C09.constFold_idem`) goes through `Purged`, the fixed-point
conditions of `purge`.
The last part shows that all of them keep `WFNodes P`: every width between 1 and 255 (`Expr.wf`) and every property `P` of
the load nodes that sees the address by value; the emulator (C03) relies on both.  `AllNodes`, `WFNodes` carry the
namespace `Mltwist.Lemmas.RiscvLift` like `WOK` of `EvalBasic` (the lifting proofs state their theorems with them); everything
else in this file is `Mltwist.Lemmas.Transform`.
-/
namespace Mltwist.Lemmas.Transform
open Mltwist
open Mltwist.Lemmas.EvalBasic (eval_lt trunc_eval_width)
open Mltwist.Lemmas.Bytes (trunc_of_lt trunc_trunc_of_le)
open Mltwist.Lemmas.RiscvLift (WOK)

theorem wf_const_iff (bs : List UInt8) : (Expr.const bs).wf = true ↔ WOK bs.length := by
  simp [Expr.wf, WOK]

theorem wf_binary_iff (op : BinOp) (a b : Expr) (w : Nat) :
    (Expr.binary op a b w).wf = true ↔ WOK w ∧ a.wf = true ∧ b.wf = true := by
  simp [Expr.wf, WOK, and_assoc]

theorem wf_less_iff (a b t f : Expr) (w : Nat) :
    (Expr.less a b t f w).wf = true ↔ WOK w ∧ a.wf = true ∧ b.wf = true ∧ t.wf = true ∧ f.wf = true := by
  simp [Expr.wf, WOK, and_assoc]

theorem wf_memLoad_iff (k : String) (a : Expr) (w : Nat) : (Expr.memLoad k a w).wf = true ↔ WOK w ∧ a.wf = true := by
  simp [Expr.wf, WOK, and_assoc]

theorem wf_regLoad_iff (k : String) (w : Nat) : (Expr.regLoad k w).wf = true ↔ WOK w := by
  simp [Expr.wf, WOK]

theorem wf_zero : Expr.zero.wf = true := by decide

theorem wf_width {e : Expr} (h : e.wf = true) : WOK e.width := by
  cases e <;> simp only [Expr.wf, Bool.and_eq_true, decide_eq_true_eq] at h <;>
    simp only [Expr.width, WOK] <;> omega

theorem closed_binary_iff {op : BinOp} {a b : Expr} {w : Nat} :
    (Expr.binary op a b w).closed = true ↔ a.closed = true ∧ b.closed = true := by
  simp [Expr.closed]

theorem closed_less_iff {a b t f : Expr} {w : Nat} :
    (Expr.less a b t f w).closed = true ↔ a.closed = true ∧ b.closed = true ∧ t.closed = true ∧ f.closed = true := by
  simp [Expr.closed, and_assoc]

theorem noConstOp_binary_iff {op : BinOp} {a b : Expr} {w : Nat} :
    (Expr.binary op a b w).noConstOp = true ↔
      (a.isConst && b.isConst) = false ∧ a.noConstOp = true ∧ b.noConstOp = true := by
  simp only [Expr.noConstOp, Bool.and_eq_true, Bool.not_eq_true', and_assoc]

theorem noConstOp_less_iff {a b t f : Expr} {w : Nat} :
    (Expr.less a b t f w).noConstOp = true ↔
      (a.isConst && b.isConst) = false ∧ a.noConstOp = true ∧ b.noConstOp = true ∧ t.noConstOp = true ∧
        f.noConstOp = true := by
  simp only [Expr.noConstOp, Bool.and_eq_true, Bool.not_eq_true', and_assoc]

theorem isWidthGadget_binary {op : BinOp} {a b : Expr} {x : Nat}
    (h : isWidthGadget (.binary op a b x) = true) : op = .add ∧ b = .const [0] := by
  cases op <;> cases b <;> simp_all [isWidthGadget]

theorem isWidthGadget_gadget (a : Expr) (x : Nat) :
    isWidthGadget (.binary .add a (.const [0]) x) = true := by
  simp [isWidthGadget]

theorem setWidth_const (v : List UInt8) (w : Nat) : setWidth (.const v) w = .const (natToLE w (leToNat v)) := by
  rw [setWidth]
  split
  · next h => rw [← h]; exact congrArg Expr.const (Bytes.natToLE_leToNat v).symm
  · exact congrArg Expr.const (Bytes.setWidth_eq_natToLE v w)

/-- The four cases of `SetWidth`, as a rule for relations between `e` and `setWidth e w`.  A register load is narrowed, never
widened (the bytes above it are not the register's): a too narrow one gets a width gadget like anything else. -/
theorem setWidth_rel {R : Expr → Expr → Prop} {w : Nat} (same : ∀ {e}, e.width = w → R e e)
    (const : ∀ {bs}, R (.const bs) (.const (natToLE w (leToNat bs))))
    (narrow : ∀ {k we}, w < we → R (.regLoad k we) (.regLoad k w))
    (gadget : ∀ {e}, e.isConst = false → R e (newWidthGadget e w)) (e : Expr) : R e (setWidth e w) := by
  by_cases h : e.width = w
  · rw [show setWidth e w = e from if_pos h]; exact same h
  · cases e with
    | const bs => rw [setWidth_const]; exact const
    | regLoad k we =>
      have hne : we ≠ w := h
      by_cases hlt : w > we
      · rw [show setWidth (.regLoad k we) w = _ from (if_neg h).trans (if_pos hlt)]; exact gadget rfl
      · rw [show setWidth (.regLoad k we) w = _ from (if_neg h).trans (if_neg hlt)]; exact narrow (by omega)
    | _ => rw [show setWidth _ w = _ from if_neg h]; exact gadget rfl

theorem setWidth_width (e : Expr) (w : Nat) : (setWidth e w).width = w :=
  setWidth_rel (R := fun _ e' => e'.width = w) (same := id) (const := Bytes.natToLE_length _ _) (narrow := fun _ => rfl)
    (gadget := fun _ => rfl) e

theorem setWidth_eval (ρ : Env) (e : Expr) (w : Nat) :
    (setWidth e w).eval ρ = trunc w (e.eval ρ) :=
  setWidth_rel (R := fun e e' => e'.eval ρ = trunc w (e.eval ρ)) (same := fun h => by rw [← h, trunc_eval_width])
    (const := Bytes.leToNat_natToLE w _) (narrow := fun hlt => (trunc_trunc_of_le (Nat.le_of_lt hlt) _).symm)
    (gadget := fun _ => EvalBasic.eval_add_zero ρ _ w) e

theorem setWidth_isConst (e : Expr) (w : Nat) (h : e.isConst = true) :
    (setWidth e w).isConst = true :=
  setWidth_rel (R := fun e e' => e.isConst = true → e'.isConst = true) (same := fun _ h => h) (const := fun _ => rfl)
    (narrow := fun _ h => h) (gadget := fun hc h => by rw [hc] at h; contradiction) e h

theorem setWidth_closed (e : Expr) (w : Nat) : (setWidth e w).closed = e.closed :=
  setWidth_rel (R := fun e e' => e'.closed = e.closed) (same := fun _ => rfl) (const := rfl) (narrow := fun _ => rfl)
    (gadget := fun _ => Bool.and_true _) e

theorem setWidth_noLess (e : Expr) (w : Nat) (h : e.noLess = true) :
    (setWidth e w).noLess = true :=
  setWidth_rel (R := fun e e' => e.noLess = true → e'.noLess = true) (same := fun _ h => h) (const := fun _ => rfl)
    (narrow := fun _ _ => rfl) (gadget := fun _ h => by simp [newWidthGadget, Expr.noLess, Expr.zero, h]) e h

theorem setWidth_noConstOp (e : Expr) (w : Nat) (h : e.noConstOp = true) :
    (setWidth e w).noConstOp = true :=
  -- the gadget is no constant operation because its argument is no constant
  setWidth_rel (R := fun e e' => e.noConstOp = true → e'.noConstOp = true) (same := fun _ h => h)
    (const := fun _ => rfl) (narrow := fun _ _ => rfl)
    (gadget := fun hc h => noConstOp_binary_iff.2 ⟨by rw [hc]; rfl, h, rfl⟩) e h

/-- the gadget stays iff it cuts (`x < a`) below what is read (`x < w`) -/
theorem dropDecision_eq (w x a : Nat) : dropDecision w x a = some (decide (a ≤ x ∨ w ≤ x)) := by
  unfold dropDecision
  by_cases h : w > x ∧ x < a
  · rw [if_pos h, decide_eq_false (by omega)]
  · rw [if_neg h, decide_eq_true (by omega)]
    split
    · rfl
    · split
      · rfl
      · split
        · rfl
        · omega

/-- `prune` and `stripSame` are one loop: go down through the outer width gadgets while the test `c`, on the width of the
gadget and the width of its argument, holds -/
def stripWhile (c : Nat → Nat → Bool) : Expr → Expr
  | .binary op a b x => if isWidthGadget (.binary op a b x) && c x a.width then stripWhile c a else .binary op a b x
  | e => e

theorem prune_eq_stripWhile (e : Expr) (w : Nat) :
    prune e w = stripWhile (fun x a => dropDecision w x a == some true) e := by
  induction e with
  | binary op a b x iha _ => rw [prune, stripWhile, iha]
  | _ => rfl

theorem stripSame_eq_stripWhile (e : Expr) : stripSame e = stripWhile (fun x a => a == x) e := by
  induction e with
  | binary op a b x iha _ => rw [stripSame, stripWhile, iha]
  | _ => rfl

theorem stripWhile_rel {c : Nat → Nat → Bool} {R : Expr → Expr → Prop} (refl : ∀ e, R e e)
    (gadget : ∀ e' a x, c x a.width = true → R e' a → R e' (.binary .add a (.const [0]) x)) (e : Expr) :
    R (stripWhile c e) e := by
  induction e with
  | binary op a b x iha _ =>
    rw [stripWhile]
    split
    · next h =>
      rw [Bool.and_eq_true] at h
      obtain ⟨rfl, rfl⟩ := isWidthGadget_binary h.1
      exact gadget _ _ _ h.2 iha
    · exact refl _
  | _ => exact refl _

theorem stripWhile_idem (c : Nat → Nat → Bool) (e : Expr) :
    stripWhile c (stripWhile c e) = stripWhile c e := by
  induction e with
  | binary op a b x iha _ =>
    by_cases hc : (isWidthGadget (.binary op a b x) && c x a.width) = true
    · rw [stripWhile, if_pos hc]; exact iha
    · rw [stripWhile, if_neg hc, stripWhile, if_neg hc]
  | _ => rfl

/-- Where `w` bytes are read, a gadget of `x` bytes around a value of `a` bytes is invisible if it does not cut (`a ≤ x`)
or cuts above what is read (`w ≤ x`): any test that implies this may drive the removal. -/
theorem stripWhile_eval {c : Nat → Nat → Bool} {w : Nat} (hc : ∀ x a, c x a = true → a ≤ x ∨ w ≤ x) (ρ : Env)
    (e : Expr) : trunc w ((stripWhile c e).eval ρ) = trunc w (e.eval ρ) := by
  refine stripWhile_rel (R := fun e' e => trunc w (e'.eval ρ) = trunc w (e.eval ρ)) (fun _ => rfl) ?_ e
  intro e' a x h ih
  rw [ih, EvalBasic.eval_add_zero]
  rcases hc _ _ h with h1 | h1
  · rw [trunc_of_lt (w := x) (Nat.lt_of_lt_of_le (eval_lt ρ a) (Nat.pow_le_pow_right (by decide) (by omega)))]
  · exact (trunc_trunc_of_le h1 _).symm

theorem prune_eval (ρ : Env) (e : Expr) (w : Nat) :
    trunc w ((prune e w).eval ρ) = trunc w (e.eval ρ) := by
  rw [prune_eq_stripWhile]
  exact stripWhile_eval
    (fun _ _ h => of_decide_eq_true (Option.some.inj ((dropDecision_eq ..).symm.trans (beq_iff_eq.1 h)))) ρ e

theorem stripSame_width (e : Expr) : (stripSame e).width = e.width := by
  rw [stripSame_eq_stripWhile]
  exact stripWhile_rel (R := fun e' e => e'.width = e.width) (fun _ => rfl)
    (fun _ _ _ h ih => ih.trans (beq_iff_eq.1 h)) e

/-- `stripSame` removes only gadgets that do not cut, so the value is kept whatever is read -/
theorem stripSame_eval (ρ : Env) (e : Expr) : (stripSame e).eval ρ = e.eval ρ := by
  have h := stripWhile_eval (c := fun x a => a == x) (w := e.width)
    (fun _ _ h => Or.inl (Nat.le_of_eq (beq_iff_eq.1 h))) ρ e
  rwa [← stripSame_eq_stripWhile, trunc_eval_width, ← stripSame_width, trunc_eval_width] at h

theorem purge_width (e : Expr) : (purge e).width = e.width := by
  cases e <;> rfl

theorem purge_eval (ρ : Env) (e : Expr) : (purge e).eval ρ = e.eval ρ := by
  induction e with
  | binary op a b w iha ihb =>
    simp only [purge, Expr.eval, prune_eval, iha, ihb]
  | less a b t f w iha ihb iht ihf =>
    simp only [purge, Expr.eval, prune_eval, iha, ihb, iht, ihf]
  | memLoad k a w iha =>
    simp only [purge, Expr.eval, stripSame_eval, iha]
  | _ => simp [purge]

theorem purge_isConst (e : Expr) : (purge e).isConst = e.isConst := by
  cases e <;> rfl

theorem stripWhile_noConstOp {c : Nat → Nat → Bool} {e : Expr} (h : e.noConstOp = true) :
    (stripWhile c e).noConstOp = true ∧ (stripWhile c e).isConst = e.isConst :=
  stripWhile_rel (R := fun e' e => e.noConstOp = true → e'.noConstOp = true ∧ e'.isConst = e.isConst)
    (fun _ h => ⟨h, rfl⟩)
    (fun _ _ _ _ ih hp =>
      have ⟨hn, ha, _⟩ := noConstOp_binary_iff.1 hp
      ⟨(ih ha).1, (ih ha).2.trans ((Bool.and_true _).symm.trans hn)⟩) e h

theorem purge_noConstOp (e : Expr) (h : e.noConstOp = true) : (purge e).noConstOp = true := by
  induction e with
  | const bs => exact h
  | regLoad k w => rfl
  | memLoad k a w iha =>
    show (stripSame (purge a)).noConstOp = true
    rw [stripSame_eq_stripWhile]
    exact (stripWhile_noConstOp (iha h)).1
  | binary op a b w iha ihb =>
    obtain ⟨hn, ha, hb⟩ := noConstOp_binary_iff.1 h
    simp only [purge, prune_eq_stripWhile, noConstOp_binary_iff, stripWhile_noConstOp (iha ha), stripWhile_noConstOp (ihb hb),
      purge_isConst, hn, and_self]
  | less a b t f w iha ihb iht ihf =>
    obtain ⟨hn, ha, hb, ht, hf⟩ := noConstOp_less_iff.1 h
    simp only [purge, prune_eq_stripWhile, noConstOp_less_iff, stripWhile_noConstOp (iha ha), stripWhile_noConstOp (ihb hb),
      stripWhile_noConstOp (iht ht), stripWhile_noConstOp (ihf hf), purge_isConst, hn, and_self]

theorem purgeWidthGadgets_noConstOp (e : Expr) (h : e.noConstOp = true) :
    (purgeWidthGadgets e).noConstOp = true := by
  rw [purgeWidthGadgets, stripSame_eq_stripWhile]
  exact (stripWhile_noConstOp (purge_noConstOp e h)).1

/-- fixed-point conditions of `purge`: every operand of a `binary`/`less` is already pruned
for the width of its parent, and every load address is free of same-width gadgets -/
def Purged : Expr → Prop
  | .binary _ a b w => Purged a ∧ Purged b ∧ prune a w = a ∧ prune b w = b
  | .less a b t f w =>
    Purged a ∧ Purged b ∧ Purged t ∧ Purged f ∧ prune a w = a ∧ prune b w = b ∧ prune t w = t ∧ prune f w = f
  | .memLoad _ a _ => Purged a ∧ stripSame a = a
  | _ => True

theorem purged_stripWhile (c : Nat → Nat → Bool) {e : Expr} : Purged e → Purged (stripWhile c e) :=
  stripWhile_rel (R := fun e' e => Purged e → Purged e') (fun _ h => h) (fun _ _ _ _ ih h => ih h.1) e

theorem purged_purge (e : Expr) : Purged (purge e) := by
  induction e with
  | const bs => simp [purge, Purged]
  | regLoad k w => simp [purge, Purged]
  | memLoad k a w iha =>
    simp only [purge, Purged, stripSame_eq_stripWhile]
    exact ⟨purged_stripWhile _ iha, stripWhile_idem _ _⟩
  | binary op a b w iha ihb =>
    simp only [purge, Purged, prune_eq_stripWhile]
    exact ⟨purged_stripWhile _ iha, purged_stripWhile _ ihb, stripWhile_idem _ _, stripWhile_idem _ _⟩
  | less a b t f w iha ihb iht ihf =>
    simp only [purge, Purged, prune_eq_stripWhile]
    exact ⟨purged_stripWhile _ iha, purged_stripWhile _ ihb, purged_stripWhile _ iht, purged_stripWhile _ ihf,
      stripWhile_idem _ _, stripWhile_idem _ _, stripWhile_idem _ _, stripWhile_idem _ _⟩

theorem purge_of_purged (e : Expr) (h : Purged e) : purge e = e := by
  induction e with
  | const bs => simp [purge]
  | regLoad k w => simp [purge]
  | memLoad k a w iha =>
    simp only [Purged] at h
    simp only [purge, iha h.1, h.2]
  | binary op a b w iha ihb =>
    simp only [Purged] at h
    obtain ⟨ha, hb, pa, pb⟩ := h
    simp only [purge, iha ha, ihb hb, pa, pb]
  | less a b t f w iha ihb iht ihf =>
    simp only [Purged] at h
    obtain ⟨ha, hb, ht, hf, pa, pb, pt, pf⟩ := h
    simp only [purge, iha ha, ihb hb, iht ht, ihf hf, pa, pb, pt, pf]

theorem purgeWidthGadgets_idem (e : Expr) :
    purgeWidthGadgets (purgeWidthGadgets e) = purgeWidthGadgets e := by
  simp only [purgeWidthGadgets, stripSame_eq_stripWhile]
  rw [purge_of_purged _ (purged_stripWhile _ (purged_purge e)), stripWhile_idem]

theorem purgeWidthGadgets_width (e : Expr) : (purgeWidthGadgets e).width = e.width := by
  unfold purgeWidthGadgets
  rw [stripSame_width, purge_width]

theorem purgeWidthGadgets_eval (ρ : Env) (e : Expr) : (purgeWidthGadgets e).eval ρ = e.eval ρ := by
  unfold purgeWidthGadgets
  rw [stripSame_eval, purge_eval]

theorem isConst_iff {e : Expr} : e.isConst = true ↔ ∃ bs, e = .const bs := by
  cases e <;> simp [Expr.isConst]

theorem cfr_memLoad (k : String) (a : Expr) (w : Nat) :
    constFoldRaw (.memLoad k a w) = .memLoad k (constFoldRaw a) w := by
  rw [constFoldRaw]

theorem cfr_const (bs : List UInt8) : constFoldRaw (.const bs) = .const bs := by
  simp [constFoldRaw]

theorem cfr_regLoad (k : String) (w : Nat) : constFoldRaw (.regLoad k w) = .regLoad k w := by
  simp [constFoldRaw]

/-- What `constFoldRaw` does, as a rule for relations between `e` and `constFoldRaw e`.  The rule for loads also says that the
new address IS the folded one: a property of load nodes by value (`ByValue`) needs its value. -/
theorem cfr_rel {R : Expr → Expr → Prop} (const : ∀ bs, R (.const bs) (.const bs))
    (regLoad : ∀ k w, R (.regLoad k w) (.regLoad k w))
    (memLoad : ∀ {a a'} k w, constFoldRaw a = a' → R a a' → R (.memLoad k a w) (.memLoad k a' w))
    (binFold : ∀ {a b c1 c2} op w, R a (.const c1) → R b (.const c2) →
      R (.binary op a b w) (.const (Expreval.binary op c1 c2 w)))
    (binKeep : ∀ {a b a' b'} op w, R a a' → R b b' → (a'.isConst && b'.isConst) = false →
      R (.binary op a b w) (.binary op a' b' w))
    (lessFold : ∀ {a b t f t' f' c1 c2} w, R a (.const c1) → R b (.const c2) → R t t' → R f f' →
      R (.less a b t f w) (setWidth (if Expreval.ltu c1 c2 w then t' else f') w))
    (lessKeep : ∀ {a b t f a' b' t' f'} w, R a a' → R b b' → R t t' → R f f' →
      (a'.isConst && b'.isConst) = false → R (.less a b t f w) (.less a' b' t' f' w))
    (e : Expr) : R e (constFoldRaw e) := by
  have keep {x y : Expr} (h : ∀ c1 c2, x = .const c1 → y = .const c2 → False) : (x.isConst && y.isConst) = false := by
    cases x <;> cases y <;> simp [Expr.isConst]
    exact h _ _ rfl rfl
  induction e with
  | const bs => rw [cfr_const]; exact const bs
  | regLoad k w => rw [cfr_regLoad]; exact regLoad k w
  | memLoad k a w iha => rw [cfr_memLoad]; exact memLoad k w rfl iha
  | binary op a b w iha ihb =>
    rw [constFoldRaw]
    split
    · next c1 c2 h1 h2 => exact binFold op w (h1 ▸ iha) (h2 ▸ ihb)
    · next hn => exact binKeep op w iha ihb (keep hn)
  | less a b t f w iha ihb iht ihf =>
    rw [constFoldRaw]
    split
    · next c1 c2 h1 h2 => exact lessFold w (h1 ▸ iha) (h2 ▸ ihb) iht ihf
    · next hn => exact lessKeep w iha ihb iht ihf (keep hn)

theorem cfr_width (e : Expr) : (constFoldRaw e).width = e.width :=
  cfr_rel (R := fun e e' => e'.width = e.width) (const := fun _ => rfl) (regLoad := fun _ _ => rfl)
    (memLoad := fun _ _ _ _ => rfl) (binFold := fun op w _ _ => Lemmas.Expreval.binary_length op _ _ w)
    (binKeep := fun _ _ _ _ _ => rfl) (lessFold := fun w _ _ _ _ => setWidth_width _ w)
    (lessKeep := fun _ _ _ _ _ _ => rfl) e

/-- Of `e.wf` only `w ≤ 255` at the `binary` nodes is used, for `binary_value` (see `Expreval.shiftUint64_none`). -/
theorem cfr_eval (ρ : Env) (e : Expr) (hwf : e.wf = true) :
    (constFoldRaw e).eval ρ = e.eval ρ :=
  cfr_rel (R := fun e e' => e.wf = true → e'.eval ρ = e.eval ρ) (const := fun _ _ => rfl)
    (regLoad := fun _ _ _ => rfl)
    (memLoad := fun k w _ ih h => by simp only [Expr.eval, ih ((wf_memLoad_iff ..).1 h).2])
    (binFold := fun op w iha ihb h => by
      obtain ⟨⟨_, hw⟩, ha, hb⟩ := (wf_binary_iff ..).1 h
      have iha := iha ha
      have ihb := ihb hb
      simp only [Expr.eval] at iha ihb ⊢
      rw [Lemmas.Expreval.binary_value op _ _ w hw, iha, ihb])
    (binKeep := fun op w iha ihb _ h => by
      obtain ⟨_, ha, hb⟩ := (wf_binary_iff ..).1 h
      simp only [Expr.eval, iha ha, ihb hb])
    (lessFold := fun w iha ihb iht ihf h => by
      obtain ⟨_, ha, hb, ht, hf⟩ := (wf_less_iff ..).1 h
      have iha := iha ha
      have ihb := ihb hb
      simp only [Expr.eval] at iha ihb
      rw [setWidth_eval, apply_ite (fun x : Expr => trunc w (x.eval ρ)), iht ht, ihf hf]
      simp only [Expr.eval]
      rw [← iha, ← ihb]
      exact EvalBasic.ite_congr_prop (Lemmas.Expreval.ltu_iff _ _ w) _ _)
    (lessKeep := fun w iha ihb iht ihf _ h => by
      obtain ⟨_, ha, hb, ht, hf⟩ := (wf_less_iff ..).1 h
      simp only [Expr.eval, iha ha, ihb hb, iht ht, ihf hf])
    e hwf

theorem cfr_closed (e : Expr) (h : e.closed = true) : (constFoldRaw e).isConst = true :=
  cfr_rel (R := fun e e' => e.closed = true → e'.isConst = true) (const := fun _ _ => rfl)
    (regLoad := fun _ _ h => nomatch h) (memLoad := fun _ _ _ _ h => nomatch h) (binFold := fun _ _ _ _ _ => rfl)
    (binKeep := fun _ _ iha ihb hn h => by
      obtain ⟨ha, hb⟩ := closed_binary_iff.1 h
      rw [iha ha, ihb hb] at hn; simp at hn)
    (lessFold := fun w _ _ iht ihf h => by
      obtain ⟨_, _, ht, hf⟩ := closed_less_iff.1 h
      apply setWidth_isConst
      split
      · exact iht ht
      · exact ihf hf)
    (lessKeep := fun _ iha ihb _ _ hn h => by
      obtain ⟨ha, hb, _⟩ := closed_less_iff.1 h
      rw [iha ha, ihb hb] at hn; simp at hn)
    e h

theorem cfr_noConstOp (e : Expr) : (constFoldRaw e).noConstOp = true :=
  cfr_rel (R := fun _ e' => e'.noConstOp = true) (const := fun _ => rfl) (regLoad := fun _ _ => rfl)
    (memLoad := fun _ _ _ ih => ih) (binFold := fun _ _ _ _ => rfl)
    (binKeep := fun _ _ iha ihb hn => noConstOp_binary_iff.2 ⟨hn, iha, ihb⟩)
    (lessFold := fun w _ _ iht ihf => by
      apply setWidth_noConstOp
      split
      · exact iht
      · exact ihf)
    (lessKeep := fun _ iha ihb iht ihf hn => noConstOp_less_iff.2 ⟨hn, iha, ihb, iht, ihf⟩) e

theorem cfr_of_noConstOp (e : Expr) (h : e.noConstOp = true) : constFoldRaw e = e :=
  cfr_rel (R := fun e e' => e.noConstOp = true → e' = e) (const := fun _ _ => rfl) (regLoad := fun _ _ _ => rfl)
    (memLoad := fun _ _ _ ih h => by rw [ih h])
    (binFold := fun _ _ iha ihb h => by
      -- both operands are constants already: excluded
      obtain ⟨hn, ha, hb⟩ := noConstOp_binary_iff.1 h
      rw [← iha ha, ← ihb hb] at hn; cases hn)
    (binKeep := fun _ _ iha ihb _ h => by
      obtain ⟨_, ha, hb⟩ := noConstOp_binary_iff.1 h
      rw [iha ha, ihb hb])
    (lessFold := fun _ iha ihb _ _ h => by
      obtain ⟨hn, ha, hb, _⟩ := noConstOp_less_iff.1 h
      rw [← iha ha, ← ihb hb] at hn; cases hn)
    (lessKeep := fun _ iha ihb iht ihf _ h => by
      obtain ⟨_, ha, hb, ht, hf⟩ := noConstOp_less_iff.1 h
      rw [iha ha, ihb hb, iht ht, ihf hf])
    e h

theorem constFold_width (e : Expr) : (constFold e).width = e.width := by
  unfold constFold
  rw [purgeWidthGadgets_width, cfr_width]

theorem constFold_eval (ρ : Env) (e : Expr) (h : e.wf = true) :
    (constFold e).eval ρ = e.eval ρ := by
  unfold constFold
  rw [purgeWidthGadgets_eval, cfr_eval ρ e h]

theorem constFold_const (c : List UInt8) : constFold (.const c) = .const c := rfl

theorem constFold_closed (e : Expr) (h : e.closed = true) : (constFold e).isConst = true := by
  obtain ⟨bs, hbs⟩ := isConst_iff.1 (cfr_closed e h)
  rw [constFold, hbs]
  rfl

theorem constFold_closed_eq (ρ : Env) (e : Expr) (hc : e.closed = true) (hw : e.wf = true) :
    constFold e = .const (natToLE e.width (e.eval ρ)) := by
  obtain ⟨bs, hbs⟩ := isConst_iff.1 (constFold_closed e hc)
  have hlen : bs.length = e.width := by rw [← constFold_width e, hbs]; rfl
  have hev : leToNat bs = e.eval ρ := by rw [← constFold_eval ρ e hw, hbs]; rfl
  rw [hbs, ← hlen, ← hev, Bytes.natToLE_leToNat]

theorem possibilities_cover (ρ : Env) (e : Expr) :
    ∃ p ∈ possibilities e, p.eval ρ = e.eval ρ := by
  induction e with
  | const bs => exact ⟨_, by simp [possibilities], rfl⟩
  | regLoad k w => exact ⟨_, by simp [possibilities], rfl⟩
  | memLoad k a w iha =>
    obtain ⟨p, hp, he⟩ := iha
    refine ⟨.memLoad k p w, ?_, ?_⟩
    · simp only [possibilities, List.mem_map]
      exact ⟨p, hp, rfl⟩
    · simp only [Expr.eval, he]
  | binary op a b w iha ihb =>
    obtain ⟨p, hp, hpe⟩ := iha
    obtain ⟨q, hq, hqe⟩ := ihb
    refine ⟨.binary op p q w, ?_, ?_⟩
    · simp only [possibilities, List.mem_flatMap, List.mem_map]
      exact ⟨p, hp, q, hq, rfl⟩
    · simp only [Expr.eval, hpe, hqe]
  | less a b t f w _ _ iht ihf =>
    obtain ⟨p, hp, hpe⟩ := iht
    obtain ⟨q, hq, hqe⟩ := ihf
    by_cases hc : trunc w (a.eval ρ) < trunc w (b.eval ρ)
    · refine ⟨setWidth p w, ?_, ?_⟩
      · simp only [possibilities, List.mem_append, List.mem_map]
        exact Or.inl ⟨p, hp, rfl⟩
      · simp only [Expr.eval, if_pos hc, setWidth_eval, hpe]
    · refine ⟨setWidth q w, ?_, ?_⟩
      · simp only [possibilities, List.mem_append, List.mem_map]
        exact Or.inr ⟨q, hq, rfl⟩
      · simp only [Expr.eval, if_neg hc, setWidth_eval, hqe]

theorem possibilities_shape (e : Expr) :
    ∀ p ∈ possibilities e, p.width = e.width ∧ p.noLess = true := by
  induction e with
  | const bs =>
    intro p hp
    simp only [possibilities, List.mem_singleton] at hp
    subst hp; exact ⟨rfl, rfl⟩
  | regLoad k w =>
    intro p hp
    simp only [possibilities, List.mem_singleton] at hp
    subst hp; exact ⟨rfl, rfl⟩
  | memLoad k a w iha =>
    intro p hp
    simp only [possibilities, List.mem_map] at hp
    obtain ⟨q, hq, rfl⟩ := hp
    exact ⟨rfl, by simpa [Expr.noLess] using (iha q hq).2⟩
  | binary op a b w iha ihb =>
    intro p hp
    simp only [possibilities, List.mem_flatMap, List.mem_map] at hp
    obtain ⟨q, hq, r, hr, rfl⟩ := hp
    exact ⟨rfl, by simp [Expr.noLess, (iha q hq).2, (ihb r hr).2]⟩
  | less a b t f w _ _ iht ihf =>
    intro p hp
    simp only [possibilities, List.mem_append, List.mem_map] at hp
    rcases hp with ⟨q, hq, rfl⟩ | ⟨q, hq, rfl⟩
    · exact ⟨setWidth_width _ _, setWidth_noLess _ _ (iht q hq).2⟩
    · exact ⟨setWidth_width _ _, setWidth_noLess _ _ (ihf q hq).2⟩

end Mltwist.Lemmas.Transform

namespace Mltwist.Lemmas.RiscvLift
open Mltwist

/-- every load node `(key, address, width)` of the expression satisfies `P` -/
def AllNodes (P : String → Expr → Nat → Prop) : Expr → Prop
  | .const _ => True
  | .regLoad _ _ => True
  | .binary _ a b _ => AllNodes P a ∧ AllNodes P b
  | .less a b t f _ => AllNodes P a ∧ AllNodes P b ∧ AllNodes P t ∧ AllNodes P f
  | .memLoad k a w => P k a w ∧ AllNodes P a

def WFNodes (P : String → Expr → Nat → Prop) (e : Expr) : Prop := e.wf = true ∧ AllNodes P e

end Mltwist.Lemmas.RiscvLift

/-! The transformations keep `WFNodes P` for every `P` that sees the address of a load through its value only: constant
folding may drop load nodes and rewrite their addresses to expressions of the same value, it never invents or moves one.
With the trivial `P` this is well-formedness alone (`setWidth_wf`, `constFold_wf`). -/
namespace Mltwist.Lemmas.Transform
open Mltwist
open Mltwist.Lemmas.RiscvLift (WOK AllNodes WFNodes)

/-- a property of load nodes that sees the address through its value only -/
def ByValue (P : String → Expr → Nat → Prop) : Prop :=
  ∀ k a a' w, (∀ ρ, a.eval ρ = a'.eval ρ) → P k a w → P k a' w

variable {P : String → Expr → Nat → Prop}

theorem wfNodes_const_iff {bs : List UInt8} : WFNodes P (.const bs) ↔ WOK bs.length := by
  simp only [WFNodes, wf_const_iff, AllNodes, and_true]

theorem wfNodes_regLoad_iff {k : String} {w : Nat} : WFNodes P (.regLoad k w) ↔ WOK w := by
  simp only [WFNodes, wf_regLoad_iff, AllNodes, and_true]

theorem wfNodes_binary_iff {op : BinOp} {a b : Expr} {w : Nat} :
    WFNodes P (.binary op a b w) ↔ WOK w ∧ WFNodes P a ∧ WFNodes P b := by
  simp only [WFNodes, wf_binary_iff, AllNodes, and_assoc, and_left_comm]

theorem wfNodes_less_iff {a b t f : Expr} {w : Nat} :
    WFNodes P (.less a b t f w) ↔ WOK w ∧ WFNodes P a ∧ WFNodes P b ∧ WFNodes P t ∧ WFNodes P f := by
  simp only [WFNodes, wf_less_iff, AllNodes, and_assoc, and_left_comm]

theorem wfNodes_memLoad_iff {k : String} {a : Expr} {w : Nat} :
    WFNodes P (.memLoad k a w) ↔ WOK w ∧ P k a w ∧ WFNodes P a := by
  simp only [WFNodes, wf_memLoad_iff, AllNodes, and_assoc, and_left_comm]

theorem allNodes_of_forall (hP : ∀ k a w, P k a w) : ∀ e : Expr, AllNodes P e
  | .const _ | .regLoad _ _ => trivial
  | .binary _ a b _ => ⟨allNodes_of_forall hP a, allNodes_of_forall hP b⟩
  | .less a b t f _ => ⟨allNodes_of_forall hP a, allNodes_of_forall hP b, allNodes_of_forall hP t, allNodes_of_forall hP f⟩
  | .memLoad k a w => ⟨hP k a w, allNodes_of_forall hP a⟩

theorem wfNodes_setWidth {e : Expr} (h : WFNodes P e) {n : Nat} (hn : WOK n) : WFNodes P (setWidth e n) :=
  setWidth_rel (R := fun e e' => WFNodes P e → WFNodes P e') (same := fun _ h => h)
    (const := fun _ => by rw [wfNodes_const_iff, Bytes.natToLE_length]; exact hn)
    (narrow := fun _ _ => wfNodes_regLoad_iff.2 hn) (gadget := fun _ h => wfNodes_binary_iff.2 ⟨hn, h, wf_zero, trivial⟩) e h

theorem setWidth_wf {e : Expr} (h : e.wf = true) {n : Nat} (h1 : 1 ≤ n) (h2 : n ≤ 255) : (setWidth e n).wf = true :=
  (wfNodes_setWidth (P := fun _ _ _ => True) ⟨h, allNodes_of_forall (fun _ _ _ => trivial) e⟩ ⟨h1, h2⟩).1

theorem wfNodes_stripWhile (c : Nat → Nat → Bool) {e : Expr} : WFNodes P e → WFNodes P (stripWhile c e) :=
  stripWhile_rel (R := fun e' e => WFNodes P e → WFNodes P e') (fun _ h => h)
    (fun _ _ _ _ ih h => ih (wfNodes_binary_iff.1 h).2.1) e

theorem wfNodes_cfr (hP : ByValue P) (e : Expr) : WFNodes P e → WFNodes P (constFoldRaw e) :=
  cfr_rel (R := fun e e' => WFNodes P e → WFNodes P e') (const := fun _ h => h) (regLoad := fun _ _ h => h)
    (memLoad := fun k w ha ih h => by
      rw [wfNodes_memLoad_iff] at h ⊢
      exact ⟨h.1, hP k _ _ w (fun ρ => ha ▸ (cfr_eval ρ _ h.2.2.1).symm) h.2.1, ih h.2.2⟩)
    (binFold := fun _ _ _ _ h => by
      rw [wfNodes_const_iff, Lemmas.Expreval.binary_length]; exact (wfNodes_binary_iff.1 h).1)
    (binKeep := fun _ _ iha ihb _ h => by
      rw [wfNodes_binary_iff] at h ⊢; exact ⟨h.1, iha h.2.1, ihb h.2.2⟩)
    (lessFold := fun _ _ _ iht ihf h => by
      rw [wfNodes_less_iff] at h
      apply wfNodes_setWidth _ h.1
      split
      · exact iht h.2.2.2.1
      · exact ihf h.2.2.2.2)
    (lessKeep := fun _ iha ihb iht ihf _ h => by
      rw [wfNodes_less_iff] at h ⊢
      exact ⟨h.1, iha h.2.1, ihb h.2.2.1, iht h.2.2.2.1, ihf h.2.2.2.2⟩)
    e

theorem wfNodes_purge (hP : ByValue P) (e : Expr) : WFNodes P e → WFNodes P (purge e) := by
  induction e with
  | const bs => exact id
  | regLoad k w => exact id
  | memLoad k a w iha =>
    rw [purge, wfNodes_memLoad_iff, wfNodes_memLoad_iff]
    exact fun h => ⟨h.1, hP k a _ w (fun ρ => by rw [stripSame_eval, purge_eval]) h.2.1,
      stripSame_eq_stripWhile _ ▸ wfNodes_stripWhile _ (iha h.2.2)⟩
  | binary op a b w iha ihb =>
    simp only [purge, prune_eq_stripWhile, wfNodes_binary_iff]
    exact fun h => ⟨h.1, wfNodes_stripWhile _ (iha h.2.1), wfNodes_stripWhile _ (ihb h.2.2)⟩
  | less a b t f w iha ihb iht ihf =>
    simp only [purge, prune_eq_stripWhile, wfNodes_less_iff]
    exact fun h => ⟨h.1, wfNodes_stripWhile _ (iha h.2.1), wfNodes_stripWhile _ (ihb h.2.2.1),
      wfNodes_stripWhile _ (iht h.2.2.2.1), wfNodes_stripWhile _ (ihf h.2.2.2.2)⟩

theorem wfNodes_constFold (hP : ByValue P) {e : Expr} (h : WFNodes P e) : WFNodes P (constFold e) := by
  rw [constFold, purgeWidthGadgets, stripSame_eq_stripWhile]
  exact wfNodes_stripWhile _ (wfNodes_purge hP _ (wfNodes_cfr hP e h))

theorem constFold_wf (e : Expr) (h : e.wf = true) : (constFold e).wf = true :=
  (wfNodes_constFold (P := fun _ _ _ => True) (fun _ _ _ _ _ _ => trivial)
    ⟨h, allNodes_of_forall (fun _ _ _ => trivial) e⟩).1

theorem allNodes_constFold (hP : ByValue P) {e : Expr} (hw : e.wf = true) (h : AllNodes P e) :
    AllNodes P (constFold e) :=
  (wfNodes_constFold hP ⟨hw, h⟩).2

end Mltwist.Lemmas.Transform
