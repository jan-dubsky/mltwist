import Mltwist.Spec.Parse
import Mltwist.Lemmas.ElfMemory
import Mltwist.Lemmas.RiscvDecode
/-
C21: `parser.Parse` tiles the code image.  First for any platform decoder that honours the contract of
`parser.Parser` (`Honest`): the walk over a block that fits below `2^64` needs no more fuel than the block
has bytes, never wraps and never panics, and ends in the `Tiling` of the specification or in an error that
names the first bad position; the instructions of a tiling lie in their blocks, one behind the other.  Then
for the decoder `riscv.NewParser(Variant64, ExtM, ExtA)`: what it accepts is always a valid instruction of
four bytes, so the positions are `begin + 4k` and the tiling is `rvTile`, one instruction per word.
-/
namespace Mltwist.Lemmas.Parse

section Generic
open Mltwist Mltwist.Elf Mltwist.Parse Mltwist.Parse.Spec

variable {ε δ : Type}

theorem validate_iff (r : RawIns δ) : validate r = true ↔ Valid r := by
  unfold validate Valid typeMax
  simp only [Bool.and_eq_true, decide_eq_true_eq, List.all_eq_true]
  constructor
  · rintro ⟨⟨⟨h1, h2⟩, h3⟩, h4⟩
    refine ⟨h1, h2, ?_, ?_⟩
    · intro e he hn
      have := h3 e he
      rw [hn] at this; cases this
    · intro hn; rw [hn] at h4; cases h4
  · rintro ⟨h1, h2, h3, h4⟩
    refine ⟨⟨⟨h1, h2⟩, ?_⟩, ?_⟩
    · intro e he
      cases e with
      | none => exact absurd rfl (h3 none he)
      | some _ => rfl
    · cases hd : r.details with
      | none => exact absurd hd h4
      | some _ => rfl

/-! the clauses of `IsIns` by name -/
section
variable {r : RawIns δ} {a : Nat} {bs : List UInt8} {i j : Ins δ}

theorem _root_.Mltwist.Parse.Spec.IsIns.typ (h : IsIns r a bs i) : i.typ = r.typ := h.1
theorem _root_.Mltwist.Parse.Spec.IsIns.addr (h : IsIns r a bs i) : i.addr = a := h.2.1
theorem _root_.Mltwist.Parse.Spec.IsIns.bytes (h : IsIns r a bs i) : i.bytes = bs.take r.byteLen := h.2.2.1
theorem _root_.Mltwist.Parse.Spec.IsIns.effects (h : IsIns r a bs i) :
    i.effects = (r.effects.filterMap id).map (Effect.apply constFold) := h.2.2.2.1
theorem _root_.Mltwist.Parse.Spec.IsIns.details (h : IsIns r a bs i) : r.details = some i.details := h.2.2.2.2

theorem newInstruction_isIns (r : RawIns δ) (d : δ) (a : Nat) (bs : List UInt8) (hd : r.details = some d) :
    IsIns r a bs (newInstruction r d a bs) :=
  ⟨rfl, rfl, rfl, rfl, hd⟩

theorem isIns_unique (hi : IsIns r a bs i) (hj : IsIns r a bs j) : i = j := by
  cases i; cases j
  simp only [Ins.mk.injEq]
  exact ⟨hi.typ.trans hj.typ.symm, hi.addr.trans hj.addr.symm, hi.bytes.trans hj.bytes.symm,
    hi.effects.trans hj.effects.symm, Option.some.inj (hi.details.symm.trans hj.details)⟩

theorem isIns_length (h : IsIns r a bs i) (hle : r.byteLen ≤ bs.length) : i.bytes.length = r.byteLen := by
  rw [h.bytes, List.length_take]
  omega
end

/-- `f` is one of the two errors `Parse` reports for a position: the decoder's error or an improper instruction -/
abbrev ReportedAt (f : Fail ε) (pos : Nat) : Prop := (∃ e, f = .parse pos e) ∨ f = .invalid pos

theorem parseIns_spec (dec : Decoder ε δ) (hh : Honest dec) (b : Block) (hf : b.1 + b.2.length < 2 ^ 64)
    (off : Nat) (ho : off < b.2.length) :
    (Bad dec (b.1 + off) (b.2.drop off) ∧ ∃ f, parseIns dec b (b.1 + off) = .error f ∧
      ReportedAt f (b.1 + off)) ∨
    (∃ r ins, dec (b.1 + off) (b.2.drop off) = .ok r ∧ Valid r ∧ parseIns dec b (b.1 + off) = .ok ins ∧
      IsIns r (b.1 + off) (b.2.drop off) ins) := by
  have hc : Spec.Covers b (b.1 + off) := ⟨Nat.le_add_right _ _, by omega⟩
  have hba : blockAddress b (b.1 + off) = .ok (some (b.2.drop off)) := by
    rw [Lemmas.Elf.blockAddress_of_fits b hf, if_pos hc]
    simp
  unfold parseIns Bad
  rw [hba]
  simp only [Option.getD_some]
  cases hd : dec (b.1 + off) (b.2.drop off) with
  | error e => exact Or.inl ⟨trivial, _, rfl, Or.inl ⟨e, rfl⟩⟩
  | ok r =>
    simp only
    by_cases hv : validate r = true
    · have hV := (validate_iff r).1 hv
      rw [hv]
      simp only [Bool.not_true, Bool.false_eq_true, if_false]
      cases hdet : r.details with
      | none => exact absurd hdet hV.2.2.2
      | some d =>
        have hle := hh _ _ _ hd
        simp only
        rw [if_neg (by omega)]
        exact Or.inr ⟨r, _, rfl, hV, rfl, newInstruction_isIns r d _ _ hdet⟩
    · have hv' : validate r = false := by simpa using hv
      rw [hv']
      exact Or.inl ⟨fun hV => hv ((validate_iff r).2 hV), _, rfl, Or.inr rfl⟩

theorem parseLoop_spec (dec : Decoder ε δ) (hh : Honest dec) (b : Block) (hf : b.1 + b.2.length < 2 ^ 64) :
    ∀ (fuel off : Nat), off ≤ b.2.length → b.2.length - off ≤ fuel →
      (∃ is, parseLoop dec b fuel (b.1 + off) = .ok is ∧ Tiling dec (b.1 + off) (b.2.drop off) is) ∨
      (∃ pos f, Stuck dec (b.1 + off) (b.2.drop off) pos ∧ parseLoop dec b fuel (b.1 + off) = .error f ∧
        ReportedAt f pos) := by
  have hbend : bend b = b.1 + b.2.length := Lemmas.Elf.bend_of_fits hf
  have hdone : ∀ fuel, ∃ is, parseLoop dec b fuel (b.1 + b.2.length) = .ok is ∧
      Tiling dec (b.1 + b.2.length) (b.2.drop b.2.length) is := fun fuel => by
    refine ⟨[], ?_, by rw [List.drop_length]; exact Tiling.done _⟩
    cases fuel <;> (unfold parseLoop; rw [hbend, if_neg (Nat.lt_irrefl _)])
  intro fuel
  induction fuel with
  | zero =>
    intro off ho hfu
    obtain rfl : off = b.2.length := by omega
    exact Or.inl (hdone 0)
  | succ fuel ih =>
    intro off ho hfu
    rcases Nat.lt_or_eq_of_le ho with hlt | rfl
    · have hne : b.2.drop off ≠ [] := fun h => Nat.not_le_of_lt hlt (List.drop_eq_nil_iff.1 h)
      unfold parseLoop
      rw [hbend, if_pos (by omega)]
      rcases parseIns_spec dec hh b hf off hlt with ⟨hbad, f, he, hf'⟩ | ⟨r, ins, hd, hv, hok, hins⟩
      · rw [he]
        exact Or.inr ⟨b.1 + off, f, Stuck.here _ _ hne hbad, rfl, hf'⟩
      · have hle := hh _ _ _ hd
        have hlen := isIns_length hins hle
        simp only [List.length_drop] at hle
        have h1 : 1 ≤ r.byteLen := Nat.one_le_iff_ne_zero.2 hv.2.1
        -- `addr += ins.Len()` does not wrap: the instruction lies inside the block
        have hnext : (b.1 + off + ins.bytes.length) % M = b.1 + (off + r.byteLen) := by
          rw [hlen]
          unfold M
          rw [Nat.mod_eq_of_lt (by omega)]
          omega
        rw [hok]
        simp only
        rw [hnext]
        rcases ih (off + r.byteLen) (by omega) (by omega) with ⟨is, hok', ht⟩ | ⟨pos, f, hs, he, hf'⟩
        · rw [hok']
          refine Or.inl ⟨ins :: is, rfl, Tiling.step _ _ r ins is hne hd hv (by simp only [List.length_drop]; omega) hins ?_⟩
          rw [List.drop_drop, Nat.add_assoc]
          exact ht
        · rw [he]
          refine Or.inr ⟨pos, f, Stuck.later _ _ r pos hne hd hv (by simp only [List.length_drop]; omega) ?_, rfl, hf'⟩
          rw [List.drop_drop, Nat.add_assoc]
          exact hs
    · exact Or.inl (hdone _)

theorem tiling_unique (dec : Decoder ε δ) {a : Nat} {bytes : List UInt8} {is js : List (Ins δ)}
    (h1 : Tiling dec a bytes is) (h2 : Tiling dec a bytes js) : is = js := by
  induction h1 generalizing js with
  | done a => cases h2 with
    | done => rfl
    | step _ _ _ _ _ hne => exact absurd rfl hne
  | step a bytes r ins rest hne hd hv hle hins _ ih =>
    cases h2 with
    | done => exact absurd rfl hne
    | step _ _ r' ins' rest' _ hd' _ _ hins' ht' =>
      rw [hd] at hd'
      cases hd'
      rw [isIns_unique hins hins', ih ht']

theorem tiling_not_stuck (dec : Decoder ε δ) {a : Nat} {bytes : List UInt8} {is : List (Ins δ)} {pos : Nat}
    (h1 : Tiling dec a bytes is) (h2 : Stuck dec a bytes pos) : False := by
  induction h1 generalizing pos with
  | done a => cases h2 with
    | here _ _ hne => exact hne rfl
    | later _ _ _ _ hne => exact hne rfl
  | step a bytes r ins rest hne hd hv hle hins _ ih =>
    cases h2 with
    | here _ _ _ hb =>
      unfold Bad at hb
      rw [hd] at hb
      exact hb hv
    | later _ _ r' _ _ hd' _ _ hs =>
      rw [hd] at hd'
      cases hd'
      exact ih hs

theorem parse_spec (dec : Decoder ε δ) (hh : Honest dec) :
    ∀ bs : List Block, Elf.Spec.Fits bs →
      (∃ is, parse dec bs = .ok is ∧ TilingAll dec bs is) ∨
      (∃ b ∈ bs, ∃ pos f, Stuck dec b.1 b.2 pos ∧ parse dec bs = .error f ∧
        ReportedAt f pos)
  | [], _ => Or.inl ⟨[], rfl, TilingAll.nil⟩
  | b :: bs, hf => by
    have hb := parseLoop_spec dec hh b (hf b (by simp)) b.2.length 0 (Nat.zero_le _) (by omega)
    simp only [Nat.add_zero, List.drop_zero] at hb
    unfold parse
    rcases hb with ⟨is, hok, ht⟩ | ⟨pos, f, hs, he, hf'⟩
    · rw [hok]
      simp only
      rcases parse_spec dec hh bs (fun x hx => hf x (List.mem_cons_of_mem _ hx)) with
        ⟨rest, hok', ht'⟩ | ⟨x, hx, pos, f, hs, he, hf'⟩
      · rw [hok']
        exact Or.inl ⟨is ++ rest, rfl, TilingAll.cons b bs is rest ht ht'⟩
      · rw [he]
        exact Or.inr ⟨x, List.mem_cons_of_mem _ hx, pos, f, hs, rfl, hf'⟩
    · rw [he]
      exact Or.inr ⟨b, by simp, pos, f, hs, rfl, hf'⟩

theorem tilingAll_unique (dec : Decoder ε δ) {bs : List Block} {is js : List (Ins δ)}
    (h1 : TilingAll dec bs is) (h2 : TilingAll dec bs js) : is = js := by
  induction h1 generalizing js with
  | nil => cases h2; rfl
  | cons b bs is rest ht _ ih =>
    cases h2 with
    | cons _ _ is' rest' ht' hr' =>
      rw [tiling_unique dec ht ht', ih hr']

theorem tilingAll_not_stuck (dec : Decoder ε δ) {bs : List Block} {is : List (Ins δ)}
    (h1 : TilingAll dec bs is) {b : Block} (hb : b ∈ bs) {pos : Nat} (hs : Stuck dec b.1 b.2 pos) : False := by
  induction h1 with
  | nil => cases hb
  | cons c cs is rest ht _ ih =>
    rcases List.mem_cons.1 hb with rfl | hb
    · exact tiling_not_stuck dec ht hs
    · exact ih hb

/-- each instruction is as long as some accepted answer of the decoder says (for the decoder at hand: four bytes) -/
theorem tiling_layout {dec : Decoder ε δ} {a : Nat} {bytes : List UInt8} {is : List (Ins δ)}
    (h : Tiling dec a bytes is) :
    (∀ i ∈ is, (∃ a' bs' r, dec a' bs' = .ok r ∧ Valid r ∧ i.bytes.length = r.byteLen) ∧ a ≤ i.addr ∧
      i.addr + i.bytes.length ≤ a + bytes.length) ∧
    is.Pairwise fun x y => x.addr + x.bytes.length ≤ y.addr := by
  induction h with
  | done a => exact ⟨nofun, .nil⟩
  | step a bytes r ins rest hne hd hv hle hins _ ih =>
    have hl := isIns_length hins hle
    have i2 := hins.addr
    obtain ⟨ih1, ih2⟩ := ih
    simp only [List.length_drop] at ih1
    refine ⟨?_, List.Pairwise.cons (fun y hy => by have := (ih1 y hy).2.1; omega) ih2⟩
    intro i hi
    rcases List.mem_cons.1 hi with rfl | hi
    · exact ⟨⟨a, bytes, r, hd, hv, hl⟩, by omega, by omega⟩
    · obtain ⟨g1, g2, g3⟩ := ih1 i hi
      exact ⟨g1, by omega, by omega⟩

/-- stated with the block an instruction lies in, for the induction: the instructions of later blocks lie behind
those of the first because their blocks do -/
theorem tilingAll_layout {dec : Decoder ε δ} {bs : List Block} {is : List (Ins δ)} (h : TilingAll dec bs is)
    (ht : Elf.Spec.Tidy bs) :
    (∀ i ∈ is, (∃ a' bs' r, dec a' bs' = .ok r ∧ Valid r ∧ i.bytes.length = r.byteLen) ∧
      i.addr + i.bytes.length < 2 ^ 64 ∧ ∃ b ∈ bs, b.1 ≤ i.addr ∧ i.addr + i.bytes.length ≤ b.1 + b.2.length) ∧
    is.Pairwise fun x y => x.addr + x.bytes.length ≤ y.addr := by
  induction h with
  | nil => exact ⟨nofun, .nil⟩
  | cons b bs is rest hb _ ih =>
    obtain ⟨hb1, hb2⟩ := tiling_layout hb
    have hsorted := List.pairwise_cons.1 ht.2
    obtain ⟨ih1, ih2⟩ := ih ⟨fun x hx => ht.1 x (List.mem_cons_of_mem _ hx), hsorted.2⟩
    have hbf := ht.1 b (List.mem_cons_self ..)
    refine ⟨fun i hi => ?_, List.pairwise_append.2 ⟨hb2, ih2, fun x hx y hy => ?_⟩⟩
    · rcases List.mem_append.1 hi with hi | hi
      · obtain ⟨g1, g2, g3⟩ := hb1 i hi
        exact ⟨g1, by omega, b, List.mem_cons_self .., g2, g3⟩
      · obtain ⟨g1, g2, b', hb', g3⟩ := ih1 i hi
        exact ⟨g1, g2, b', List.mem_cons_of_mem _ hb', g3⟩
    · obtain ⟨_, _, b', hb', g4, _⟩ := ih1 y hy
      have := hsorted.1 b' hb'
      have := (hb1 x hx).2.2
      omega

end Generic

open Mltwist Mltwist.Elf Mltwist.Parse Mltwist.Parse.Spec Mltwist.Riscv

/-- the instruction types of the regenerated RV64IMA table are proper (`typeMax` is 8) -/
theorem rv64_types : (rv64Table.all fun e => decide (e.typ < 8)) = true := by decide +kernel

/-- `RiscvDecode.rv64Facts` under the model's name of the table: rewrites below need `rv64Table` verbatim -/
theorem rv64Facts : Lemmas.RiscvDecode.TableFacts rv64Table (Spec.Rv.rows 64 true true) :=
  Lemmas.RiscvDecode.rv64Facts

theorem rvDecoder_ok {tbl : List Entry} {a : Nat} {bytes : List UInt8} {r : RawIns (Entry × Ins)}
    (h : rvDecoder tbl a bytes = .ok r) :
    r.byteLen = 4 ∧ 4 ≤ bytes.length ∧ ∃ e, e ∈ tbl ∧ Riscv.parse tbl a bytes = .ok e ⟨a, wordOf bytes⟩ ∧
      r.typ = e.typ ∧ r.effects = (e.validEffects ⟨a, wordOf bytes⟩).map some ∧
      r.details = some (e, ⟨a, wordOf bytes⟩) := by
  unfold rvDecoder at h
  rcases Lemmas.RiscvDecode.parse_cases tbl a bytes with ⟨_, hp⟩ | ⟨h4, hp | ⟨e, he, hp⟩⟩
  all_goals rw [hp] at h
  all_goals cases h
  exact ⟨rfl, h4, e, he, hp, rfl, rfl, rfl⟩

theorem rv_valid {a : Nat} {bytes : List UInt8} {r : RawIns (Entry × Ins)}
    (h : rvDecoder rv64Table a bytes = .ok r) : Valid r := by
  obtain ⟨hl, _, e, he, _, ht, hef, hdt⟩ := rvDecoder_ok h
  refine ⟨?_, by simp [hl], ?_, by simp [hdt]⟩
  · have := List.all_eq_true.1 rv64_types e he
    simpa [ht] using this
  · intro x hx
    obtain ⟨y, _, rfl⟩ := List.mem_map.1 (hef ▸ hx)
    simp

theorem rv_bad_iff (a : Nat) (bytes : List UInt8) :
    Bad (rvDecoder rv64Table) a bytes ↔
      bytes.length < 4 ∨ Spec.Rv.decode 64 true true (wordOf bytes) = none := by
  unfold Bad
  rcases Lemmas.RiscvDecode.parse_cases rv64Table a bytes with ⟨hl, hp⟩ | ⟨h4, hp | ⟨e, he, hp⟩⟩
  · simp [rvDecoder, hp, hl]
  · simp only [rvDecoder, hp, true_iff]
    exact Or.inr ((Lemmas.RiscvDecode.parse_unknown_gen rv64Facts a bytes h4).1 hp)
  · obtain ⟨r, hd⟩ : ∃ r, rvDecoder rv64Table a bytes = .ok r := ⟨_, by unfold rvDecoder; rw [hp]⟩
    simp only [hd]
    refine iff_of_false (fun hnv => hnv (rv_valid hd)) ?_
    rintro (h | h)
    · omega
    · have := (Lemmas.RiscvDecode.parse_unknown_gen rv64Facts a bytes h4).2 h
      rw [this] at hp
      cases hp

theorem rvBadAt_zero (bytes : List UInt8) (hne : bytes ≠ []) (a : Nat) :
    RvBadAt bytes 0 ↔ Bad (rvDecoder rv64Table) a bytes := by
  rw [rv_bad_iff]
  unfold RvBadAt
  have : 0 < bytes.length := List.length_pos_iff.2 hne
  simp only [Nat.mul_zero, Nat.zero_add, List.drop_zero]
  constructor
  · rintro ⟨_, h⟩; exact h
  · intro h; exact ⟨this, h⟩

theorem rvBadAt_succ (bytes : List UInt8) (k : Nat) :
    RvBadAt bytes (k + 1) ↔ RvBadAt (bytes.drop 4) k := by
  unfold RvBadAt
  rw [List.drop_drop, List.length_drop, show 4 * (k + 1) = 4 + 4 * k by omega]
  exact and_congr (by omega) (or_congr (by omega) Iff.rfl)

theorem stuck_rv_bad {a : Nat} {bytes : List UInt8} {pos : Nat}
    (h : Stuck (rvDecoder rv64Table) a bytes pos) : ∃ k, RvBadAt bytes k ∧ pos = a + 4 * k := by
  induction h with
  | here a bytes hne hb => exact ⟨0, (rvBadAt_zero bytes hne a).2 hb, rfl⟩
  | later a bytes r pos hne hd hv hle _ ih =>
    obtain ⟨k, hk, hp⟩ := ih
    rw [(rvDecoder_ok hd).1] at hk hp
    exact ⟨k + 1, (rvBadAt_succ bytes k).2 hk, by omega⟩

theorem bad_rv_stuck : ∀ (k : Nat) (a : Nat) (bytes : List UInt8), RvBadAt bytes k →
    ∃ pos, Stuck (rvDecoder rv64Table) a bytes pos := by
  have hne : ∀ {k bytes}, RvBadAt bytes k → bytes ≠ [] := by
    intro k bytes hk h; subst h; unfold RvBadAt at hk; simp at hk
  intro k
  induction k with
  | zero =>
    intro a bytes hk
    exact ⟨a, Stuck.here _ _ (hne hk) ((rvBadAt_zero bytes (hne hk) a).1 hk)⟩
  | succ k ih =>
    intro a bytes hk
    have hne := hne hk
    cases hd : rvDecoder rv64Table a bytes with
    | error e => exact ⟨a, Stuck.here _ _ hne (by unfold Bad; rw [hd]; trivial)⟩
    | ok r =>
      have hv := rv_valid hd
      obtain ⟨hbl, h4, _⟩ := rvDecoder_ok hd
      obtain ⟨pos, hs⟩ := ih (a + 4) (bytes.drop 4) ((rvBadAt_succ bytes k).1 hk)
      refine ⟨pos, Stuck.later _ _ r pos hne hd hv (by omega) ?_⟩
      rw [hbl]; exact hs

theorem filterMap_id_map_some {α : Type} (l : List α) : (l.map some).filterMap id = l := by
  rw [List.filterMap_map]
  exact List.filterMap_some

theorem rvTile_of_le (tbl : List Entry) (a : Nat) {bytes : List UInt8} (h : 4 ≤ bytes.length) :
    rvTile tbl a bytes = (rvIns tbl a (bytes.take 4)).toList ++ rvTile tbl (a + 4) (bytes.drop 4) :=
  match bytes, h with
  | _ :: _ :: _ :: _ :: _, _ => rfl

theorem rvIns_of_step {a : Nat} {bytes : List UInt8} {r : RawIns (Entry × Ins)} {ins : Parse.Ins (Entry × Ins)}
    (hd : rvDecoder rv64Table a bytes = .ok r) (hins : IsIns r a bytes ins) :
    r.byteLen = 4 ∧ 4 ≤ bytes.length ∧ rvIns rv64Table a (bytes.take 4) = some ins := by
  obtain ⟨hbl, h4, e, _, hp, ht, hef, hdt⟩ := rvDecoder_ok hd
  refine ⟨hbl, h4, ?_⟩
  have htr : Riscv.parse rv64Table a bytes = Riscv.parse rv64Table a (bytes.take 4) :=
    Lemmas.RiscvDecode.parse_trailing_gen _ rv64Facts.shaped a bytes h4
  unfold rvIns
  rw [← htr, hp]
  rw [isIns_unique hins (newInstruction_isIns _ _ a bytes hdt)]
  simp only [newInstruction, ht, hbl, hef, filterMap_id_map_some]

theorem tiling_rv {a : Nat} {bytes : List UInt8} {is : List (Parse.Ins (Entry × Ins))}
    (h : Tiling (rvDecoder rv64Table) a bytes is) :
    is = rvTile rv64Table a bytes ∧ bytes.length % 4 = 0 := by
  induction h with
  | done a => exact ⟨rfl, rfl⟩
  | step a bytes r ins rest hne hd hv hle hins _ ih =>
    obtain ⟨hbl, h4, hi⟩ := rvIns_of_step hd hins
    rw [hbl, List.length_drop] at ih
    rw [rvTile_of_le _ _ h4, hi, ← ih.1]
    exact ⟨rfl, by omega⟩

theorem tilingAll_rv {bs : List Block} {is : List (Parse.Ins (Entry × Ins))}
    (h : TilingAll (rvDecoder rv64Table) bs is) :
    is = bs.flatMap (fun b => rvTile rv64Table b.1 b.2) ∧ ∀ b ∈ bs, b.2.length % 4 = 0 := by
  induction h with
  | nil => exact ⟨rfl, nofun⟩
  | cons b bs is rest hb _ ih =>
    obtain ⟨h1, h2⟩ := tiling_rv hb
    exact ⟨by rw [List.flatMap_cons, h1, ih.1], List.forall_mem_cons.2 ⟨h2, ih.2⟩⟩

theorem rvTile_getElem (tbl : List Entry) : ∀ (a : Nat) (bytes : List UInt8),
    (∀ j, 4 * j + 4 ≤ bytes.length → (rvIns tbl (a + 4 * j) ((bytes.drop (4 * j)).take 4)).isSome) →
    (rvTile tbl a bytes).length = bytes.length / 4 ∧
    ∀ k, 4 * k + 4 ≤ bytes.length →
      (rvTile tbl a bytes)[k]? = rvIns tbl (a + 4 * k) ((bytes.drop (4 * k)).take 4)
  | a, b0 :: b1 :: b2 :: b3 :: tl, hall => by
    have h0 := hall 0 (by simp)
    simp only [Nat.mul_zero, Nat.add_zero, List.drop_zero, List.take_succ_cons, List.take_zero] at h0
    obtain ⟨i0, hi0⟩ := Option.isSome_iff_exists.1 h0
    obtain ⟨ihl, ihe⟩ := rvTile_getElem tbl (a + 4) tl fun j hj => by
      have := hall (j + 1) (by simp only [List.length_cons]; omega)
      rw [show 4 * (j + 1) = 4 * j + 4 by omega] at this
      simp only [List.drop_succ_cons] at this
      rw [show a + (4 * j + 4) = a + 4 + 4 * j by omega] at this
      exact this
    unfold rvTile
    rw [hi0]
    simp only [Option.toList_some, List.singleton_append, List.length_cons]
    refine ⟨by rw [ihl]; omega, fun k hk => ?_⟩
    cases k with
    | zero =>
      simp only [Nat.mul_zero, Nat.add_zero, List.drop_zero, List.take_succ_cons, List.take_zero,
        List.getElem?_cons_zero]
      exact hi0.symm
    | succ k =>
      rw [List.getElem?_cons_succ, ihe k (by omega), show 4 * (k + 1) = 4 * k + 4 by omega]
      simp only [List.drop_succ_cons]
      rw [show a + (4 * k + 4) = a + 4 + 4 * k by omega]
  | _, [], _ => ⟨rfl, fun k hk => by simp at hk⟩
  | _, [_], _ => ⟨by simp [rvTile], fun k hk => by simp at hk⟩
  | _, [_, _], _ => ⟨by simp [rvTile], fun k hk => by simp at hk⟩
  | _, [_, _, _], _ => ⟨by simp [rvTile], fun k hk => by simp at hk⟩

end Mltwist.Lemmas.Parse
