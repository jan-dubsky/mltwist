import Mltwist.Model.Exprtools
import Mltwist.Spec.Gadgets
import Mltwist.Lemmas.EvalBasic
/-
C11: each gadget of `exprtools` evaluates to its documented function (`Spec/Gadgets.lean`), one `eval_<gadget>` per gadget
(`not`, `leu`, `les`: in `Props/C11.lean`, from `eval_zeroTest`, `eval_eq`, `eval_lts`).
The arithmetic on numbers is in `EvalBasic`; here the gadgets are unfolded and their `trunc`s stripped.
Where a gadget builds a shift amount (`signBitMask`, `bitMaskRaw`, hence `intNegative`, `abs`, `lts`, `rshA`, `maskBits`, the
signed operations) the amount `8 * w - 1` or the bit count is a TWO-byte constant (`constUint … 2`), cut to `w` bytes by the
shift (`trunc_eval_amount`): it must be below `2^16`, which is where the hypothesis `w ≤ 255` of these lemmas comes from (it
is also the range of Go's `expr.Width`).
-/
namespace Mltwist.Lemmas.Gadgets
open Mltwist Mltwist.Lemmas.EvalBasic
open Mltwist.Lemmas.RiscvLift (WOK)
open Mltwist.Lemmas.Bytes (trunc_lt' trunc_of_lt trunc_trunc trunc_zero trunc_one trunc_ones leToNat_natToLE)

@[simp] theorem eval_constUint (ρ : Env) (v w : Nat) :
    (Tools.constUint v w).eval ρ = v % 2 ^ (8 * w) := by
  simp [Tools.constUint, Expr.eval, leToNat_natToLE]

@[simp] theorem width_constUint (v w : Nat) : (Tools.constUint v w).width = w := by
  simp [Tools.constUint, Expr.width]

theorem trunc_eval_amount (ρ : Env) {c w : Nat} (hc : c ≤ 8 * w) (hw : WOK w) :
    trunc w ((Tools.constUint c 2).eval ρ) = c :=
  trunc_eval_const ρ (Nat.lt_of_le_of_lt hc hw.bits_lt_two_pow16) (Nat.lt_of_le_of_lt hc Nat.lt_two_pow_self)

theorem eval_ones (ρ : Env) (w : Nat) :
    (Tools.ones w).eval ρ = Spec.ones w := by
  simp [Tools.ones, evalBin_nand, nandW_zero_zero, Spec.ones, Spec.M]

theorem eval_bitNot (ρ : Env) (e : Expr) (w : Nat) :
    (Tools.bitNot e w).eval ρ = Spec.bnot w (e.eval ρ) := by
  simp only [Tools.bitNot, eval_binary, evalBin_nand, eval_ones, Spec.ones, Spec.M, trunc_ones, Spec.bnot]
  exact nandW_ones (trunc_lt' _ _)

theorem eval_bitAnd (ρ : Env) (a b : Expr) (w : Nat) :
    (Tools.bitAnd a b w).eval ρ = Spec.band w (a.eval ρ) (b.eval ρ) := by
  simp only [Tools.bitAnd, eval_bitNot, Spec.bnot, eval_binary, evalBin_nand, Spec.M, Spec.band]
  rw [trunc_of_lt (nandW_lt _ _ _), cpl_nandW _ (trunc_lt' _ _)]

theorem eval_bitOr (ρ : Env) (a b : Expr) (w : Nat) :
    (Tools.bitOr a b w).eval ρ = Spec.bor w (a.eval ρ) (b.eval ρ) := by
  have hM := Nat.two_pow_pos (8 * w)
  simp only [Tools.bitOr, eval_bitNot, Spec.bnot, eval_binary, evalBin_nand, Spec.M, Spec.bor]
  have ha := trunc_lt' w (a.eval ρ)
  have hb := trunc_lt' w (b.eval ρ)
  rw [trunc_of_lt (x := _ - _ - trunc w (a.eval ρ)) (by omega),
    trunc_of_lt (x := _ - _ - trunc w (b.eval ρ)) (by omega), nandW_cpl_cpl ha hb]

theorem eval_bitXor (ρ : Env) (a b : Expr) (w : Nat) :
    (Tools.bitXor a b w).eval ρ = Spec.bxor w (a.eval ρ) (b.eval ρ) := by
  simp only [Tools.bitXor, eval_binary, evalBin_nand, Spec.bxor]
  rw [trunc_of_lt (nandW_lt _ _ _), trunc_of_lt (nandW_lt _ _ _), trunc_of_lt (nandW_lt _ _ _),
    nandW_xor (trunc_lt' _ _) (trunc_lt' _ _)]

theorem eval_widthGadget (ρ : Env) (e : Expr) (w : Nat) :
    (newWidthGadget e w).eval ρ = trunc w (e.eval ρ) :=
  eval_add_zero ρ e w

theorem eval_boolCond (ρ : Env) (c t f : Expr) (w : Nat) :
    (Tools.boolCond c t f w).eval ρ =
      if trunc w (c.eval ρ) ≠ 0 then trunc w (t.eval ρ) else trunc w (f.eval ρ) := by
  simp only [Tools.boolCond, eval_less, eval_zero, trunc_zero, Nat.pos_iff_ne_zero]

/-- the test `e < 1` at `e`'s own width, cut to one byte: the shape of `bool` and `not` -/
theorem eval_zeroTest (ρ : Env) (e t f : Expr) (he : 1 ≤ e.width) :
    (newWidthGadget (.less e Expr.one t f e.width) 1).eval ρ =
      if e.eval ρ = 0 then trunc 1 (trunc e.width (t.eval ρ)) else trunc 1 (trunc e.width (f.eval ρ)) := by
  simp only [eval_widthGadget, eval_less, eval_one, trunc_one he, trunc_eval_width, Nat.lt_one_iff]
  by_cases h : e.eval ρ = 0
  · rw [if_pos h, if_pos h]
  · rw [if_neg h, if_neg h]

theorem eval_bool (ρ : Env) (e : Expr) (he : 1 ≤ e.width) :
    (Tools.bool e).eval ρ = if e.eval ρ = 0 then 0 else 1 := by
  rw [Tools.bool, eval_zeroTest ρ e _ _ he]
  simp only [eval_zero, eval_one, trunc_zero, trunc_one he, trunc_one (Nat.le_refl 1)]

theorem eval_negate (ρ : Env) (e : Expr) (w : Nat) :
    (Tools.negate e w).eval ρ = Spec.neg w (e.eval ρ) := by
  have hM := Nat.two_pow_pos (8 * w)
  have hx := trunc_lt' w (e.eval ρ)
  simp only [Tools.negate, eval_binary, evalBin_add, eval_bitNot, Spec.bnot, Spec.M, eval_one]
  rw [trunc_of_lt (x := _ - _ - _) (by omega), neg_eq]
  -- `trunc w 1` is `1 % 2^(8w)`, which is 0 at width 0
  show (_ + 1 % _) % _ = _
  rw [Nat.add_mod_mod,
    show 2 ^ (8 * w) - 1 - trunc w (e.eval ρ) + 1 = 2 ^ (8 * w) - trunc w (e.eval ρ) by omega]
  split
  · next h => rw [h, Nat.sub_zero, Nat.mod_self]
  · exact Nat.mod_eq_of_lt (by omega)

theorem eval_sub (ρ : Env) (a b : Expr) (w : Nat) :
    (Tools.sub a b w).eval ρ = Spec.sub w (trunc w (a.eval ρ)) (trunc w (b.eval ρ)) := by
  simp only [Tools.sub, eval_binary, evalBin_add, eval_negate]
  rw [trunc_of_lt (x := Spec.neg w _) (ofInt_lt _ _)]
  -- adding the two's complement of `b` is subtracting `b`, modulo `2^(8w)`
  refine (TwosComplement.add_wrap_mod (8 * w) _ _).trans (TwosComplement.wrap_congr ?_)
  rw [← Int.sub_eq_add_neg, trunc, trunc, Int.natCast_emod (b.eval ρ), Int.sub_emod_emod]

theorem eval_eq (ρ : Env) (a b t f : Expr) (w : Nat) (hw : 1 ≤ w) :
    (Tools.eq a b t f w).eval ρ =
      if trunc w (a.eval ρ) = trunc w (b.eval ρ) then trunc w (t.eval ρ) else trunc w (f.eval ρ) := by
  have ha := trunc_lt' w (a.eval ρ)
  have hb := trunc_lt' w (b.eval ρ)
  simp only [Tools.eq, eval_less, eval_sub, eval_one, trunc_one hw]
  rw [sub_eq ha hb, trunc_of_lt (x := ite _ _ _) (by split <;> omega)]
  have : (if trunc w (b.eval ρ) ≤ trunc w (a.eval ρ) then trunc w (a.eval ρ) - trunc w (b.eval ρ)
      else trunc w (a.eval ρ) + 2 ^ (8 * w) - trunc w (b.eval ρ)) < 1
      ↔ trunc w (a.eval ρ) = trunc w (b.eval ρ) := by
    split <;> omega
  simp only [this]

theorem eval_mod (ρ : Env) (a b : Expr) (w : Nat) :
    (Tools.mod a b w).eval ρ = Spec.umod w (a.eval ρ) (b.eval ρ) := by
  have hM := Nat.two_pow_pos (8 * w)
  have ha := trunc_lt' w (a.eval ρ)
  have hb := trunc_lt' w (b.eval ρ)
  simp only [Tools.mod, eval_sub, eval_binary, evalBin_div, evalBin_mul, Spec.umod]
  by_cases h0 : trunc w (b.eval ρ) = 0
  · simp only [h0, if_true, Nat.mul_zero, Nat.zero_mod, trunc_zero]
    rw [sub_of_le (Nat.zero_le _) ha, Nat.sub_zero]
  · simp only [h0, if_false]
    have hdiv : trunc w (a.eval ρ) / trunc w (b.eval ρ) * trunc w (b.eval ρ) ≤ trunc w (a.eval ρ) :=
      Nat.div_mul_le_self _ _
    have hdm := Nat.div_add_mod (trunc w (a.eval ρ)) (trunc w (b.eval ρ))
    have hle : trunc w (a.eval ρ) / trunc w (b.eval ρ) ≤ trunc w (a.eval ρ) := Nat.div_le_self _ _
    rw [trunc_of_lt (x := _ / _) (by omega), Nat.mod_eq_of_lt (by omega),
      trunc_of_lt (x := _ * _) (by omega), sub_of_le hdiv ha]
    rw [Nat.mul_comm] at hdm
    omega

theorem width_signBitMask (w : Nat) : (Tools.signBitMask w).width = w := by
  simp only [Tools.signBitMask]
  split
  · exact width_constUint _ _
  · rfl

theorem eval_signBitMask (ρ : Env) {w : Nat} (hw : 1 ≤ w) (hw' : w ≤ 255) :
    (Tools.signBitMask w).eval ρ = 2 ^ (8 * w - 1) := by
  have hHM := H_lt_M hw
  simp only [Tools.signBitMask]
  split
  · rw [eval_constUint, Nat.mod_eq_of_lt hHM]
  · rw [eval_binary, eval_one, trunc_one hw, trunc_eval_amount ρ (Nat.sub_le _ _) ⟨hw, hw'⟩, evalBin_one_lsh (by omega)]

theorem eval_intNegative (ρ : Env) (e : Expr) (w : Nat) (hw : 1 ≤ w) (hw' : w ≤ 255) :
    (Tools.intNegative e w).eval ρ =
      if toInt w (trunc w (e.eval ρ)) < 0 then 2 ^ (8 * w - 1) else 0 := by
  have hx := trunc_lt' w (e.eval ρ)
  have hMH := M_eq_two_H hw
  simp only [Tools.intNegative, eval_bitAnd, Spec.band, eval_signBitMask ρ hw hw',
    trunc_of_lt (H_lt_M hw)]
  rw [and_H (by omega)]
  simp only [toInt_neg_iff hx]
  split <;> split <;> omega

/-- the unexported `abs(e, mask)` (called by `Abs` and by `Lts`), for any mask that is the sign bit of its width -/
theorem eval_absMask (ρ : Env) (e : Expr) {mask : Expr} {w : Nat} (hw : 1 ≤ w) (hmw : mask.width = w)
    (hm : mask.eval ρ = 2 ^ (8 * w - 1)) : (Tools.absMask e mask).eval ρ = Spec.abs w (e.eval ρ) := by
  have hx := trunc_lt' w (e.eval ρ)
  have hMH := M_eq_two_H hw
  simp only [Tools.absMask, hmw, eval_less, hm, trunc_of_lt (H_lt_M hw), eval_negate]
  rw [abs_eq hw, neg_eq]
  split
  · rfl
  · rw [trunc_of_lt (by split <;> omega)]
    split <;> omega

theorem eval_abs (ρ : Env) (e : Expr) (w : Nat) (hw : 1 ≤ w) (hw' : w ≤ 255) :
    (Tools.abs e w).eval ρ = Spec.abs w (e.eval ρ) :=
  eval_absMask ρ e hw (width_signBitMask w) (eval_signBitMask ρ hw hw')

theorem eval_bitMaskRaw (ρ : Env) {c w : Nat} (hc : c ≤ 8 * w) (hw : w ≤ 255) :
    (Tools.bitMaskRaw c w).eval ρ = 2 ^ c - 1 := by
  have hcM : 2 ^ c ≤ 2 ^ (8 * w) := Nat.pow_le_pow_right (by decide) hc
  have hpos : 1 ≤ 2 ^ c := Nat.two_pow_pos c
  unfold Tools.bitMaskRaw
  split
  · rw [eval_constUint, Nat.mod_eq_of_lt (by omega)]
  · simp only [eval_sub, eval_binary, eval_one, trunc_eval_amount ρ hc ⟨by omega, hw⟩, trunc_one (by omega : 1 ≤ w)]
    rcases Nat.eq_or_lt_of_le hc with rfl | hlt
    · -- the shift by the full width gives 0, and `0 - 1` wraps to all ones
      have := @Nat.lt_two_pow_self (8 * w)
      rw [evalBin_lsh_of_ge (Nat.le_refl _), trunc_zero, sub_eq (Nat.two_pow_pos _) (by omega), if_neg (by omega)]
      omega
    · rw [evalBin_one_lsh hlt, trunc_of_lt (Nat.pow_lt_pow_right (by decide) hlt),
        sub_of_le hpos (Nat.pow_lt_pow_right (by decide) hlt)]

theorem bitMaskOk_clamp (cnt w : Nat) :
    Tools.bitMaskOk (if cnt > 8 * w then 8 * w else cnt) w = true := by
  simp only [Tools.bitMaskOk, Bool.or_eq_true, decide_eq_true_eq]
  by_cases h : (if cnt > 8 * w then 8 * w else cnt) > 64
  · exact Or.inl h
  · right
    have hle : (if cnt > 8 * w then 8 * w else cnt) ≤ 8 * w := by split <;> omega
    have := Nat.pow_le_pow_right (n := 2) (by decide) hle
    have := Nat.two_pow_pos (if cnt > 8 * w then 8 * w else cnt)
    omega

/-- `MaskBits` for EVERY bit count: `bitMask` clamps the count to the width (F34) -/
theorem eval_maskBits (ρ : Env) (e : Expr) (cnt w : Nat) (hw : w ≤ 255) :
    (Tools.maskBits e cnt w).eval ρ = Spec.mask w (e.eval ρ) cnt := by
  have hx := trunc_lt' w (e.eval ρ)
  have hle : (if cnt > 8 * w then 8 * w else cnt) ≤ 8 * w := by split <;> omega
  have hM := Nat.pow_le_pow_right (n := 2) (by decide) hle
  have hpos := Nat.two_pow_pos (if cnt > 8 * w then 8 * w else cnt)
  rw [Tools.maskBits, Tools.bitMask, eval_bitAnd, Spec.band, eval_bitMaskRaw ρ hle hw,
    trunc_of_lt (x := _ - 1) (by omega), Nat.and_two_pow_sub_one_eq_mod, Spec.mask]
  split
  · next hgt =>
    rw [Nat.mod_eq_of_lt hx,
      Nat.mod_eq_of_lt (Nat.lt_of_lt_of_le hx (Nat.pow_le_pow_right (by decide) (by omega)))]
  · rfl

theorem eval_lts (ρ : Env) (a b t f : Expr) (w : Nat) (hw : 1 ≤ w) (hw' : w ≤ 255) :
    (Tools.lts a b t f w).eval ρ =
      if toInt w (trunc w (a.eval ρ)) < toInt w (trunc w (b.eval ρ))
      then trunc w (t.eval ρ) else trunc w (f.eval ρ) := by
  have hx := trunc_lt' w (a.eval ρ)
  have hy := trunc_lt' w (b.eval ρ)
  have hMH := M_eq_two_H hw
  have hH := Nat.two_pow_pos (8 * w - 1)
  have hHt := trunc_of_lt (H_lt_M hw)
  simp only [Tools.lts, eval_less, eval_zero, trunc_zero, eval_bitAnd, eval_bitXor, Spec.band,
    Spec.bxor, eval_signBitMask ρ hw hw', hHt,
    eval_absMask ρ _ hw (width_signBitMask w) (eval_signBitMask ρ hw hw'), abs_eq hw]
  rw [and_H (x := trunc w (a.eval ρ)) (by omega), and_H (x := trunc w (b.eval ρ)) (by omega)]
  rw [toInt_eq, toInt_eq]
  generalize trunc w (a.eval ρ) = x at *
  generalize trunc w (b.eval ρ) = y at *
  -- by the signs of `x` and `y`.  Equal signs (the xor of the sign bits is 0): the absolute values are compared, in the
  -- reversed order when both are negative; different signs: the sign bits themselves are compared, reversed.
  by_cases h1 : x < 2 ^ (8 * w - 1) <;> by_cases h2 : y < 2 ^ (8 * w - 1) <;>
    simp only [h1, h2, if_true, if_false, trunc_zero, hHt, Nat.xor_self, Nat.zero_xor, Nat.xor_zero,
      Nat.lt_irrefl, hH, trunc_trunc]
  · rw [trunc_ite, trunc_of_lt hx, trunc_of_lt hy]
    exact ite_congr_prop (by omega) _ _
  · rw [if_neg (by omega)]
  · rw [trunc_ite, if_neg (by omega), if_pos (by omega)]
  · rw [trunc_ite, trunc_of_lt (x := 2 ^ (8 * w) - y) (by omega),
      trunc_of_lt (x := 2 ^ (8 * w) - x) (by omega)]
    exact ite_congr_prop (by omega) _ _

theorem eval_signExtend (ρ : Env) (e sb : Expr) (w : Nat)
    (hbit : trunc w (sb.eval ρ) < 8 * w) :
    (Tools.signExtend e sb w).eval ρ = Spec.sext w (trunc w (e.eval ρ)) (trunc w (sb.eval ρ)) := by
  have hw : 1 ≤ w := by omega
  have hM := Nat.two_pow_pos (8 * w)
  have hx := trunc_lt' w (e.eval ρ)
  generalize hs : trunc w (sb.eval ρ) = s at *
  have hS : 2 ^ s < 2 ^ (8 * w) := Nat.pow_lt_pow_right (by decide) hbit
  have hSpos := Nat.two_pow_pos s
  have hmask : evalBin .lsh w (trunc w 1) s = 2 ^ s := by
    rw [trunc_one hw, evalBin_one_lsh hbit]
  have hvm : Spec.sub w (trunc w (2 ^ s)) (trunc w 1) = 2 ^ s - 1 := by
    rw [trunc_one hw, trunc_of_lt hS, sub_of_le hSpos hS]
  simp only [Tools.signExtend, eval_boolCond, eval_bitAnd, eval_bitOr, eval_bitNot, eval_sub,
    eval_binary, eval_one, hs, hmask, hvm, Spec.band, Spec.bor, Spec.bnot, Spec.M, Spec.sext]
  generalize trunc w (e.eval ρ) = x at *
  rw [trunc_of_lt hS, trunc_of_lt (x := 2 ^ s - 1) (by omega),
    trunc_of_lt (x := 2 ^ (8 * w) - 1 - (2 ^ s - 1)) (by omega), and_two_pow,
    Nat.and_two_pow_sub_one_eq_mod, or_high_mask hx (Nat.le_of_lt hbit)]
  have hlo : x % 2 ^ s < 2 ^ s := Nat.mod_lt _ hSpos
  cases hb : x.testBit s
  · simp only [if_false, Bool.false_eq_true, trunc_zero, ne_eq, not_true]
    exact trunc_of_lt (by omega)
  · simp only [if_true, trunc_of_lt hS]
    rw [if_pos (by omega)]
    rfl

/-- the negative case of `rshA`: the shifted value with the `sh` vacated top bits set is the floor quotient of
the signed reading -/
theorem sar_neg {w sh x : Nat} (hs : sh < 8 * w) (hx : x < 2 ^ (8 * w)) :
    trunc w (trunc w (x / 2 ^ sh) |||
        trunc w (Spec.sub w (2 ^ (8 * w) - 1) (trunc w ((2 ^ (8 * w) - 1) / 2 ^ sh)))) =
      Spec.ofInt w (((x : Int) - ((2 ^ (8 * w) : Nat) : Int)) / ((2 ^ sh : Nat) : Int)) := by
  have hs' : sh ≤ 8 * w := Nat.le_of_lt hs
  have hr := shr_lt hs' hx
  have hfill := shr_or_fill hs' hx
  have hQM : 2 ^ (8 * w - sh) ≤ 2 ^ (8 * w) := Nat.pow_le_pow_right (by decide) (Nat.sub_le _ _)
  have hQ := Nat.two_pow_pos (8 * w - sh)
  rw [ones_shr hs', sub_two_pow_ediv x hs']
  generalize 2 ^ (8 * w - sh) = Q at *
  generalize x / 2 ^ sh = r at *
  have e : 2 ^ (8 * w) - 1 - (Q - 1) = 2 ^ (8 * w) - Q := by omega
  rw [trunc_of_lt (x := r) (by omega), trunc_of_lt (x := Q - 1) (by omega),
    sub_of_le (by omega) (by omega), e, trunc_of_lt (x := _ - Q) (by omega),
    hfill, ofInt_of_neg (by omega) (by omega), trunc_of_lt (by omega)]
  omega

theorem eval_rshA (ρ : Env) (e s : Expr) (w : Nat) (hw : 1 ≤ w) (hw' : w ≤ 255) :
    (Tools.rshA e s w).eval ρ = Spec.rsha w (e.eval ρ) (trunc w (s.eval ρ)) := by
  have hM := Nat.two_pow_pos (8 * w)
  have hx := trunc_lt' w (e.eval ρ)
  have hMH := M_eq_two_H hw
  simp only [Tools.rshA, eval_less, eval_bitOr, eval_sub, eval_binary, eval_ones, Spec.ones, Spec.M,
    eval_signBitMask ρ hw hw', trunc_of_lt (H_lt_M hw), Spec.bor, Spec.rsha, trunc_ones]
  generalize trunc w (e.eval ρ) = x at *
  generalize trunc w (s.eval ρ) = sh at *
  rw [toInt_eq]
  by_cases h1 : x < 2 ^ (8 * w - 1)
  · simp only [h1, if_true]
    by_cases h2 : sh ≥ 8 * w
    · simp only [evalBin_rsh_of_ge h2, h2, if_true, trunc_zero]
      rw [if_neg (by omega)]
      exact (ofInt_natCast w 0).symm
    · simp only [evalBin_rsh (Nat.not_le.1 h2), h2, if_false]
      rw [← Int.natCast_ediv, ofInt_natCast]
  · simp only [h1, if_false]
    by_cases h2 : sh ≥ 8 * w
    · simp only [evalBin_rsh_of_ge h2, h2, if_true, trunc_zero, Nat.zero_or]
      rw [sub_of_le (Nat.zero_le _) (by omega), if_pos (by omega),
        ofInt_of_neg (by omega) (by omega), Nat.sub_zero, trunc_ones, trunc_ones]
      omega
    · simp only [evalBin_rsh (Nat.not_le.1 h2), h2, if_false]
      exact sar_neg (by omega) hx

/-- sign extension of a whole `e.width`-byte value to `W` bytes; `W ≤ 255` keeps the bit index `8 * e.width - 1` inside its
two-byte constant -/
theorem eval_signExtend_const (ρ : Env) (e : Expr) (W : Nat) (h1 : 1 ≤ e.width) (h2 : e.width ≤ W)
    (hW : W ≤ 255) :
    (Tools.signExtend e (Tools.constUint (8 * e.width - 1) 2) W).eval ρ
      = Spec.ofInt W (toInt e.width (e.eval ρ)) := by
  have hlt := eval_lt ρ e
  have hsb := trunc_eval_amount ρ (by omega : 8 * e.width - 1 ≤ 8 * W) ⟨by omega, hW⟩
  rw [eval_signExtend ρ e _ W (by rw [hsb]; omega), hsb,
    trunc_of_lt (Nat.lt_of_lt_of_le hlt (Nat.pow_le_pow_right (by decide) (by omega))),
    sext_top h1 h2 hlt]

theorem eval_signedMul (ρ : Env) (a b : Expr) (w : Nat) (hw : w ≤ 127)
    (ha : 1 ≤ a.width ∧ a.width ≤ 2 * w) (hb : 1 ≤ b.width ∧ b.width ≤ 2 * w) :
    (Tools.signedMul a b w).eval ρ = Spec.smul w a.width b.width (a.eval ρ) (b.eval ρ) := by
  simp only [Tools.signedMul, eval_binary, evalBin_mul,
    eval_signExtend_const ρ a (2 * w) ha.1 ha.2 (by omega),
    eval_signExtend_const ρ b (2 * w) hb.1 hb.2 (by omega), Spec.smul, trunc_eval_width]
  rw [trunc_of_lt (ofInt_lt _ _), trunc_of_lt (ofInt_lt _ _), ofInt_mul]

theorem eval_negativeSignJoin (ρ : Env) (a b : Expr) (ha : WOK a.width) (hb : WOK b.width) :
    (Tools.negativeSignJoin a b).eval ρ =
      if (decide (toInt a.width (a.eval ρ) < 0) != decide (toInt b.width (b.eval ρ) < 0))
      then 1 else 0 := by
  have hwa : 1 ≤ (Tools.intNegative a a.width).width := ha.1
  have hwb : 1 ≤ (Tools.intNegative b b.width).width := hb.1
  simp only [Tools.negativeSignJoin, eval_bitXor, Spec.bxor, eval_bool _ _ hwa, eval_bool _ _ hwb,
    eval_intNegative _ _ _ ha.1 ha.2, eval_intNegative _ _ _ hb.1 hb.2, trunc_eval_width]
  have hHa := Nat.two_pow_pos (8 * a.width - 1)
  have hHb := Nat.two_pow_pos (8 * b.width - 1)
  by_cases h1 : toInt a.width (a.eval ρ) < 0 <;> by_cases h2 : toInt b.width (b.eval ρ) < 0
    <;> simp [h1, h2, trunc_one (Nat.le_refl 1)] <;> omega

theorem eval_abs_self (ρ : Env) (e : Expr) (h : WOK e.width) :
    (Tools.abs e e.width).eval ρ = (toInt e.width (e.eval ρ)).natAbs := by
  rw [eval_abs _ _ _ h.1 h.2, abs_eq_natAbs h.1, trunc_eval_width]

/-- `signedOp`: the unsigned operation on the absolute values, negated iff the signs differ.  Signs and absolute values are
taken at the operands' own widths, which may be narrower than the operator (a register load of `x0` is the one-byte
`Expr.zero`). -/
theorem eval_signedOp (ρ : Env) (a b : Expr) (w : Nat) (f : Expr → Expr → Nat → Expr) (hw : 1 ≤ w)
    (ha : WOK a.width) (hb : WOK b.width) :
    (Tools.signedOp a b w f).eval ρ =
      if (decide (toInt a.width (a.eval ρ) < 0) != decide (toInt b.width (b.eval ρ) < 0))
      then Spec.neg w ((f (Tools.abs a a.width) (Tools.abs b b.width) w).eval ρ)
      else trunc w ((f (Tools.abs a a.width) (Tools.abs b b.width) w).eval ρ) := by
  simp only [Tools.signedOp, eval_boolCond, eval_negativeSignJoin ρ a b ha hb, eval_negate]
  split
  · simp only [trunc_one hw]; exact trunc_of_lt (ofInt_lt _ _)
  · simp only [trunc_zero]; simp

theorem eval_signedDiv_of_widths (ρ : Env) (a b : Expr) (w : Nat) (hw : 1 ≤ w) (hw' : w ≤ 255)
    (ha1 : 1 ≤ a.width) (ha : a.width ≤ w) (hb1 : 1 ≤ b.width) (hb : b.width ≤ w) :
    (Tools.signedDiv a b w).eval ρ =
      if b.eval ρ = 0 then 2 ^ (8 * w) - 1
      else Spec.ofInt w (Int.tdiv (toInt a.width (a.eval ρ)) (toInt b.width (b.eval ρ))) := by
  have hwa : WOK a.width := ⟨ha1, by omega⟩
  have hwb : WOK b.width := ⟨hb1, by omega⟩
  have hMa : 2 ^ (8 * a.width) ≤ 2 ^ (8 * w) := Nat.pow_le_pow_right (by decide) (by omega)
  have hMb : 2 ^ (8 * b.width) ≤ 2 ^ (8 * w) := Nat.pow_le_pow_right (by decide) (by omega)
  have hM := Nat.two_pow_pos (8 * w)
  have hy := eval_lt ρ b
  have hA := natAbs_toInt_lt ha1 (eval_lt ρ a)
  have hB := natAbs_toInt_lt hb1 hy
  simp only [Tools.signedDiv, eval_boolCond, eval_signedOp ρ a b w _ hw hwa hwb, eval_ones,
    Spec.ones, Spec.M, eval_binary, evalBin_div, eval_abs_self ρ a hwa, eval_abs_self ρ b hwb]
  rw [trunc_of_lt (x := b.eval ρ) (by omega), trunc_of_lt (x := (toInt a.width (a.eval ρ)).natAbs) (by omega),
    trunc_of_lt (x := (toInt b.width (b.eval ρ)).natAbs) (by omega), trunc_ones]
  by_cases hy0 : b.eval ρ = 0
  · rw [if_neg (fun h => h hy0), if_pos hy0]
  · have hB0 : (toInt b.width (b.eval ρ)).natAbs ≠ 0 :=
      Int.natAbs_ne_zero.mpr fun hh => hy0 ((toInt_eq_zero_iff hy).mp hh)
    have hU : (toInt a.width (a.eval ρ)).natAbs / (toInt b.width (b.eval ρ)).natAbs < 2 ^ (8 * w) :=
      Nat.lt_of_le_of_lt (Nat.div_le_self _ _) (by omega)
    rw [if_pos hy0, if_neg hy0, if_neg hB0, tdiv_eq]
    split
    · exact trunc_of_lt (ofInt_lt _ _)
    · rw [trunc_trunc, ofInt_natCast]

theorem eval_signedDiv (ρ : Env) (a b : Expr) (w : Nat) (hw : 1 ≤ w) (hw' : w ≤ 255)
    (ha : a.width = w) (hb : b.width = w) :
    (Tools.signedDiv a b w).eval ρ = Spec.sdiv w (a.eval ρ) (b.eval ρ) := by
  have ea : trunc w (a.eval ρ) = a.eval ρ := by rw [← ha]; exact trunc_eval_width ρ a
  have eb : trunc w (b.eval ρ) = b.eval ρ := by rw [← hb]; exact trunc_eval_width ρ b
  have hy : b.eval ρ < 2 ^ (8 * w) := by rw [← hb]; exact eval_lt ρ b
  rw [eval_signedDiv_of_widths ρ a b w hw hw' (by omega) (by omega) (by omega) (by omega), ha, hb]
  simp only [Spec.sdiv, ea, eb, toInt_eq_zero_iff hy, Spec.ones, Spec.M]

theorem eval_signedMod (ρ : Env) (a b : Expr) (w : Nat) (hw : 1 ≤ w) (hw' : w ≤ 255)
    (ha : a.width = w) (hb : b.width = w) :
    (Tools.signedMod a b w).eval ρ = Spec.smod w (a.eval ρ) (b.eval ρ) := by
  have hx : a.eval ρ < 2 ^ (8 * w) := ha ▸ eval_lt ρ a
  have hy : b.eval ρ < 2 ^ (8 * w) := hb ▸ eval_lt ρ b
  simp only [Tools.signedMod, eval_signedOp ρ a b w _ hw (ha ▸ ⟨hw, hw'⟩) (hb ▸ ⟨hw, hw'⟩), ha, hb, eval_mod,
    eval_abs _ _ _ hw hw', abs_eq_natAbs hw, Spec.smod, Spec.umod, trunc_of_lt hx, trunc_of_lt hy]
  generalize a.eval ρ = x at *
  generalize b.eval ρ = y at *
  have hA := natAbs_toInt_lt hw hx
  have hB := natAbs_toInt_lt hw hy
  rw [trunc_of_lt hA, trunc_of_lt hB]
  have hm : ((if (toInt w y).natAbs = 0 then (toInt w x).natAbs
        else (toInt w x).natAbs % (toInt w y).natAbs : Nat) : Int)
      = if toInt w y = 0 then ((toInt w x).natAbs : Int)
        else (((toInt w x).natAbs % (toInt w y).natAbs : Nat) : Int) := by
    by_cases h : toInt w y = 0
    · simp [h]
    · have : (toInt w y).natAbs ≠ 0 := by omega
      simp [h, this]
  rw [← hm]
  split
  · rfl
  · rw [ofInt_natCast]

end Mltwist.Lemmas.Gadgets
