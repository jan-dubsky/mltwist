import Mltwist.Lemmas.RiscvLiftBasic
import Mltwist.Lemmas.RiscvFields
import Mltwist.Lemmas.RiscvLiftSchema
/-
C01 library: the values of the expressions `Desc.lift` builds, in the reference's terms, for the base integer instruction
sets and the A extension, under the standing hypotheses of a class proof, `Ctx xlen W ρ s w` (`W` the register width in
BYTES, 4 or 8, and `xlen = 8 * W` in BITS).  OPERATORS are stated over the values of their operands, with no reference state
in sight (the shifts, the comparisons, any gadget that is a function of the operand values: `eval_bin`); OPERANDS under
`Ctx`; `lift_ok` (in `RiscvLift`) composes the two class by class.  A lemma about a whole expression is there only where the
reference's own arithmetic (`wrap (a + i)`, residues of the operands) has to be met: addresses, constants, `add`, `sub`, `mul`,
`divu`, `remu`.  A lemma at an operating width takes `Width m n`: `h.width` is the instruction, `width32` its `…w` form on
RV64.  A primed lemma reads a register at another width than `W`.  The instruction is `⟨a, w⟩` with an arbitrary address `a`.
-/
namespace Mltwist.Lemmas.RiscvLift
open Mltwist Mltwist.Riscv Mltwist.Spec.Rv Mltwist.Spec.Lift
open Mltwist.Lemmas.EvalBasic Mltwist.Lemmas.Gadgets
open Mltwist.Lemmas.TwosComplement
open Mltwist.Lemmas.Bytes (trunc_of_lt trunc_trunc trunc_zero trunc_one trunc_eq_mod)
open Mltwist.Lemmas.RiscvDecode (Cfg)

theorem csrKey_eq {a w : Nat} : csrKey ⟨a, w⟩ = csrName (csrNum w) := by
  unfold csrKey csrName
  congr 2
  show ((immParse .I w).1 % 65536).toNat = _
  have hv : csrNum w < 4096 := csrNum_lt w
  rw [immParse_I, show immI w = sx 12 (csrNum w) from rfl, sx_eq hv]
  by_cases hn : csrNum w < 2048
  · rw [if_pos hn, if_pos hn]; omega
  · rw [if_neg hn, if_neg hn]; omega

/-- Standing hypotheses: register width `W` bytes (4 or 8) = `xlen` bits, a 32-bit word `w`,
a well-formed reference state `s` represented by the valuation `ρ`. -/
structure Ctx (xlen W : Nat) (ρ : Env) (s : St) (w : Nat) : Prop where
  hX : xlen = 8 * W
  hW : W = 4 ∨ W = 8
  hw : w < 2 ^ 32
  wf : St.WF xlen s
  rel : Rel ρ s

/-- an operating width: `n` bytes are `m` bits, `n` within the gadgets' one-byte constants -/
structure Width (m n : Nat) : Prop where
  bits : m = 8 * n
  pos : 1 ≤ n
  le : n ≤ 255

theorem width32 : Width 32 4 := ⟨rfl, by decide, by decide⟩

theorem Width.mod_lt {m n : Nat} (hw : Width m n) (x : Nat) : x % m < m :=
  Nat.mod_lt _ (by have := hw.bits; have := hw.pos; omega)

namespace Ctx
variable {xlen W : Nat} {ρ : Env} {s : St} {w : Nat}

theorem W_pos (h : Ctx xlen W ρ s w) : 1 ≤ W := by rcases h.hW with rfl | rfl <;> decide
theorem W_ge (h : Ctx xlen W ρ s w) : 4 ≤ W := by rcases h.hW with rfl | rfl <;> decide
theorem W_le (h : Ctx xlen W ρ s w) : W ≤ 8 := by rcases h.hW with rfl | rfl <;> decide
theorem width (h : Ctx xlen W ρ s w) : Width xlen W := ⟨h.hX, h.W_pos, by have := h.W_le; omega⟩
theorem cfg (h : Ctx xlen W ρ s w) : Cfg xlen := by
  rcases h.hW with rfl | rfl
  · exact Or.inl h.hX
  · exact Or.inr h.hX
theorem xlen_le (h : Ctx xlen W ρ s w) : xlen ≤ 64 := by
  rcases h.cfg with rfl | rfl <;> decide
theorem xlen_ge (h : Ctx xlen W ρ s w) : 32 ≤ xlen := by
  rcases h.cfg with rfl | rfl <;> decide
/-- addresses below `2^xlen` are not touched by the IR's `mod 2^64` -/
theorem pow_le (h : Ctx xlen W ρ s w) : 2 ^ xlen ≤ 2 ^ 64 :=
  Nat.pow_le_pow_right (by decide) h.xlen_le

theorem trunc_eq (h : Ctx xlen W ρ s w) (x : Nat) : trunc W x = x % 2 ^ xlen := by
  rw [h.hX]; rfl

theorem trunc_of_lt_xlen (h : Ctx xlen W ρ s w) {x : Nat} (hx : x < 2 ^ xlen) : trunc W x = x := by
  rw [h.trunc_eq, Nat.mod_eq_of_lt hx]

theorem trunc_get (h : Ctx xlen W ρ s w) (r : Nat) : trunc W (s.get r) = s.get r :=
  h.trunc_of_lt_xlen (h.wf.get_lt r)

end Ctx

theorem eval_constFromInt (ρ : Env) (W : Nat) (i : Int) :
    (constFromInt W i).eval ρ = wrap (8 * W) i := by
  show leToNat (natToLE W _) = _
  rw [Bytes.leToNat_natToLE]
  exact wrap_mod _ _

theorem eval_constFromUint (ρ : Env) (W v : Nat) :
    (constFromUint W v).eval ρ = v % 2 ^ (8 * W) := Bytes.leToNat_natToLE W v

theorem eval_immConst (ρ : Env) (t : ImmType) (i : Ins) (W : Nat) :
    (immConst t i W).eval ρ = wrap (8 * W) (immParse t i.value).1 := eval_constFromInt ρ W _

theorem width_constFromUint (W v : Nat) : (constFromUint W v).width = W := Bytes.natToLE_length W v
theorem width_constFromInt (W : Nat) (i : Int) : (constFromInt W i).width = W := Bytes.natToLE_length W _

theorem addrAddImm_eq (a : Nat) (i : Int) : addrAddImm a i = wrap 64 ((a : Int) + i) := rfl

theorem eval_addrConst (ρ : Env) (a W : Nat) (hW : 8 * W ≤ 64) :
    (addrConst a W).eval ρ = a % 2 ^ (8 * W) := by
  show leToNat (natToLE W _) = _
  rw [Bytes.leToNat_natToLE, Nat.mod_mod_of_dvd _ (Nat.pow_dvd_pow 2 hW)]

theorem eval_immI {ρ : Env} {a w W' : Nat} :
    (immConst .I ⟨a, w⟩ W').eval ρ = wrap (8 * W') (immI w) :=
  (eval_immConst ρ .I ⟨a, w⟩ W').trans (congrArg _ (immParse_I w))
theorem eval_immS {ρ : Env} {a w W' : Nat} :
    (immConst .S ⟨a, w⟩ W').eval ρ = wrap (8 * W') (immS w) :=
  (eval_immConst ρ .S ⟨a, w⟩ W').trans (congrArg _ (immParse_S w))

theorem eval_csrImm {ρ : Env} {a w : Nat} : (csrImm ⟨a, w⟩).eval ρ = zimm w := by
  unfold csrImm
  rw [eval_constFromUint]
  exact Nat.mod_eq_of_lt (Nat.lt_trans (zimm_lt w) (by decide))

namespace Ctx
variable {xlen W : Nat} {ρ : Env} {s : St} {w : Nat}

theorem eval_regLoad' (h : Ctx xlen W ρ s w) (r : Reg) (a W' : Nat) :
    (regLoad r ⟨a, w⟩ W').eval ρ = trunc W' (s.get (regNum r w)) := by
  rcases regLoad_cases r ⟨a, w⟩ W' with ⟨h0, he⟩ | ⟨h0, he⟩ <;> rw [he]
  · rw [show regNum r w = 0 from h0, St.get_zero, eval_zero, trunc_zero]
  · show trunc W' (ρ.reg (xName (regNum r w))) = _
    rw [h.rel.x _ (Nat.pos_of_ne_zero h0) (regNum_lt r w), St.get_of_ne h0]

theorem eval_regLoad (h : Ctx xlen W ρ s w) (r : Reg) (a : Nat) :
    (regLoad r ⟨a, w⟩ W).eval ρ = s.get (regNum r w) := by
  rw [h.eval_regLoad', h.trunc_get]

theorem eval_rs1 (h : Ctx xlen W ρ s w) (a : Nat) :
    (regLoad .rs1 ⟨a, w⟩ W).eval ρ = s.get (rs1 w) := h.eval_regLoad .rs1 a
theorem eval_rs2 (h : Ctx xlen W ρ s w) (a : Nat) :
    (regLoad .rs2 ⟨a, w⟩ W).eval ρ = s.get (rs2 w) := h.eval_regLoad .rs2 a
theorem eval_rs1' (h : Ctx xlen W ρ s w) (a W' : Nat) :
    (regLoad .rs1 ⟨a, w⟩ W').eval ρ = trunc W' (s.get (rs1 w)) := h.eval_regLoad' .rs1 a W'
theorem eval_rs2' (h : Ctx xlen W ρ s w) (a W' : Nat) :
    (regLoad .rs2 ⟨a, w⟩ W').eval ρ = trunc W' (s.get (rs2 w)) := h.eval_regLoad' .rs2 a W'

theorem eval_immU (h : Ctx xlen W ρ s w) (a W' : Nat) :
    (immConst .U ⟨a, w⟩ W').eval ρ = wrap (8 * W') (immU w) :=
  (eval_immConst ρ .U ⟨a, w⟩ W').trans (congrArg _ (immParse_U w))

theorem eval_addrImmConst (h : Ctx xlen W ρ s w) (t : ImmType) {i : Int} (hi : (immParse t w).1 = i) :
    (addrImmConst t ⟨s.pc, w⟩ W).eval ρ = wrap xlen ((s.pc : Int) + i) := by
  subst hi
  unfold addrImmConst
  have h64 : 8 * W ≤ 64 := by have := h.W_le; omega
  rw [eval_addrConst _ _ _ h64, addrAddImm_eq, h.hX]
  exact wrap_mod_of_le h64 _

theorem eval_addrConst_next (h : Ctx xlen W ρ s w) :
    (addrConst (s.pc + 4) W).eval ρ = (s.pc + 4) % 2 ^ xlen := by
  have h64 : 8 * W ≤ 64 := by have := h.W_le; omega
  rw [eval_addrConst _ _ _ h64, h.hX]

theorem eval_csr (h : Ctx xlen W ρ s w) (a : Nat) :
    (Expr.regLoad (csrKey ⟨a, w⟩) W).eval ρ = s.csr (csrNum w) := by
  show trunc W (ρ.reg (csrKey ⟨a, w⟩)) = _
  rw [csrKey_eq, h.rel.csr _ (csrNum_lt w), h.trunc_of_lt_xlen (h.wf.csr _)]

theorem eval_memLoad (h : Ctx xlen W ρ s w) (addr : Expr) (n : Nat) {A : Nat}
    (hA : addr.eval ρ = A) (hlt : A < 2 ^ xlen) (hn : A + n ≤ 2 ^ xlen) :
    (Riscv.memLoad addr n).eval ρ = s.load A n := by
  have hp := h.pow_le
  show loadBytes (ρ.mem memoryKey) (addr.eval ρ % 2 ^ 64) n = _
  rw [hA, Nat.mod_eq_of_lt (by omega), memoryKey_eq]
  exact loadBytes_eq_load h.rel A n (by omega)

end Ctx

theorem trunc_mod_self (W x : Nat) : trunc W (x % 2 ^ (8 * W)) = x % 2 ^ (8 * W) :=
  trunc_trunc W x

theorem eval_sext (ρ : Env) (e : Expr) (bit W' : Nat) (hbit : bit < 8 * W') (h256 : bit < 256) :
    (Riscv.sext e bit W').eval ρ = Spec.Rv.sext (8 * W') (bit + 1) (e.eval ρ) := by
  have hW : 1 ≤ W' := by omega
  have hb : trunc W' ((constFromUint 1 bit).eval ρ) = bit :=
    trunc_eval_const ρ (by simpa using h256) (Nat.lt_trans hbit Nat.lt_two_pow_self)
  unfold Riscv.sext
  rw [eval_signExtend ρ e _ W' (by rw [hb]; exact hbit), hb, sext_bridge hbit]
  have hdvd : 2 ^ (bit + 1) ∣ 2 ^ (8 * W') := Nat.pow_dvd_pow 2 (by omega)
  rw [← rvsext_mod, trunc_eq_mod, Nat.mod_mod_of_dvd _ hdvd, rvsext_mod]

theorem eval_sext32To64 (ρ : Env) (e : Expr) :
    (sext32To64 e).eval ρ = Spec.Rv.sext 64 32 (e.eval ρ) :=
  eval_sext ρ e 31 8 (by decide) (by decide)

theorem ldAddr_lt (xlen w : Nat) (s : St) : ldAddr xlen w s < 2 ^ xlen := wrap_lt _ _
theorem stAddr_lt (xlen w : Nat) (s : St) : stAddr xlen w s < 2 ^ xlen := wrap_lt _ _

theorem sra_mod (n x sh : Nat) : sra n (x % 2 ^ n) sh = sra n x sh := by
  unfold sra; rw [sx_mod]

theorem min_eq_ite (a b : Nat) : min a b = if a < b then a else b := by
  rw [Nat.min_def]; split <;> split <;> omega

theorem max_eq_ite (a b : Nat) : max a b = if a < b then b else a := by
  rw [Nat.max_def]; split <;> split <;> omega

section
variable {ρ : Env} {x y : Expr} {n m A sh : Nat}

theorem eval_lsh (hw : Width m n) (hx : trunc n (x.eval ρ) = A) (hy : trunc n (y.eval ρ) = sh) (hsh : sh < m) :
    (binOpFunc .lsh x y n).eval ρ = (A * 2 ^ sh) % 2 ^ m := by
  cases hw.bits
  rw [binOpFunc, eval_binary, hx, hy]
  exact evalBin_lsh hsh

theorem eval_rsh (hw : Width m n) (hx : trunc n (x.eval ρ) = A) (hy : trunc n (y.eval ρ) = sh) (hsh : sh < m) :
    (binOpFunc .rsh x y n).eval ρ = A / 2 ^ sh := by
  cases hw.bits
  rw [binOpFunc, eval_binary, hx, hy]
  exact evalBin_rsh hsh

theorem eval_rshA_of (hw : Width m n) (hx : trunc n (x.eval ρ) = A) (hy : trunc n (y.eval ρ) = sh) (hsh : sh < m) :
    (Tools.rshA x y n).eval ρ = sra m A sh := by
  cases hw.bits; subst hx
  rw [eval_rshA _ _ _ _ hw.pos hw.le, hy, ← rsha_bridge (Bytes.trunc_lt' _ _) hsh]
  unfold Spec.rsha
  rw [trunc_trunc]

/-- a gadget whose value is a function `g` of the two operand values (`hf`: a `Gadgets.eval_*` lemma, or `rfl` for a
primitive operator), over those values: the bitwise instructions, the AMOs -/
theorem eval_bin (f : BinF) (g : Nat → Nat → Nat) {B : Nat}
    (hf : ∀ x y : Expr, (f x y n).eval ρ = g (trunc n (x.eval ρ)) (trunc n (y.eval ρ)))
    (hx : trunc n (x.eval ρ) = A) (hy : trunc n (y.eval ρ) = B) : (f x y n).eval ρ = g A B := by
  rw [hf, hx, hy]

/-! The comparisons over the values `A`, `B` of their operands: `f x y t e n` is `t` if the comparison holds, else `e`
(branches; `slt…` with `t, e = 1, 0`; the AMO minima and maxima with `t, e` the operands themselves). -/

theorem cmp_eq (h1 : 1 ≤ n) (hx : trunc n (x.eval ρ) = A) (hy : trunc n (y.eval ρ) = B) (t e : Expr) :
    (Tools.eq x y t e n).eval ρ = if A = B then trunc n (t.eval ρ) else trunc n (e.eval ρ) := by
  rw [eval_eq _ _ _ _ _ _ h1, hx, hy]

theorem cmp_lts (hw : Width m n) (hx : trunc n (x.eval ρ) = A) (hy : trunc n (y.eval ρ) = B) (t e : Expr) :
    (Tools.lts x y t e n).eval ρ = if sx m A < sx m B then trunc n (t.eval ρ) else trunc n (e.eval ρ) := by
  cases hw.bits; subst hx hy
  rw [eval_lts _ _ _ _ _ _ hw.pos hw.le, toInt_eq_sx (Bytes.trunc_lt' _ _), toInt_eq_sx (Bytes.trunc_lt' _ _)]

theorem cmp_ltu (hx : trunc n (x.eval ρ) = A) (hy : trunc n (y.eval ρ) = B) (t e : Expr) :
    (lessFunc x y t e n).eval ρ = if A < B then trunc n (t.eval ρ) else trunc n (e.eval ρ) := by
  rw [lessFunc, eval_less, hx, hy]

variable {f : CondF} {p : Prop} [Decidable p]

theorem eval_flag (h1 : 1 ≤ n)
    (hf : ∀ t e : Expr, (f x y t e n).eval ρ = if p then trunc n (t.eval ρ) else trunc n (e.eval ρ)) :
    (f x y .one .zero n).eval ρ = if p then 1 else 0 := by
  rw [hf, eval_one, eval_zero, trunc_one h1, trunc_zero]

/-- `atomicMinMax`: the first operand if the comparison holds (`neg`: if it fails), else the second -/
theorem eval_minMax (neg : Bool)
    (hf : ∀ t e : Expr, (f x y t e n).eval ρ = if p then trunc n (t.eval ρ) else trunc n (e.eval ρ))
    (hx : trunc n (x.eval ρ) = A) (hy : trunc n (y.eval ρ) = B) :
    (atomicMinMax f neg x y n).eval ρ = if p then (if neg then B else A) else (if neg then A else B) := by
  cases neg <;> simp [atomicMinMax, hf, hx, hy]

end

/-- `regImmShift` writes the shift amount as a 4-byte constant whatever the width `W'` of the operator -/
theorem eval_shamtConst (ρ : Env) {w k W' : Nat} (hk : k ≤ 12) (hW' : 2 ≤ W') :
    trunc W' ((constFromInt 4 ((immParse .I w).1 % ((2 ^ k : Nat) : Int))).eval ρ) = bits w 20 k := by
  have hlt : bits w 20 k < 2 ^ 12 :=
    Nat.lt_of_lt_of_le (bits_lt _ _ _) (Nat.pow_le_pow_right (by decide) hk)
  rw [eval_constFromInt, immParse_I]
  rw [immI_emod hk, wrap_of_lt (Nat.lt_of_lt_of_le hlt (by decide))]
  apply trunc_of_lt
  have : 2 ^ 12 ≤ 2 ^ (8 * W') := Nat.pow_le_pow_right (by decide) (by omega)
  omega

theorem eval_shamtw {ρ : Env} {w : Nat} :
    trunc 4 ((constFromInt 4 ((immParse .I w).1 % ((2 ^ 5 : Nat) : Int))).eval ρ) = bits w 20 5 :=
  eval_shamtConst ρ (by decide) (by decide)

namespace Ctx
variable {xlen W : Nat} {ρ : Env} {s : St} {w : Nat}

theorem trunc_reg (h : Ctx xlen W ρ s w) {r : Reg} {a : Nat} :
    trunc W ((regLoad r ⟨a, w⟩ W).eval ρ) = s.get (regNum r w) := by
  rw [h.eval_regLoad, h.trunc_get]

theorem trunc_reg' (h : Ctx xlen W ρ s w) {r : Reg} {a : Nat} (n : Nat) :
    trunc n ((regLoad r ⟨a, w⟩ n).eval ρ) = s.get (regNum r w) % 2 ^ (8 * n) := by
  rw [h.eval_regLoad', trunc_trunc]; rfl

theorem trunc_immI (h : Ctx xlen W ρ s w) {a : Nat} :
    trunc W ((immConst .I ⟨a, w⟩ W).eval ρ) = wrap xlen (immI w) := by
  rw [eval_immI, trunc_of_lt (wrap_lt _ _), h.hX]

/-- the I-immediate fits the register: its wrapped value reads back signed as itself (`slti`) -/
theorem sx_immI (h : Ctx xlen W ρ s w) : sx xlen (wrap xlen (immI w)) = immI w := by
  have hb := immI_bounds w
  have : 2 ^ 11 ≤ 2 ^ (xlen - 1) := Nat.pow_le_pow_right (by decide) (by have := h.xlen_ge; omega)
  have h11 : (2 : Nat) ^ 11 = 2048 := by decide
  exact sx_wrap (by have := h.xlen_ge; omega) (by omega) (by omega)

theorem shiftBits_eq (h : Ctx xlen W ρ s w) : 2 ^ shiftBits W = xlen := by
  rcases h.hW with rfl | rfl <;> exact h.hX.symm

theorem shamt_eq (h : Ctx xlen W ρ s w) : shamt xlen w = bits w 20 (shiftBits W) := by
  rcases h.hW with rfl | rfl <;> (rw [h.hX]; rfl)

theorem eval_shamt (h : Ctx xlen W ρ s w) :
    trunc W ((constFromInt 4 ((immParse .I w).1 % ((2 ^ shiftBits W : Nat) : Int))).eval ρ) = shamt xlen w := by
  rw [h.shamt_eq]
  exact eval_shamtConst ρ (by rcases h.hW with rfl | rfl <;> decide) (by have := h.W_ge; omega)

theorem shamt_lt (h : Ctx xlen W ρ s w) : shamt xlen w < xlen := by
  rw [h.shamt_eq, ← h.shiftBits_eq]; exact bits_lt _ _ _

theorem eval_maskedShamt (h : Ctx xlen W ρ s w) {a n m sb : Nat} (hw : Width m n) (hsb : 2 ^ sb = m) :
    trunc n ((Tools.maskBits (regLoad .rs2 ⟨a, w⟩ n) sb n).eval ρ) = s.get (rs2 w) % m := by
  obtain ⟨rfl, h1, h255⟩ := hw
  have hle : sb ≤ 8 * n := hsb ▸ Nat.le_of_lt Nat.lt_two_pow_self
  rw [eval_maskBits _ _ _ _ h255, h.eval_rs2']
  unfold Spec.mask
  rw [trunc_trunc, trunc_eq_mod n (s.get _), Nat.mod_mod_of_dvd _ (Nat.pow_dvd_pow 2 hle), hsb]
  exact trunc_of_lt (Nat.lt_of_lt_of_le (Nat.mod_lt _ (by omega)) (Nat.le_of_lt Nat.lt_two_pow_self))

theorem eval_csrSrc (h : Ctx xlen W ρ s w) {a : Nat} (imm : Bool) :
    (if imm then csrImm ⟨a, w⟩ else regLoad .rs1 ⟨a, w⟩ W).eval ρ = if imm then zimm w else s.get (rs1 w) := by
  cases imm
  · exact h.eval_rs1 a
  · exact eval_csrImm

theorem csrSrc_lt (h : Ctx xlen W ρ s w) (imm : Bool) : (if imm then zimm w else s.get (rs1 w)) < 2 ^ xlen := by
  cases imm
  · exact h.wf.get_lt _
  · exact Nat.lt_of_lt_of_le (zimm_lt w)
      (Nat.le_trans (by decide : 32 ≤ 2 ^ 32) (Nat.pow_le_pow_right (by decide) h.xlen_ge))

theorem eval_amoLoad (h : Ctx xlen W ρ s w) {a : Nat} (n : Nat) (hn : s.get (rs1 w) + n ≤ 2 ^ xlen) :
    (Riscv.memLoad (regLoad .rs1 ⟨a, w⟩ W) n).eval ρ = s.load (s.get (rs1 w)) n :=
  h.eval_memLoad _ n (h.eval_rs1 a) (h.wf.get_lt _) hn

/-- `rs1 + immI` at `n` bytes: the address of a load or `jalr` (`n = W`), `addi`, `addiw` (`n = 4`) -/
theorem eval_addI (h : Ctx xlen W ρ s w) {a n m : Nat} (hw : Width m n) :
    (regImmOp (binOpFunc .add) .I ⟨a, w⟩ n).eval ρ = wrap m ((s.get (rs1 w) : Int) + immI w) := by
  cases hw.bits
  simp only [regImmOp, binOpFunc, eval_binary, h.eval_rs1', eval_immI, evalBin_add, trunc_trunc]
  rw [trunc_of_lt (wrap_lt _ _), ← add_wrap_mod, trunc_eq_mod, Nat.mod_add_mod]

theorem eval_addS (h : Ctx xlen W ρ s w) {a : Nat} :
    (regImmOp (binOpFunc .add) .S ⟨a, w⟩ W).eval ρ = stAddr xlen w s := by
  simp only [regImmOp, binOpFunc, eval_binary, h.eval_rs1, eval_immS, h.trunc_get, evalBin_add]
  have hX := h.hX; subst hX
  rw [trunc_of_lt (wrap_lt _ _), add_wrap_mod]; rfl

/-- `auipc`: `pc + immU` computed in `uint64`, then cut to the register width -/
theorem eval_auipc (h : Ctx xlen W ρ s w) :
    (constFromUint W (addrAddImm s.pc (immParse .U w).1 % 2 ^ (8 * W))).eval ρ
      = wrap xlen ((s.pc : Int) + immU w) := by
  have hX := h.hX; subst hX
  have h64 : 8 * W ≤ 64 := h.xlen_le
  rw [eval_constFromUint, Nat.mod_mod, addrAddImm_eq, immParse_U, wrap_mod_of_le h64]

theorem eval_following (h : Ctx xlen W ρ s w) :
    (constFromUint W ((s.pc % 2 ^ (8 * W) + 4) % 2 ^ (8 * W))).eval ρ = (s.pc + 4) % 2 ^ xlen := by
  have hX := h.hX; subst hX
  rw [eval_constFromUint, Nat.mod_mod, Nat.mod_eq_of_lt h.wf.pc]

theorem eval_jumpTarget (h : Ctx xlen W ρ s w) {a : Nat} :
    (jumpTarget ⟨a, w⟩ W).eval ρ = ldAddr xlen w s / 2 * 2 := by
  have hA : (regImmOp (binOpFunc .add) .I ⟨a, w⟩ W).eval ρ = ldAddr xlen w s := h.eval_addI h.width
  unfold jumpTarget
  rw [eval_bitAnd, hA, eval_constFromInt]
  have hX := h.hX; subst hX
  have h8 : 1 ≤ 8 * W := by have := h.W_pos; omega
  unfold Spec.band
  rw [trunc_of_lt (ldAddr_lt _ _ _), trunc_of_lt (wrap_lt _ _), wrap_neg_two h8, and_neg_two h8 (ldAddr_lt _ _ _)]

theorem eval_load (h : Ctx xlen W ρ s w) {a : Nat} (n : Nat) (hn : ldAddr xlen w s + n ≤ 2 ^ xlen) :
    (Riscv.memLoad (regImmOp (binOpFunc .add) .I ⟨a, w⟩ W) n).eval ρ
      = s.load (ldAddr xlen w s) n :=
  h.eval_memLoad _ n (h.eval_addI h.width) (ldAddr_lt _ _ _) hn

/-- an `n`-byte value in a register: the tables sign-extend it unless `n = W`, the reference always does -/
theorem trunc_extend (h : Ctx xlen W ρ s w) {n : Nat} (h1 : 1 ≤ n) (hn : n ≤ W) (e : Expr) :
    trunc W ((extend n W e).eval ρ) = Spec.Rv.sext xlen (8 * n) (e.eval ρ) := by
  have hX := h.hX; subst hX
  have := h.W_le
  unfold extend; split
  · subst n; rw [trunc_eq_mod, rvsext_self]
  · rw [eval_sext ρ e _ W (by omega) (by omega), show 8 * n - 1 + 1 = 8 * n by omega]
    exact trunc_of_lt (rvsext_lt ..)

/-- `lui`: a 4-byte constant, sign-extended on RV64 -/
theorem trunc_lui (h : Ctx xlen W ρ s w) :
    trunc W ((extend 4 W (constFromInt 4 (immParse .U w).1)).eval ρ) = wrap xlen (immU w) := by
  have hb := immU_bounds w
  rw [h.trunc_extend (by decide) h.W_ge, eval_constFromInt, immParse_U]
  unfold Spec.Rv.sext
  rw [sx_wrap (n := 8 * 4) (by decide) (by simp; omega) (by simp; omega)]

theorem eval_add (h : Ctx xlen W ρ s w) {a n m : Nat} (hw : Width m n) :
    (reg2Op (binOpFunc .add) ⟨a, w⟩ n).eval ρ = (s.get (rs1 w) + s.get (rs2 w)) % 2 ^ m := by
  cases hw.bits
  simp only [reg2Op, binOpFunc, eval_binary, h.eval_rs1', h.eval_rs2', evalBin_add, trunc_eq_mod, Nat.add_mod_mod,
    Nat.mod_add_mod]

theorem eval_sub (h : Ctx xlen W ρ s w) {a n m : Nat} (hw : Width m n) :
    (reg2Op Tools.sub ⟨a, w⟩ n).eval ρ = wrap m ((s.get (rs1 w) : Int) - s.get (rs2 w)) := by
  cases hw.bits
  unfold reg2Op
  rw [Gadgets.eval_sub, h.eval_rs1', h.eval_rs2', trunc_trunc, trunc_trunc, sub_eq_wrap]
  apply wrap_congr
  rw [trunc_eq_mod, trunc_eq_mod, Int.natCast_emod, Int.natCast_emod, ← Int.sub_emod]

theorem eval_csrSet (h : Ctx xlen W ρ s w) {a : Nat} {v : Expr} {V : Nat} (hv : v.eval ρ = V) (hV : V < 2 ^ xlen) :
    (Tools.bitOr (Expr.regLoad (csrKey ⟨a, w⟩) W) v W).eval ρ = s.csr (csrNum w) ||| V := by
  rw [eval_bitOr, h.eval_csr, hv]; unfold Spec.bor
  rw [h.trunc_of_lt_xlen (h.wf.csr _), h.trunc_of_lt_xlen hV]

theorem eval_csrClear (h : Ctx xlen W ρ s w) {a : Nat} {v : Expr} {V : Nat} (hv : v.eval ρ = V) (hV : V < 2 ^ xlen) :
    (Tools.bitAnd (Expr.regLoad (csrKey ⟨a, w⟩) W) (Tools.bitNot v W) W).eval ρ
      = s.csr (csrNum w) &&& (2 ^ xlen - 1 - V) := by
  rw [eval_bitAnd, h.eval_csr, eval_bitNot, hv]; unfold Spec.band Spec.bnot Spec.M
  rw [h.trunc_of_lt_xlen (h.wf.csr _), h.trunc_of_lt_xlen hV, ← h.hX, h.trunc_of_lt_xlen (by omega)]

end Ctx

end Mltwist.Lemmas.RiscvLift
