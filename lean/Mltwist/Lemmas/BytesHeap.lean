import Mltwist.Spec.BytesHeap
import Mltwist.Lemmas.SortSearch
/-
C15, aliasing clause: frame lemmas for the heap-level model.  Every write of every operation goes to
an array the memory owns (an array of one of its blocks) or to an array allocated by the operation (`Safe`);
hence `step_spec` and `no_write_through`, which C15 cites.
-/
namespace Mltwist.Lemmas.BytesHeap
open Mltwist Mltwist.BytesHeap
open Mltwist.BytesMem (Fail)

theorem arrOf_append_lt (h : Heap) (x : List UInt8) {id : Nat} (hid : id < h.length) :
    arrOf (h ++ [x]) id = arrOf h id := by
  unfold arrOf
  rw [List.getElem?_append_left hid]

theorem length_writeAt (h : Heap) (id pos : Nat) (d : List UInt8) :
    (writeAt h id pos d).length = h.length := by
  unfold writeAt; simp

theorem arrOf_writeAt_ne (h : Heap) (id pos : Nat) (d : List UInt8) {id' : Nat} (hne : id' ≠ id) :
    arrOf (writeAt h id pos d) id' = arrOf h id' := by
  unfold arrOf writeAt
  rw [List.getElem?_set_ne (fun e => hne e.symm)]

theorem arrOf_writeAt_nil (h : Heap) (id pos id' : Nat) :
    arrOf (writeAt h id pos []) id' = arrOf h id' := by
  by_cases hne : id' = id
  · subst hne
    unfold writeAt
    simp only [List.append_nil, List.length_nil, Nat.add_zero, List.take_append_drop]
    unfold arrOf
    rw [List.getElem?_set_self']
    by_cases hl : id' < h.length
    · simp [hl]
    · simp [hl]
  · exact arrOf_writeAt_ne h id pos [] hne

theorem read_congr {h h' : Heap} {s : Slice} (e : arrOf h' s.arr = arrOf h s.arr) :
    BytesHeap.read h' s = BytesHeap.read h s := by
  unfold BytesHeap.read; rw [e]

/-- since the heap `hs`, no array outside `O` was modified -/
def HeapRel (hs : Heap) (O : Nat → Prop) (h : Heap) : Prop :=
  hs.length ≤ h.length ∧ ∀ id, id < hs.length → ¬ O id → arrOf h id = arrOf hs id

/-- a live slice points into an array of `O` or into an array allocated after `hs` -/
def SliceOk (hs : Heap) (O : Nat → Prop) (h : Heap) (s : Slice) : Prop :=
  Live s → (O s.arr ∨ hs.length ≤ s.arr) ∧ s.arr < h.length

def BlocksOk (hs : Heap) (O : Nat → Prop) (h : Heap) (bs : List HBlock) : Prop :=
  ∀ b ∈ bs, SliceOk hs O h b.2

/-- the outcome `(h', r)` of an operation started in the heap `h`: the frame is kept, the heap only
grew, and the blocks returned, if any, point into arrays of `O` or into new ones -/
structure Safe (hs : Heap) (O : Nat → Prop) (h : Heap) (out : Heap × Except Fail (List HBlock)) : Prop where
  frame : HeapRel hs O out.1
  grew : h.length ≤ out.1.length
  blocks : ∀ bs, out.2 = .ok bs → BlocksOk hs O out.1 bs

variable {hs : Heap} {O : Nat → Prop} {h : Heap}

theorem heapRel_refl (hs : Heap) (O : Nat → Prop) : HeapRel hs O hs :=
  ⟨Nat.le_refl _, fun _ _ _ => rfl⟩

theorem sliceOk_mono {h' : Heap} {s : Slice} (hl : h.length ≤ h'.length) (hk : SliceOk hs O h s) :
    SliceOk hs O h' s := fun hv =>
  ⟨(hk hv).1, Nat.lt_of_lt_of_le (hk hv).2 hl⟩

theorem blocksOk_mono {h' : Heap} {bs : List HBlock} (hl : h.length ≤ h'.length)
    (hk : BlocksOk hs O h bs) : BlocksOk hs O h' bs :=
  fun b hb => sliceOk_mono hl (hk b hb)

theorem sliceOk_nil (hs : Heap) (O : Nat → Prop) (h : Heap) : SliceOk hs O h nilSlice := by
  intro hv
  unfold Live nilSlice at hv
  simp at hv

theorem reslice_ok {s s' : Slice} {lo hi : Nat} (hr : reslice s lo hi = some s')
    (hk : SliceOk hs O h s) : SliceOk hs O h s' := by
  unfold reslice at hr
  split at hr
  · next hb =>
    cases hr
    intro hv
    have : Live s := by
      unfold Live at *
      simp only at hv
      omega
    exact hk this
  · cases hr

theorem blocksOk_set {bs : List HBlock} {k : Nat} {x : HBlock} (hk : BlocksOk hs O h bs)
    (hx : SliceOk hs O h x.2) : BlocksOk hs O h (bs.set k x) := by
  intro b hb
  rcases List.mem_or_eq_of_mem_set hb with hb' | rfl
  · exact hk b hb'
  · exact hx

theorem blocksOk_getElem {bs : List HBlock} {k : Nat} {x : HBlock} (hk : BlocksOk hs O h bs)
    (hx : bs[k]? = some x) : SliceOk hs O h x.2 :=
  hk x (List.mem_of_getElem? hx)

theorem Safe.error (hr : HeapRel hs O h) (e : Fail) : Safe hs O h (h, .error e) :=
  ⟨hr, Nat.le_refl _, fun _ he => nomatch he⟩

theorem Safe.ok {bs : List HBlock} (hr : HeapRel hs O h) (hb : BlocksOk hs O h bs) :
    Safe hs O h (h, .ok bs) :=
  ⟨hr, Nat.le_refl _, fun _ he => by cases he; exact hb⟩

/-- an operation that follows others started in `h0` -/
theorem Safe.mono {h0 : Heap} {out : Heap × Except Fail (List HBlock)} (hl : h0.length ≤ h.length)
    (s : Safe hs O h out) : Safe hs O h0 out :=
  ⟨s.frame, Nat.le_trans hl s.grew, s.blocks⟩

theorem heapRel_push (hr : HeapRel hs O h) (x : List UInt8) : HeapRel hs O (h ++ [x]) :=
  ⟨by rw [List.length_append]; exact Nat.le_trans hr.1 (Nat.le_add_right _ _), fun id hid hO =>
    (arrOf_append_lt h x (Nat.lt_of_lt_of_le hid hr.1)).trans (hr.2 id hid hO)⟩

theorem sliceOk_fresh (hr : HeapRel hs O h) (x : List UInt8) {s : Slice} (he : s.arr = h.length) :
    SliceOk hs O (h ++ [x]) s := fun _ =>
  ⟨Or.inr (he ▸ hr.1), by rw [he, List.length_append]; exact Nat.lt_succ_self _⟩

theorem heapRel_writeAt (hr : HeapRel hs O h) {s : Slice} (hk : SliceOk hs O h s) (pos : Nat)
    {d : List UInt8} (hd : d ≠ [] → Live s) : HeapRel hs O (writeAt h s.arr pos d) := by
  refine ⟨by rw [length_writeAt]; exact hr.1, fun id hid hO => ?_⟩
  by_cases hn : d = []
  · rw [hn, arrOf_writeAt_nil]
    exact hr.2 id hid hO
  · rw [arrOf_writeAt_ne]
    · exact hr.2 id hid hO
    · rintro rfl
      rcases (hk (hd hn)).1 with h1 | h1
      · exact hO h1
      · exact Nat.lt_irrefl _ (Nat.lt_of_lt_of_le hid h1)

theorem alloc_spec (n : Nat) (hr : HeapRel hs O h) :
    HeapRel hs O (alloc h n).1 ∧ (alloc h n).1.length = h.length + 1 ∧ (alloc h n).2.arr = h.length ∧
      SliceOk hs O (alloc h n).1 (alloc h n).2 :=
  ⟨heapRel_push hr _, by simp [alloc], rfl, sliceOk_fresh hr _ rfl⟩

theorem copyH_spec (dst src : Slice) (hr : HeapRel hs O h) (hd : SliceOk hs O h dst) :
    HeapRel hs O (copyH h dst src).1 ∧ (copyH h dst src).1.length = h.length :=
  ⟨heapRel_writeAt hr hd _ fun hne => Or.inl (Nat.pos_of_ne_zero fun h0 => hne (by
      rw [h0, Nat.zero_min, List.take_zero])), length_writeAt ..⟩

theorem appendH_spec (cfg : Cfg) (s src : Slice) (hr : HeapRel hs O h) (hk : SliceOk hs O h s) :
    HeapRel hs O (appendH cfg h s src).1 ∧ h.length ≤ (appendH cfg h s src).1.length ∧
      SliceOk hs O (appendH cfg h s src).1 (appendH cfg h s src).2 := by
  unfold appendH
  simp only
  split
  · next hfit =>
    refine ⟨heapRel_writeAt hr hk _ fun hne => Or.inr (Nat.lt_of_lt_of_le (List.length_pos_iff.2 hne)
      (Nat.le_trans (Nat.le_add_left _ _) hfit)), Nat.le_of_eq (length_writeAt ..).symm, fun hv => ?_⟩
    rw [length_writeAt]
    exact hk (Or.inr (hv.elim (fun h1 => Nat.lt_of_lt_of_le h1 hfit) id))
  · exact ⟨heapRel_push hr _, by simp, sliceOk_fresh hr _ rfl⟩

theorem newConstH_spec (b : Slice) (w : Nat) (hr : HeapRel hs O h) :
    HeapRel hs O (newConstH h b w).1 ∧ (newConstH h b w).1.length = h.length + 1 ∧
      (newConstH h b w).2.arr = h.length := by
  unfold newConstH
  obtain ⟨ha1, ha2, ha3, ha4⟩ := alloc_spec (h := h) w hr
  obtain ⟨hc1, hc2⟩ := copyH_spec (alloc h w).2 b ha1 ha4
  exact ⟨hc1, hc2.trans ha2, ha3⟩

theorem copyBlocks_spec : ∀ (l : List HBlock) {h : Heap}, HeapRel hs O h →
    HeapRel hs O (copyBlocks h l).1 ∧ h.length ≤ (copyBlocks h l).1.length ∧
      BlocksOk hs O (copyBlocks h l).1 (copyBlocks h l).2
  | [], _, hr => ⟨hr, Nat.le_refl _, fun _ hb => nomatch hb⟩
  | (b, s) :: rest, h, hr => by
    unfold copyBlocks
    split
    · exact copyBlocks_spec rest hr
    · obtain ⟨ha1, ha2, _, ha4⟩ := alloc_spec (h := h) s.len hr
      obtain ⟨hc1, hc2⟩ := copyH_spec (alloc h s.len).2 s ha1 ha4
      obtain ⟨hi1, hi2, hi3⟩ := copyBlocks_spec rest hc1
      simp only
      exact ⟨hi1, by omega, List.forall_mem_cons.2 ⟨sliceOk_mono (by omega) ha4, hi3⟩⟩

theorem mem_sortByBegin (l : List HBlock) (y : HBlock) (h : y ∈ sortByBegin l) : y ∈ l :=
  (InsertSort.sort_perm (p := fun a b : HBlock => a.1 < b.1) (ins := insertByBegin) (fun _ => rfl)
    (fun _ _ _ => rfl) l).mem_iff.1 h

theorem dedupLoopH_spec (cfg : Cfg) : ∀ (fuel : Nat) {h : Heap} {bs : List HBlock} (i j : Nat),
    HeapRel hs O h → BlocksOk hs O h bs → Safe hs O h (dedupLoopH cfg fuel h bs i j)
  | 0, _, _, _, _, hr, hb => by
    unfold dedupLoopH
    exact .ok hr fun b hb' => hb b (List.mem_of_mem_take hb')
  | fuel + 1, h, bs, i, j, hr, hb => by
    unfold dedupLoopH
    split
    · next p c hp hc =>
      split
      · exact .error hr _
      · split
        · obtain ⟨ha1, ha2, ha3⟩ := appendH_spec cfg p.2 c.2 hr (blocksOk_getElem hb hp)
          refine Safe.mono ha2 ?_
          exact dedupLoopH_spec cfg fuel (i + 1) j ha1 (blocksOk_set (blocksOk_mono ha2 hb) ha3)
        · exact dedupLoopH_spec cfg fuel (i + 1) (j + 1) hr (blocksOk_set hb (blocksOk_getElem hb hc))
    · exact .error hr _

theorem dedupBlocksH_spec (cfg : Cfg) {bs : List HBlock} (hr : HeapRel hs O h)
    (hb : BlocksOk hs O h bs) : Safe hs O h (dedupBlocksH cfg h bs) := by
  unfold dedupBlocksH
  split
  · exact .ok hr hb
  · exact dedupLoopH_spec cfg _ 1 1 hr hb

theorem newBytesH_spec (cfg : Cfg) (input : List HBlock) (hr : HeapRel hs O h) :
    Safe hs O h (newBytesH cfg h input) := by
  unfold newBytesH
  obtain ⟨hc1, hc2, hc3⟩ := copyBlocks_spec input hr
  exact (dedupBlocksH_spec cfg hc1 fun b hb' => hc3 b (mem_sortByBegin _ b hb')).mono hc2

theorem loadH_spec (h : Heap) (bs : List HBlock) (addr w : Nat) :
    HeapRel h (fun _ => False) (loadH h bs addr w).1 ∧
      ∀ c, (loadH h bs addr w).2 = .ok (some c) →
        c.arr = h.length ∧ (loadH h bs addr w).1.length = h.length + 1 := by
  unfold loadH
  simp only
  split
  · exact ⟨heapRel_refl _ _, fun _ hc => nomatch hc⟩
  · split
    · exact ⟨heapRel_refl _ _, fun _ hc => nomatch hc⟩
    · split
      · exact ⟨heapRel_refl _ _, fun _ hc => nomatch hc⟩
      · split
        · exact ⟨heapRel_refl _ _, fun _ hc => nomatch hc⟩
        · next s _ =>
          obtain ⟨hn1, hn2, hn3⟩ := newConstH_spec s w (heapRel_refl h fun _ => False)
          refine ⟨hn1, fun c hc => ?_⟩
          cases hc
          exact ⟨hn3, hn2⟩

theorem withWidthH_spec (c : Slice) (w : Nat) (hr : HeapRel hs O h) :
    HeapRel hs O (withWidthH h c w).1 ∧ h.length ≤ (withWidthH h c w).1.length := by
  unfold withWidthH
  split
  · exact ⟨hr, Nat.le_refl _⟩
  · split
    · split <;> exact ⟨hr, Nat.le_refl _⟩
    · obtain ⟨hn1, hn2, _⟩ := newConstH_spec c w hr
      exact ⟨hn1, by rw [hn2]; omega⟩

theorem storeH_spec (cfg : Cfg) (hfix : cfg.fixF05 = true) {bs : List HBlock} (addr : Nat) (data : Slice)
    (hr : HeapRel hs O h) (hb : BlocksOk hs O h bs) :
    Safe hs O h ((storeH cfg h bs addr data).1, (storeH cfg h bs addr data).2.map Prod.fst) := by
  unfold storeH
  split
  · next blockIdx _ =>
    split
    · exact .error hr _
    · next block hblock =>
      simp only
      split
      · exact .error hr _
      · next dst hdst =>
        obtain ⟨hc1, hc2⟩ := copyH_spec dst data hr (reslice_ok hdst (blocksOk_getElem hb hblock))
        exact ⟨hc1, Nat.le_of_eq hc2.symm, fun _ he => by
          cases he
          exact blocksOk_mono (Nat.le_of_eq hc2.symm) hb⟩
  · simp only
    split
    · exact .error hr _
    · next piece _ =>
      rw [if_pos hfix]
      obtain ⟨ha1, ha2, ha3⟩ := appendH_spec cfg nilSlice piece hr (sliceOk_nil hs O h)
      refine ⟨ha1, ha2, fun _ he => ?_⟩
      cases he
      refine blocksOk_set (fun b hb' => ?_) ha3
      rcases List.mem_append.1 hb' with h1 | h1
      · rcases List.mem_append.1 (List.mem_of_mem_take h1) with h2 | h2
        · exact sliceOk_mono ha2 (hb b h2)
        · rw [List.mem_singleton.1 h2]
          exact sliceOk_nil _ _ _
      · exact sliceOk_mono ha2 (hb b (List.mem_of_mem_drop h1))

theorem storeLoopH_spec (cfg : Cfg) (hfix : cfg.fixF05 = true) :
    ∀ (fuel : Nat) {h : Heap} {bs : List HBlock} (addr : Nat) (data : Slice),
      HeapRel hs O h → BlocksOk hs O h bs → Safe hs O h (storeLoopH cfg fuel h bs addr data)
  | 0, _, _, _, _, hr, hb => by
    unfold storeLoopH
    split
    · exact .ok hr hb
    · exact .error hr _
  | fuel + 1, h, bs, addr, data, hr, hb => by
    unfold storeLoopH
    split
    · exact .ok hr hb
    · obtain ⟨hs1, hs2, hs3⟩ := storeH_spec cfg hfix addr data hr hb
      split
      · next h' e heq =>
        rw [heq] at hs1 hs2
        exact (Safe.error hs1 e).mono hs2
      · next h' bs1 n heq =>
        rw [heq] at hs1 hs2 hs3
        split
        · exact (Safe.error hs1 _).mono hs2
        · next data' _ =>
          exact (storeLoopH_spec cfg hfix fuel (addr + n) data' hs1 (hs3 bs1 rfl)).mono hs2

theorem storeConstH_spec (cfg : Cfg) (hfix : cfg.fixF05 = true) {bs : List HBlock} (addr w : Nat)
    (c : Slice) (hr : HeapRel hs O h) (hb : BlocksOk hs O h bs) :
    Safe hs O h (storeConstH cfg h bs addr w c) := by
  unfold storeConstH
  obtain ⟨hw1, hw2⟩ := withWidthH_spec c w hr
  split
  · next h1 e heq =>
    rw [heq] at hw1 hw2
    exact (Safe.error hw1 e).mono hw2
  · next h1 data heq =>
    rw [heq] at hw1 hw2
    have hl := storeLoopH_spec cfg hfix data.len addr data hw1 (blocksOk_mono hw2 hb)
    split
    · next h2 e heq2 =>
      rw [heq2] at hl
      exact (Safe.error hl.frame e).mono (Nat.le_trans hw2 hl.grew)
    · next h2 bs1 heq2 =>
      rw [heq2] at hl
      exact (dedupBlocksH_spec cfg hl.frame (hl.blocks bs1 rfl)).mono (Nat.le_trans hw2 hl.grew)

theorem good_blocksOk {base : Nat} {st : HState} (g : Good base st) :
    BlocksOk st.heap (Owns st.blocks) st.heap st.blocks := fun b hb hv =>
  ⟨Or.inl ⟨b, hb, hv, rfl⟩, (g.blocks b hb hv).2⟩

theorem good_update {base : Nat} {st : HState} (g : Good base st) {h' : Heap} {bs' : List HBlock}
    (hr : HeapRel st.heap (Owns st.blocks) h') (hb : BlocksOk st.heap (Owns st.blocks) h' bs') :
    Good base { st with heap := h', blocks := bs' } := by
  have hnot : ∀ id, id < st.heap.length → ¬ Owns st.blocks id → ¬ Owns bs' id := by
    rintro id hid hno ⟨b, hb', hv, rfl⟩
    rcases (hb b hb' hv).1 with h1 | h1
    · exact hno h1
    · exact Nat.lt_irrefl _ (Nat.lt_of_lt_of_le hid h1)
  refine ⟨Nat.le_trans g.base_le hr.1, fun b hb' hv => ⟨?_, (hb b hb' hv).2⟩, fun c hc => ?_,
    fun m hm => ?_⟩
  · rcases (hb b hb' hv).1 with ⟨b0, hb0, hv0, he⟩ | h1
    · rw [← he]
      exact (g.blocks b0 hb0 hv0).1
    · exact Nat.le_trans g.base_le h1
  · have := g.loaded c hc
    exact ⟨Nat.lt_of_lt_of_le this.1 hr.1, hnot c.arr this.1 this.2⟩
  · have := g.mon m hm
    exact ⟨(read_congr (hr.2 m.1.arr this.2.1 this.2.2)).trans this.1,
      Nat.lt_of_lt_of_le this.2.1 hr.1, hnot m.1.arr this.2.1 this.2.2⟩

theorem good_watch {base : Nat} {st : HState} (g : Good base st) {s : Slice}
    (h1 : s.arr < st.heap.length) (h2 : ¬ Owns st.blocks s.arr) :
    Good base { st with mon := watch st.heap s st.mon } :=
  ⟨g.base_le, g.blocks, g.loaded, fun m hm => by
    unfold watch at hm
    rcases List.mem_append.1 hm with hm' | hm'
    · exact g.mon m hm'
    · rw [List.mem_singleton.1 hm']
      exact ⟨rfl, h1, h2⟩⟩

theorem good_loaded {base : Nat} {st : HState} (g : Good base st) {c : Slice}
    (h1 : c.arr < st.heap.length) (h2 : ¬ Owns st.blocks c.arr) :
    Good base { st with loaded := st.loaded ++ [c] } :=
  ⟨g.base_le, g.blocks, fun x hx => by
    rcases List.mem_append.1 hx with hx' | hx'
    · exact g.loaded x hx'
    · rw [List.mem_singleton.1 hx']
      exact ⟨h1, h2⟩, g.mon⟩

theorem step_spec (cfg : Cfg) (hfix : cfg.fixF05 = true) {base : Nat} {st : HState} (g : Good base st)
    (op : HOp) :
    HeapRel st.heap (Owns st.blocks) (stepH cfg st op).heap ∧
      (WfOp base op → Good base (stepH cfg st op)) := by
  cases op with
  | st addr w c =>
    cases hres : resolve st c with
    | none =>
      simp only [stepH, stepA, hres]
      exact ⟨heapRel_refl _ _, fun _ => g⟩
    | some s =>
      have hs : WfOp base (.st addr w c) → s.arr < st.heap.length ∧ ¬ Owns st.blocks s.arr := by
        intro hop
        cases c with
        | ext s0 =>
          cases hres
          have hb : s.arr < base := hop
          refine ⟨Nat.lt_of_lt_of_le hb g.base_le, ?_⟩
          rintro ⟨b, hb', hv, he⟩
          have := (g.blocks b hb' hv).1
          omega
        | loaded k => exact g.loaded s (List.mem_of_getElem? hres)
      have hsafe := storeConstH_spec cfg hfix addr w s (heapRel_refl _ _) (good_blocksOk g)
      simp only [stepH, stepA, hres]
      rcases hst : storeConstH cfg st.heap st.blocks addr w s with ⟨h', e | bs'⟩
      · rw [hst] at hsafe
        exact ⟨hsafe.frame, fun hop => good_update (good_watch g (hs hop).1 (hs hop).2) hsafe.frame
          fun _ hb => nomatch hb⟩
      · rw [hst] at hsafe
        exact ⟨hsafe.frame, fun hop => good_update (good_watch g (hs hop).1 (hs hop).2) hsafe.frame
          (hsafe.blocks bs' rfl)⟩
  | ld addr w =>
    obtain ⟨hr, hfresh⟩ := loadH_spec st.heap st.blocks addr w
    have hr' : HeapRel st.heap (Owns st.blocks) (loadH st.heap st.blocks addr w).1 :=
      ⟨hr.1, fun i hi _ => hr.2 i hi id⟩
    have g' := good_update g hr' (blocksOk_mono hr.1 (good_blocksOk g))
    simp only [stepH, stepA]
    rcases hl : loadH st.heap st.blocks addr w with ⟨h', e | (_ | c)⟩
    · rw [hl] at hr' g'
      exact ⟨hr', fun _ => g'⟩
    · rw [hl] at hr' g'
      exact ⟨hr', fun _ => g'⟩
    · rw [hl] at hr' g' hfresh
      obtain ⟨hc1, hc2⟩ := hfresh c rfl
      have h1 : c.arr < h'.length := by rw [hc1, hc2]; exact Nat.lt_succ_self _
      have h2 : ¬ Owns st.blocks c.arr := by
        rintro ⟨b, hb, hv, he⟩
        have := (g.blocks b hb hv).2
        rw [he, hc1] at this
        exact Nat.lt_irrefl _ this
      exact ⟨hr', fun _ => good_loaded (good_watch g' h1 h2) h1 h2⟩

theorem good_foldl (cfg : Cfg) (hfix : cfg.fixF05 = true) {base : Nat} : ∀ (ops : List HOp) (st : HState),
    Good base st → (∀ op ∈ ops, WfOp base op) → Good base (ops.foldl (stepH cfg) st) := by
  intro ops
  induction ops with
  | nil => intro st g _; exact g
  | cons op rest ih =>
    intro st g hw
    rw [List.foldl_cons]
    exact ih _ ((step_spec cfg hfix g op).2 (hw op (List.mem_cons_self ..)))
      (fun o ho => hw o (List.mem_cons_of_mem _ ho))

theorem watch_foldl (h0 : Heap) (input : List HBlock) (acc : List (Slice × List UInt8)) :
    input.foldl (fun m b => watch h0 b.2 m) acc =
      acc ++ input.map fun b => (b.2, BytesHeap.read h0 b.2) := by
  induction input generalizing acc with
  | nil => simp
  | cons x rest ih => rw [List.foldl_cons, ih, watch, List.map_cons, List.append_assoc, List.singleton_append]

theorem good_init (cfg : Cfg) (h0 : Heap) (input : List HBlock)
    (hin : ∀ b ∈ input, b.2.arr < h0.length) (bs : List HBlock)
    (hnew : (newBytesH cfg h0 input).2 = .ok bs) :
    Good h0.length { heap := (newBytesH cfg h0 input).1, blocks := bs, loaded := [],
                     mon := input.foldl (fun m b => watch h0 b.2 m) [] } := by
  obtain ⟨hr, hlen, hok⟩ := newBytesH_spec (O := fun _ => False) cfg input (heapRel_refl h0 _)
  have hb := hok bs hnew
  have hnew : ∀ x ∈ bs, Live x.2 → h0.length ≤ x.2.arr := fun x hx hv =>
    (hb x hx hv).1.resolve_left id
  refine ⟨hlen, fun b hb' hv => ⟨hnew b hb' hv, (hb b hb' hv).2⟩, (fun c hc => nomatch hc), ?_⟩
  intro m hm
  rw [watch_foldl, List.nil_append] at hm
  obtain ⟨b, hb', rfl⟩ := List.mem_map.1 hm
  have hlt := hin b hb'
  refine ⟨read_congr (hr.2 b.2.arr hlt id), Nat.lt_of_lt_of_le hlt hlen, ?_⟩
  rintro ⟨x, hx, hv, he⟩
  have := hnew x hx hv
  simp only at he
  omega

/-- after any well-formed history on the repaired code every monitored slice still denotes the
bytes it denoted when it was handed over -/
theorem no_write_through (cfg : Cfg) (hfix : cfg.fixF05 = true) (h0 : Heap) (input : List HBlock)
    (ops : List HOp) (hin : ∀ b ∈ input, b.2.arr < h0.length) (hops : ∀ op ∈ ops, WfOp h0.length op)
    (st : HState) (hrun : runH cfg h0 input ops = some st) :
    ∀ m ∈ st.mon, BytesHeap.read st.heap m.1 = m.2 := by
  unfold runH at hrun
  simp only at hrun
  cases hnew : newBytesH cfg h0 input with
  | mk h1 r =>
    rw [hnew] at hrun
    cases r with
    | error e => cases hrun
    | ok bs =>
      simp only [Option.some.injEq] at hrun
      have g0 := good_init cfg h0 input hin bs (by rw [hnew])
      rw [hnew] at g0
      have := good_foldl cfg hfix ops _ g0 hops
      rw [hrun] at this
      exact fun m hm => (this.mon m hm).1

end Mltwist.Lemmas.BytesHeap
