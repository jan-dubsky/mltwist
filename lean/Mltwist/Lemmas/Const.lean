import Mltwist.Model.Const
import Mltwist.Spec.Gadgets
import Mltwist.Lemmas.Bytes
/-
C27: the constant constructors (`newConst`, `withWidth`, `newConstInt`; `newConstUint`: in `Props/C27.lean`) and the reader `constUint` of
`const.go` against the encoding `natToLE` / `leToNat` (whose arithmetic is in `Mltwist.Lemmas.Bytes`).
-/
namespace Mltwist.Lemmas.Const
open Mltwist
open Mltwist.Lemmas.Bytes (pow8_succ leToNat_lt natToLE_leToNat leToNat_append_two_pow leToNat_take_two_pow)

theorem leToNat_reverse_dropWhile (r : List UInt8) :
    leToNat (r.dropWhile (· == 0)).reverse = leToNat r.reverse := by
  induction r with
  | nil => rfl
  | cons x r ih =>
    rw [List.dropWhile_cons]
    split
    · next h =>
      have hx : x = 0 := by simpa using h
      subst hx
      rw [ih, List.reverse_cons, leToNat_append_two_pow]; simp [leToNat]
    · rfl

theorem newConst_spec (b : List UInt8) (w : Nat) :
    Const.newConst b w = natToLE w (leToNat b) :=
  Bytes.setWidth_eq_natToLE b w

theorem withWidth_spec (bs : List UInt8) (w : Nat) :
    Const.withWidth bs w = natToLE w (leToNat bs) := by
  unfold Const.withWidth
  split
  · next h => rw [← h, natToLE_leToNat]
  · split
    · -- cutting is the first case of `Expreval.setWidth`
      next h => exact (if_pos (Nat.le_of_lt h)).symm.trans (Bytes.setWidth_eq_natToLE bs w)
    · exact newConst_spec bs w

theorem withWidth_length (bs : List UInt8) (w : Nat) : (Const.withWidth bs w).length = w := by
  rw [withWidth_spec, Bytes.natToLE_length]

theorem intLoop_succ (w : Nat) (v : Int) : Const.intLoop (w + 1) v =
   (UInt8.ofNat (v % 256).toNat :: (Const.intLoop w (v / 256)).1, (Const.intLoop w (v / 256)).2) := by
  rw [Const.intLoop]

theorem intLoop_inv (w : Nat) (v : Int) :
    (Const.intLoop w v).1.length = w ∧
      (leToNat (Const.intLoop w v).1 : Int) + (2 ^ (8 * w) : Nat) * (Const.intLoop w v).2 = v := by
  induction w generalizing v with
  | zero => simp [Const.intLoop]
  | succ w ih =>
    obtain ⟨h1, h2⟩ := ih (v / 256)
    rw [intLoop_succ]
    simp only [List.length_cons, h1, leToNat, pow8_succ, UInt8.toNat_ofNat', true_and]
    generalize (Const.intLoop w (v / 256)).2 = r at h2 ⊢
    generalize leToNat (Const.intLoop w (v / 256)).1 = n at h2 ⊢
    generalize 2 ^ (8 * w) = M at h2 ⊢
    rw [Int.natCast_mul, Int.mul_assoc]
    generalize (M : Int) * r = t at h2 ⊢
    omega

theorem getLast_toNat (bs : List UInt8) :
    (bs.getLast?.getD 0).toNat = leToNat bs / 2 ^ (8 * (bs.length - 1)) := by
  induction bs with
  | nil => rfl
  | cons b bs ih =>
    cases bs with
    | nil => simp [leToNat]
    | cons c rest =>
      have := b.toNat_lt
      rw [List.getLast?_cons_cons, ih]
      show leToNat (c :: rest) / 2 ^ (8 * rest.length)
        = (b.toNat + 256 * leToNat (c :: rest)) / 2 ^ (8 * (rest.length + 1))
      rw [pow8_succ, ← Nat.div_div_eq_div_mul]
      congr 1
      omega

theorem signed_range_iff {H n : Nat} {r v : Int} (hn : n < 2 * H)
    (hv : (n : Int) + ((2 * H : Nat) : Int) * r = v) :
    (-(H : Int) ≤ v ∧ v < H) ↔ (r = 0 ∧ n < H) ∨ (r = -1 ∧ H ≤ n) := by
  obtain h | h | h | h : r ≤ -2 ∨ r = -1 ∨ r = 0 ∨ 1 ≤ r := by omega
  · have := Int.mul_le_mul_of_nonneg_left h (Int.natCast_nonneg (2 * H))
    omega
  · subst h; omega
  · subst h; omega
  · have := Int.mul_le_mul_of_nonneg_left h (Int.natCast_nonneg (2 * H))
    omega

theorem newConstInt_spec (val : Int) (w : Nat) (hw : 1 ≤ w) :
    Const.newConstInt val w =
      if -(2 ^ (8 * w - 1) : Int) ≤ val ∧ val < (2 ^ (8 * w - 1) : Int)
      then some (natToLE w (Spec.ofInt w val)) else none := by
  obtain ⟨hlen, hval⟩ := intLoop_inv w val
  unfold Const.newConstInt
  generalize Const.intLoop w val = p at hlen hval
  obtain ⟨bs, rest⟩ := p
  simp only at hlen hval ⊢
  have hlt := leToNat_lt bs
  have hM : 2 ^ (8 * w) = 2 * 2 ^ (8 * w - 1) :=
    (Nat.two_pow_pred_mul_two (by omega)).symm.trans (Nat.mul_comm _ _)
  have htop : 128 ≤ (bs.getLast?.getD 0).toNat ↔ 2 ^ (8 * w - 1) ≤ leToNat bs := by
    have e : 2 ^ (8 * w - 1) = 128 * 2 ^ (8 * (w - 1)) := by
      rw [show 8 * w - 1 = 7 + 8 * (w - 1) by omega, Nat.pow_add]
    rw [getLast_toNat, hlen, e, Nat.le_div_iff_mul_le (Nat.two_pow_pos _)]
  have hofInt : Spec.ofInt w val = leToNat bs := by
    rw [hlen] at hlt
    unfold Spec.ofInt Spec.M
    rw [← hval, Int.add_mul_emod_self_left,
      Int.emod_eq_of_lt (Int.natCast_nonneg _) (Int.ofNat_lt.mpr hlt), Int.toNat_natCast]
  rw [hofInt, ← hlen, natToLE_leToNat, hlen]
  rw [hlen, hM] at hlt
  rw [hM] at hval
  have key := signed_range_iff hlt hval
  rw [show ((2 ^ (8 * w - 1) : Nat) : Int) = (2 : Int) ^ (8 * w - 1) from Int.natCast_pow 2 _] at key
  have hc : ((decide (rest ≠ 0) || decide ((bs.getLast?.getD 0).toNat ≥ 128)) &&
      (decide (rest ≠ -1) || decide ((bs.getLast?.getD 0).toNat < 128))) = true ↔
      ¬ (-(2 ^ (8 * w - 1) : Int) ≤ val ∧ val < (2 ^ (8 * w - 1) : Int)) := by
    rw [key]
    simp only [Bool.and_eq_true, Bool.or_eq_true, decide_eq_true_eq, ge_iff_le, htop]
    omega
  simp only [hc, ite_not]

theorem nonzeroUpperIdx_spec (bs : List UInt8) :
    leToNat bs < 2 ^ (8 * (Const.nonzeroUpperIdx bs + 1)) ∧
      (Const.nonzeroUpperIdx bs ≠ 0 → 2 ^ (8 * Const.nonzeroUpperIdx bs) ≤ leToNat bs) := by
  unfold Const.nonzeroUpperIdx
  have hrev := leToNat_reverse_dropWhile bs.reverse
  rw [List.reverse_reverse] at hrev
  have hnn := List.head_dropWhile_not (· == (0 : UInt8)) (l := bs.reverse)
  generalize bs.reverse.dropWhile (· == 0) = l at hrev hnn
  cases l with
  | nil => exact ⟨by rw [← hrev]; exact Nat.two_pow_pos _, fun h => absurd rfl h⟩
  | cons x l =>
    -- the top byte `x` is non-zero, so the value is at least the weight of its position
    have hx0 : x ≠ 0 := by simpa using hnn (by simp)
    have hx : 1 ≤ x.toNat := by
      rcases Nat.eq_zero_or_pos x.toNat with h | h
      · exact absurd (UInt8.toNat_inj.mp (by simpa using h)) hx0
      · exact h
    have hlt := leToNat_lt (x :: l).reverse
    rw [List.reverse_cons, leToNat_append_two_pow] at hrev hlt
    simp only [List.length_reverse, List.length_append, List.length_cons, List.length_nil, leToNat, Nat.mul_zero,
      Nat.add_zero, Nat.zero_add] at hrev hlt
    have := Nat.mul_le_mul_left (2 ^ (8 * l.length)) hx
    simp only [List.length_cons, Nat.add_sub_cancel]
    rw [← hrev]
    exact ⟨hlt, fun _ => by omega⟩

theorem constUint_spec (size : Nat) (bs : List UInt8) (hs : 1 ≤ size) :
    Const.constUint size bs =
      (leToNat bs % 2 ^ (8 * size), decide (leToNat bs < 2 ^ (8 * size))) := by
  obtain ⟨hlt, hge⟩ := nonzeroUpperIdx_spec bs
  unfold Const.constUint
  generalize Const.nonzeroUpperIdx bs = idx at hlt hge
  simp only [leToNat_take_two_pow]
  split
  · next h =>
    have : 2 ^ (8 * size) ≤ 2 ^ (8 * idx) := Nat.pow_le_pow_right (by omega) (by omega)
    have := hge (by omega)
    rw [decide_eq_false (by omega)]
  · next h =>
    have : 2 ^ (8 * (idx + 1)) ≤ 2 ^ (8 * size) := Nat.pow_le_pow_right (by omega) (by omega)
    rw [Nat.mod_eq_of_lt hlt, Nat.mod_eq_of_lt (by omega), decide_eq_true (by omega)]

end Mltwist.Lemmas.Const
