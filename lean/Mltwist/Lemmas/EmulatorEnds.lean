import Mltwist.Lemmas.EmulatorFill
/-
Emulator (C03, C04): how an evaluation inside `Step` that cannot panic ends (`Ends`: it succeeds, exactly inside its
domain condition, after provider fills; or `checkAccess` stops it, after such fills, at a located access), and the rules
for sequencing such evaluations (`Ends.bind`, `Ends.map`), which the theorems about the phases of evaluation
(`EmulatorEval`) are stated and proved with.
-/
namespace Mltwist.Lemmas.Emulator
open Mltwist Mltwist.State Mltwist.Overlay Mltwist.Emulator Mltwist.Spec.Overlay

/-- How the model sequences evaluations inside `Step`: its `match x with | .error e => .error e | .ok (r, c1) => k r c1`.
The matcher of the model and the one of this definition are different constants with the same body, which the
elaborator does not unfold while they are stuck: the equations that put the model's functions into this form
(`evalMem_binary` …) are `rfl` only under `set_option smartUnfolding false`. -/
def andThen {α β : Type} (x : Except Stop (α × Ctx)) (k : α → Ctx → Except Stop (β × Ctx)) : Except Stop (β × Ctx) :=
  match x with
  | .error e => .error e
  | .ok (r, c1) => k r c1

/-- The evaluation `x`, started in the context `c`, does not panic: it succeeds (`ok`) or `checkAccess` (REPAIR F45) stops
it (`stop`), after provider fills of the kind `Q`.  `D` is there for the domain conditions the statements of C03/C04 speak
(`EvalMemDom` … `StepDom`): they are defined along the model's own recursion, and with `D` in BOTH branches `Ends.bind`
yields `D ↔ success` phase by phase, with no second traversal of the evaluator.  `step_total` is the last to mention it
(`Steps.dom`, `StepAt.stops`); only the `_in_domain` theorems of C03/C04, C03 `memory_shape` and the `¬ StepDom` of
`step_shape` read it. -/
inductive Ends {α : Type} (p : Provider) (Q : Req → Prop) (c : Ctx) (x : Except Stop (α × Ctx)) (post : α → Ctx → Prop)
    (stop : Ctx → Nat → Nat → Prop) (D : Prop) : Prop where
  | ok {r : α} {c' : Ctx} : x = .ok (r, c') → Fills p Q c c' → post r c' → D → Ends p Q c x post stop D
  | stop {c' : Ctx} {a w : Nat} : x = .error (.access c' a w) → Fills p Q c c' → stop c' a w → ¬ D →
      Ends p Q c x post stop D

namespace Ends
variable {α β : Type} {p : Provider} {Q : Req → Prop} {c : Ctx} {x : Except Stop (α × Ctx)}
  {P post : α → Ctx → Prop} {stop : Ctx → Nat → Nat → Prop} {D : Prop}

theorem of_ok {r : α} {c1 : Ctx} (hx : x = .ok (r, c1)) (hf : Fills p Q c c1) (h : post r c1) :
    Ends p Q c x post stop True :=
  .ok hx hf h trivial

theorem of_dom (h : Ends p Q c x post stop D) (hd : D) : ∃ r c', x = .ok (r, c') ∧ Fills p Q c c' ∧ post r c' := by
  rcases h with ⟨h1, h2, h3, _⟩ | ⟨_, _, _, hnd⟩
  · exact ⟨_, _, h1, h2, h3⟩
  · exact absurd hd hnd

theorem dom_congr {D' : Prop} (h : Ends p Q c x post stop D) (hd : D ↔ D') : Ends p Q c x post stop D' :=
  propext hd ▸ h

theorem mono {Q' : Req → Prop} {post' : α → Ctx → Prop} {stop' : Ctx → Nat → Nat → Prop}
    (h : Ends p Q c x post stop D) (hq : ∀ r, Q r → Q' r) (hp : ∀ r c', Fills p Q c c' → post r c' → post' r c')
    (hs : ∀ c' a w, Fills p Q c c' → stop c' a w → stop' c' a w) : Ends p Q' c x post' stop' D := by
  rcases h with ⟨h1, h2, h3, h4⟩ | ⟨h1, h2, h3, h4⟩
  · exact .ok h1 (h2.mono hq) (hp _ _ h2 h3) h4
  · exact .stop h1 (h2.mono hq) (hs _ _ _ h2 h3) h4

/-- Sequencing.  The continuation is handed the fills from the begin (`Fills.trans`); a stop of either part is a stop of
the whole; the whole is inside the domain iff both parts are — which is how the domain conditions of the model's
traversals (`EvalMemDom` …) are defined. -/
theorem bind {k : α → Ctx → Except Stop (β × Ctx)} {post : β → Ctx → Prop} {D1 : Prop} {D2 : α → Ctx → Prop}
    (h1 : Ends p Q c x P stop D1)
    (h2 : ∀ r c1, x = .ok (r, c1) → Fills p Q c c1 → P r c1 →
      Ends p Q c1 (k r c1) (fun s c2 => Fills p Q c c2 → post s c2) stop (D2 r c1)) :
    Ends p Q c (andThen x k) post stop (D1 ∧ ∀ r c1, x = .ok (r, c1) → D2 r c1) := by
  rcases h1 with @⟨r, c1, hx, hf, hp, hd⟩ | ⟨hx, hf, hb, hnd⟩
  · have hk : andThen x k = k r c1 := by rw [hx]; rfl
    rcases h2 r c1 hx hf hp with ⟨hk2, hf2, hp2, hd2⟩ | ⟨hk2, hf2, hb, hnd⟩
    · have hf' := hf.trans hf2 (fun _ h => h) (fun _ h => h)
      exact .ok (hk.trans hk2) hf' (hp2 hf') ⟨hd, fun r' c1' h => by cases hx.symm.trans h; exact hd2⟩
    · exact .stop (hk.trans hk2) (hf.trans hf2 (fun _ h => h) (fun _ h => h)) hb fun h => hnd (h.2 r c1 hx)
  · exact .stop (by rw [hx]; rfl) hf hb fun h => hnd h.1

theorem map {k : α → Ctx → Except Stop (β × Ctx)} {post : β → Ctx → Prop} (h : Ends p Q c x P stop D)
    (hk : ∀ r c1, Fills p Q c c1 → P r c1 → ∃ s, k r c1 = .ok (s, c1) ∧ post s c1) :
    Ends p Q c (andThen x k) post stop D := by
  rcases h with ⟨hx, hf, h, hd⟩ | ⟨hx, hf, hb, hnd⟩
  · obtain ⟨s, h1, h2⟩ := hk _ _ hf h
    exact .ok (by rw [hx]; exact h1) hf h2 hd
  · exact .stop (by rw [hx]; rfl) hf hb hnd

end Ends

end Mltwist.Lemmas.Emulator
