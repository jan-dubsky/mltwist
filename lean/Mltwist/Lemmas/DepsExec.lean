import Mltwist.Spec.Deps
/-
Execution side of C05 (`Spec/Deps.lean`): the frame property of expression evaluation and of an
effect list, commutation of two non-conflicting instructions, and invariance of `runFrom` under
swapping two adjacent non-conflicting instructions of a contiguously laid out block, hence under
moving one instruction over several, hence under every rearrangement that keeps the order of the
conflicting pairs (`runFrom_reorder`).
-/
namespace Mltwist.Lemmas.Deps
open Mltwist Mltwist.Spec.Lift Mltwist.Deps.Spec

/-- lay the instructions out contiguously from address `a` (addresses are not reduced modulo `2 ^ 64`: the theorems assume `a + bytes l ≤ 2 ^ 64`) -/
def layout : Nat → List SIns → List SIns
  | _, [] => []
  | a, i :: rest => { i with addr := a } :: layout (a + i.len) rest

/-- total length -/
def bytes (l : List SIns) : Nat := (l.map (·.len)).sum

/-- C05 (b), frame of evaluation: an expression only looks at the registers and memories it names -/
theorem eval_congr (e : Expr) (ρ ρ' : Env)
    (hr : ∀ k ∈ regReads e, ρ.reg k = ρ'.reg k) (hm : ∀ k ∈ memReads e, ρ.mem k = ρ'.mem k) :
    e.eval ρ = e.eval ρ' := by
  induction e with
  | const bs => rfl
  | binary op a b w iha ihb =>
    simp only [regReads, memReads, List.forall_mem_append] at hr hm
    simp only [Expr.eval, iha hr.1 hm.1, ihb hr.2 hm.2]
  | less a b t f w iha ihb iht ihf =>
    simp only [regReads, memReads, List.forall_mem_append] at hr hm
    simp only [Expr.eval, iha hr.1.1.1 hm.1.1.1, ihb hr.1.1.2 hm.1.1.2, iht hr.1.2 hm.1.2,
      ihf hr.2 hm.2]
  | memLoad k a w iha =>
    simp only [regReads, memReads, List.forall_mem_cons] at hr hm
    simp only [Expr.eval, iha hr hm.2, hm.1]
  | regLoad k w => simp only [Expr.eval, hr k (List.mem_singleton.2 rfl)]

/-- C05 (b), frame of an effect list, for the fold behind `Env.applyEffects` from any start valuation:
registers that are not written keep their value -/
theorem foldl_reg_of_not_mem (pre : Env) (efs : List Effect) (k : String) (cur : Env)
    (h : k ∉ efs.flatMap effRegWrites) :
    (efs.foldl (applyEffect pre) cur).reg k = cur.reg k := by
  induction efs generalizing cur with
  | nil => rfl
  | cons ef rest ih =>
    simp only [List.flatMap_cons, List.mem_append, not_or] at h
    rw [List.foldl_cons, ih _ h.2]
    cases ef with
    | regStore v k' w =>
      simp only [effRegWrites, List.mem_singleton] at h
      simp [applyEffect, h.1]
    | memStore v k' a w => rfl

/-- … and memories that are not written keep their contents -/
theorem foldl_mem_of_not_mem (pre : Env) (efs : List Effect) (k : String) (cur : Env)
    (h : k ∉ efs.flatMap effMemWrites) :
    (efs.foldl (applyEffect pre) cur).mem k = cur.mem k := by
  induction efs generalizing cur with
  | nil => rfl
  | cons ef rest ih =>
    simp only [List.flatMap_cons, List.mem_append, not_or] at h
    rw [List.foldl_cons, ih _ h.2]
    cases ef with
    | regStore v k' w => rfl
    | memStore v k' a w =>
      simp only [effMemWrites, List.mem_singleton] at h
      simp [applyEffect, h.1]

theorem applyEffect_pre_congr (ρ ρ' cur : Env) (ef : Effect)
    (hr : ∀ k ∈ effRegReads ef, ρ.reg k = ρ'.reg k)
    (hm : ∀ k ∈ effMemReads ef, ρ.mem k = ρ'.mem k) :
    applyEffect ρ cur ef = applyEffect ρ' cur ef := by
  cases ef with
  | regStore v k w =>
    simp only [effRegReads, effMemReads] at hr hm
    simp only [applyEffect]
    rw [eval_congr v ρ ρ' hr hm]
  | memStore v k a w =>
    simp only [effRegReads, effMemReads, List.forall_mem_append] at hr hm
    simp only [applyEffect]
    rw [eval_congr v ρ ρ' hr.2 hm.2, eval_congr a ρ ρ' hr.1 hm.1]

theorem foldl_pre_congr (ρ ρ' : Env) (efs : List Effect) (cur : Env)
    (hr : ∀ k ∈ efs.flatMap effRegReads, ρ.reg k = ρ'.reg k)
    (hm : ∀ k ∈ efs.flatMap effMemReads, ρ.mem k = ρ'.mem k) :
    efs.foldl (applyEffect ρ) cur = efs.foldl (applyEffect ρ') cur := by
  induction efs generalizing cur with
  | nil => rfl
  | cons ef rest ih =>
    simp only [List.flatMap_cons, List.forall_mem_append] at hr hm
    rw [List.foldl_cons, List.foldl_cons, applyEffect_pre_congr ρ ρ' cur ef hr.1 hm.1,
      ih _ hr.2 hm.2]

theorem applyEffect_comm (pre cur : Env) (e1 e2 : Effect)
    (hr : ∀ k ∈ effRegWrites e1, k ∉ effRegWrites e2)
    (hm : ∀ k ∈ effMemWrites e1, k ∉ effMemWrites e2) :
    applyEffect pre (applyEffect pre cur e1) e2 = applyEffect pre (applyEffect pre cur e2) e1 := by
  cases e1 with
  | regStore v1 k1 w1 =>
    cases e2 with
    | regStore v2 k2 w2 =>
      have hne : k1 ≠ k2 := by
        have := hr k1 (by simp [effRegWrites])
        simpa [effRegWrites] using this
      simp only [applyEffect, Env.mk.injEq, and_true]
      funext k'
      by_cases h2 : k' = k2
      · subst h2
        have : ¬ k' = k1 := fun h => hne h.symm
        simp [this]
      · simp [h2]
    | memStore v2 k2 a2 w2 => rfl
  | memStore v1 k1 a1 w1 =>
    cases e2 with
    | regStore v2 k2 w2 => rfl
    | memStore v2 k2 a2 w2 =>
      have hne : k1 ≠ k2 := by
        have := hm k1 (by simp [effMemWrites])
        simpa [effMemWrites] using this
      simp only [applyEffect, Env.mk.injEq, true_and]
      funext k'
      by_cases h2 : k' = k2
      · subst h2
        have : ¬ k' = k1 := fun h => hne h.symm
        simp [this]
      · have hne' : ¬ k2 = k1 := fun h => hne h.symm
        by_cases h1 : k' = k1
        · subst h1; simp [h2]
        · simp [h2, h1]

theorem foldl_comm_one (pre : Env) (B : List Effect) (a : Effect) (cur : Env)
    (hr : ∀ k ∈ effRegWrites a, k ∉ B.flatMap effRegWrites)
    (hm : ∀ k ∈ effMemWrites a, k ∉ B.flatMap effMemWrites) :
    B.foldl (applyEffect pre) (applyEffect pre cur a) =
      applyEffect pre (B.foldl (applyEffect pre) cur) a := by
  induction B generalizing cur with
  | nil => rfl
  | cons b B' ih =>
    simp only [List.flatMap_cons, List.mem_append, not_or] at hr hm
    rw [List.foldl_cons, List.foldl_cons,
      applyEffect_comm pre cur a b (fun k hk => (hr k hk).1) (fun k hk => (hm k hk).1),
      ih _ (fun k hk => (hr k hk).2) (fun k hk => (hm k hk).2)]

theorem foldl_comm (pre : Env) (A B : List Effect) (cur : Env)
    (hr : ∀ k ∈ A.flatMap effRegWrites, k ∉ B.flatMap effRegWrites)
    (hm : ∀ k ∈ A.flatMap effMemWrites, k ∉ B.flatMap effMemWrites) :
    B.foldl (applyEffect pre) (A.foldl (applyEffect pre) cur) =
      A.foldl (applyEffect pre) (B.foldl (applyEffect pre) cur) := by
  induction A generalizing cur with
  | nil => rfl
  | cons a A' ih =>
    simp only [List.flatMap_cons, List.forall_mem_append] at hr hm
    rw [List.foldl_cons, List.foldl_cons, ih _ hr.2 hm.2, foldl_comm_one pre B a cur hr.1 hm.1]

theorem applyEffects_after (ρ : Env) (A B : List Effect)
    (hr : ∀ k ∈ A.flatMap effRegWrites, k ∉ B.flatMap effRegReads)
    (hm : ∀ k ∈ A.flatMap effMemWrites, k ∉ B.flatMap effMemReads) :
    Env.applyEffects (Env.applyEffects ρ A) B =
      B.foldl (applyEffect ρ) (A.foldl (applyEffect ρ) ρ) := by
  unfold Env.applyEffects
  apply foldl_pre_congr
  · intro k hk
    exact foldl_reg_of_not_mem ρ A k ρ (fun h => hr k h hk)
  · intro k hk
    exact foldl_mem_of_not_mem ρ A k ρ (fun h => hm k h hk)

/-- C05 (c): two non-conflicting instructions commute on valuations -/
theorem applyEffects_comm (x y : SIns) (h : ¬ Conflict x y) (ρ : Env) :
    Env.applyEffects (Env.applyEffects ρ x.effects) y.effects =
      Env.applyEffects (Env.applyEffects ρ y.effects) x.effects := by
  simp only [Conflict, not_or, Meets, not_exists, not_and] at h
  obtain ⟨h1, h2, h3, h4, h5, h6, -⟩ := h
  rw [applyEffects_after ρ x.effects y.effects h1 h4,
    applyEffects_after ρ y.effects x.effects (fun k hk hk' => h3 k hk' hk)
      (fun k hk hk' => h6 k hk' hk)]
  exact foldl_comm ρ x.effects y.effects ρ h2 h5

theorem nextIp_foldl_of_not_mem (ρ : Env) (efs : List Effect) (fall : Nat)
    (h : ipKey ∉ efs.flatMap effRegWrites) : nextIp ρ efs fall = fall := by
  unfold nextIp
  induction efs generalizing fall with
  | nil => rfl
  | cons ef rest ih =>
    simp only [List.flatMap_cons, List.mem_append, not_or] at h
    rw [List.foldl_cons]
    cases ef with
    | regStore v k w =>
      have hk : ¬ k = ipKey := by
        have := h.1
        simp only [effRegWrites, List.mem_singleton] at this
        exact fun e => this e.symm
      simp only [hk, if_false]
      exact ih fall h.2
    | memStore v k a w => exact ih fall h.2

theorem nextIp_of_not_writesIp (x : SIns) (h : x.writesIp = false) (ρ : Env) (fall : Nat) :
    nextIp ρ x.effects fall = fall := by
  apply nextIp_foldl_of_not_mem
  simpa [SIns.writesIp, SIns.regOut] using h

theorem bytes_nil : bytes [] = 0 := rfl

theorem bytes_cons (i : SIns) (l : List SIns) : bytes (i :: l) = i.len + bytes l := by
  simp [bytes]

theorem bytes_append (A B : List SIns) : bytes (A ++ B) = bytes A + bytes B := by
  simp [bytes]

/-- a common prefix `P` can be ignored when the two continuations behave alike from every
valuation and every instruction pointer (no hypothesis on wrap-around is needed) -/
theorem runFrom_layout_prefix (P L₁ L₂ : List SIns) (a : Nat)
    (hL : ∀ ρ' ip', runFrom (layout (a + bytes P) L₁) ρ' ip' =
      runFrom (layout (a + bytes P) L₂) ρ' ip')
    (ρ : Env) (ip : Nat) :
    runFrom (layout a (P ++ L₁)) ρ ip = runFrom (layout a (P ++ L₂)) ρ ip := by
  induction P generalizing a ρ ip with
  | nil => simpa [bytes] using hL ρ ip
  | cons p P' ih =>
    simp only [List.cons_append, layout, runFrom]
    split
    · apply ih
      intro ρ' ip'
      have := hL ρ' ip'
      rw [bytes_cons, ← Nat.add_assoc] at this
      exact this
    · rfl

theorem runFrom_swap_core (S : List SIns) (x y : SIns) (h : ¬ Conflict x y) (b : Nat)
    (hx : 0 < x.len) (hy : 0 < y.len) (htop : b + x.len + y.len ≤ 2 ^ 64) (ρ : Env) (ip : Nat) :
    runFrom (layout b (y :: x :: S)) ρ ip = runFrom (layout b (x :: y :: S)) ρ ip := by
  have hxip : x.writesIp = false := Bool.eq_false_iff.2 fun hw => h (by simp [Conflict, hw])
  have hyip : y.writesIp = false := Bool.eq_false_iff.2 fun hw => h (by simp [Conflict, hw])
  simp only [layout, runFrom, step]
  by_cases hip : ip = b
  · subst hip
    have h1 : (ip + x.len) % 2 ^ 64 = ip + x.len := Nat.mod_eq_of_lt (by omega)
    have h2 : (ip + y.len) % 2 ^ 64 = ip + y.len := Nat.mod_eq_of_lt (by omega)
    simp only [nextIp_of_not_writesIp x hxip, nextIp_of_not_writesIp y hyip, h1, h2, if_true]
    rw [applyEffects_comm x y h ρ, Nat.add_right_comm ip y.len x.len]
  · simp only [hip, if_false]

/-- C05 (c), (d): swapping two adjacent instructions of a contiguous layout that do not conflict (in one of
the two orders) does not change the behaviour.  Positive lengths are necessary: an instruction of
length 0 stands at the address of its successor, and `runFrom` compares addresses. -/
theorem runFrom_swap (P S : List SIns) (x y : SIns) (h : ¬ Conflict x y ∨ ¬ Conflict y x) (a : Nat)
    (htop : a + bytes P + x.len + y.len ≤ 2 ^ 64) (hx : 0 < x.len) (hy : 0 < y.len) (ρ : Env)
    (ip : Nat) :
    runFrom (layout a (P ++ y :: x :: S)) ρ ip = runFrom (layout a (P ++ x :: y :: S)) ρ ip := by
  apply runFrom_layout_prefix
  intro ρ' ip'
  rcases h with h | h
  · exact runFrom_swap_core S x y h _ hx hy htop ρ' ip'
  · exact (runFrom_swap_core S y x h _ hy hx (by omega) ρ' ip').symm

/-- C05 (d): a product of adjacent swaps -/
theorem runFrom_move (P Q S : List SIns) (m : SIns) (h : ∀ z ∈ Q, ¬ Conflict m z ∨ ¬ Conflict z m)
    (a : Nat) (htop : a + bytes P + m.len + bytes Q ≤ 2 ^ 64) (hm : 0 < m.len)
    (hQ : ∀ z ∈ Q, 0 < z.len) (ρ : Env) (ip : Nat) :
    runFrom (layout a (P ++ Q ++ m :: S)) ρ ip = runFrom (layout a (P ++ m :: Q ++ S)) ρ ip := by
  induction Q generalizing P with
  | nil => simp
  | cons z Q ih =>
    have h1 := ih (P ++ [z]) (fun w hw => h w (List.mem_cons_of_mem _ hw))
      (by simp only [bytes_append, bytes_cons, bytes_nil] at htop ⊢; omega)
      (fun w hw => hQ w (List.mem_cons_of_mem _ hw))
    have h2 := runFrom_swap P (Q ++ S) m z (h z List.mem_cons_self) a
      (by rw [bytes_cons] at htop; omega) hm (hQ z List.mem_cons_self) ρ ip
    simp only [List.append_assoc, List.cons_append, List.nil_append] at h1 h2 ⊢
    exact h1.trans h2

/-- C05 (d), for any rearrangement: two orders of the same instructions (`g` of the members of `L`,
`L'`) that agree on every pair that conflicts behave alike when laid out contiguously.  The head of
`L'` comes to the front of `L` over instructions that stand behind it in `L'` too; then the tails. -/
theorem runFrom_reorder {κ : Type} (g : κ → SIns) (L L' : List κ) (hp : L'.Perm L)
    (hsw : ∀ i j, [i, j].Sublist L → [j, i].Sublist L' → ¬ Conflict (g i) (g j))
    (a : Nat) (htop : a + bytes (L.map g) ≤ 2 ^ 64) (hpos : ∀ i ∈ L, 0 < (g i).len) (ρ : Env)
    (ip : Nat) : runFrom (layout a (L'.map g)) ρ ip = runFrom (layout a (L.map g)) ρ ip := by
  induction L' generalizing L a ρ ip with
  | nil => rw [hp.symm.eq_nil]
  | cons x T ih =>
    obtain ⟨A, B, rfl⟩ := List.append_of_mem (hp.subset List.mem_cons_self)
    have hT : T.Perm (A ++ B) := (hp.trans List.perm_middle).cons_inv
    have hb : bytes ((A ++ x :: B).map g) = (g x).len + bytes ((A ++ B).map g) := by
      simp only [List.map_append, List.map_cons, bytes_append, bytes_cons]; omega
    have h1 := runFrom_move [] (A.map g) (B.map g) (g x)
      (fun z hz => by
        obtain ⟨k, hk, rfl⟩ := List.mem_map.1 hz
        refine .inr (hsw k x ?_ ?_)
        · exact (List.singleton_sublist.2 hk).append (List.Sublist.cons_cons _ (List.nil_sublist _))
        · exact List.Sublist.cons_cons _
            (List.singleton_sublist.2 (hT.symm.subset (List.mem_append_left _ hk))))
      a (by rw [hb, List.map_append, bytes_append] at htop; simp only [bytes_nil]; omega)
      (hpos x (by simp))
      (fun z hz => by obtain ⟨k, hk, rfl⟩ := List.mem_map.1 hz; exact hpos k (by simp [hk])) ρ ip
    simp only [List.nil_append, List.map_append, List.map_cons] at h1 ⊢
    rw [h1, List.cons_append, ← List.map_append]
    simp only [layout, runFrom]
    split
    · exact ih (A ++ B) hT
        (fun i j h1 h2 => hsw i j
          (h1.trans (List.Sublist.append_left (List.sublist_cons_self _ _) _)) (h2.cons _))
        _ (by rw [hb] at htop; omega)
        (fun i hi => hpos i (by rcases List.mem_append.1 hi with h | h <;> simp [h])) _ _
    · rfl

end Mltwist.Lemmas.Deps
