import Mltwist.Props.C16
import Mltwist.Lemmas.MemViewMem
import Mltwist.Model.Compose
import Mltwist.Props.C04
import Mltwist.Lemmas.UI
/-
COMPOSITION: the emulator parameter of the console UI (C22 `EmuOps`/`EmuLawful`, `Model/UI.lean`,
`Lemmas/UI.lean`) instantiated with the REAL emulator (C03/C04, `Model/Emulator.lean`) on the real state (C18
registers; C14 sparse, C15 bytes, C16 overlay memories).

Memory.  C32 is stated over an abstraction `MemView.Mem` of `memory.Memory` with instances for one sparse and one byte
memory only, but the memory view is given the values of `State.Mems`: `Overlay(Bytes(image), Sparse)` for `memory`, a
`Sparse` for every other key.  `ofMem m` is the `MemView.Mem` of any stack of memories, and `ofMem_coh` says that it is
coherent in the sense of C32 with the layered byte map `m.abs` of C16 when every layer satisfies its invariant, stores
constants only, and no present byte sits at `2^64 - 1`.

Emulator.  (`ofMem`, `ESt`, `stepTree`, `emuOps` and what they are made of are defined in `Model/Compose.lean`.)
`stepTree` is `Emulator.Step()` with the console as state provider, as the interaction tree C22 expects: the step is
replayed with the answers typed so far, the first request without an answer is the next prompt; an access that leaves
the address space (`addr + w ≥ 2^64`, F45) is an ordinary error of `Step` after the prompts that precede it.  `EGood` are
the emulator states that arise: well-formed code (C03), `Ready` (C04), a register file that is a map (C18), no byte at
the top of the address space.  `emu_lawful` proves every field of `EmuLawful` for `emuOps bs cv`.
-/
namespace Mltwist.Lemmas.Compose

section
open Mltwist Mltwist.Overlay Mltwist.MemView Mltwist.Spec.Overlay Mltwist.Spec.Sparse
open Mltwist.Lemmas.MemView Mltwist.Lemmas.Emulator

/-- the bytes of the layered byte map (constants: evaluated under any valuation) -/
def memBytes (m : Overlay.Mem) : Nat → Option UInt8 := fun a =>
  match m.abs a with
  | none => none
  | some v => some (UInt8.ofNat (v Lemmas.MemView.ρ0))

/-- no present byte at address `2^64 - 1` (every access of the emulator lies in the domain of C14, and the image
does not reach the top of the address space: C20 `Fits`) -/
def PresentBounded (A : AbsMem) : Prop := ∀ a, A a ≠ none → a + 1 < 2 ^ 64

theorem ofMem_eq (m : Overlay.Mem) : ofMem m = ofView m.view := rfl

theorem memBytes_eq (m : Overlay.Mem) : memBytes m = bytesOf m.abs := by
  funext a
  unfold memBytes bytesOf
  cases m.abs a <;> rfl

theorem ofMem_coh (m : Overlay.Mem) (hinv : m.Inv) (hc : AllConst m) (hb : PresentBounded m.abs) :
    ∃ bl, NormalR bl ∧ Bounded bl ∧ Coh (ofMem m) bl (memBytes m) ∧ ∀ a, MemR a bl ↔ m.abs a ≠ none := by
  rw [ofMem_eq, memBytes_eq]
  exact coh_of_laws (Props.C16.mem_laws m hinv) hb (mem_shape m hinv hc)

/-- the layering the tool uses (C16 `sparse_over_bytes`): a sparse layer of constants over the byte image -/
theorem sparse_over_bytes_coh (bs : List BytesMem.Block) (t : Sparse.Tree) (hbs : BytesSpec.Inv bs)
    (ht : Sparse.Inv t) (hct : ∀ kv ∈ t, IsByteConst kv.val.ex)
    (hb : PresentBounded (Mem.overlay (.bytes bs) (.sparse t)).abs) :
    ∃ bl, NormalR bl ∧ Bounded bl ∧
      Coh (ofMem (.overlay (.bytes bs) (.sparse t))) bl (memBytes (.overlay (.bytes bs) (.sparse t))) ∧
      ∀ a, MemR a bl ↔
        layer (Spec.Overlay.ofSparse (Sparse.abs t)) (Spec.Overlay.ofBytes (BytesSpec.ofBlocks bs)) a ≠ none :=
  ofMem_coh (.overlay (.bytes bs) (.sparse t)) ⟨hbs, ht⟩ ⟨trivial, hct⟩ hb

end

open Mltwist Mltwist.State Mltwist.Overlay Mltwist.Emulator Mltwist.UI
open Mltwist.Lemmas.Emulator Mltwist.Lemmas.UI Mltwist.Lemmas.State
open Mltwist.Spec.Overlay (AbsMem)

/-- the register file is a map: no key twice (C18) -/
def KeysNodup (m : RegMap) : Prop := (m.map (·.1)).Nodup

theorem keys_assocSet_eq {α : Type} (k : String) (v : α) : ∀ m : List (String × α),
    (assocSet k v m).map (·.1) = if k ∈ m.map (·.1) then m.map (·.1) else m.map (·.1) ++ [k]
  | [] => rfl
  | (k', v') :: rest => by
    unfold assocSet
    simp only [List.map_cons, List.mem_cons]
    by_cases hk : k' = k
    · rw [if_pos hk, if_pos (Or.inl hk.symm), List.map_cons, hk]
    · rw [if_neg hk, List.map_cons, keys_assocSet_eq k v rest]
      by_cases hm : k ∈ rest.map (·.1)
      · rw [if_pos hm, if_pos (Or.inr hm)]
      · rw [if_neg hm, if_neg (fun h => h.elim (fun h => hk h.symm) hm)]
        rfl

theorem keys_assocSet {α : Type} (k : String) (v : α) (m : List (String × α)) (h : (m.map (·.1)).Nodup) :
    ((assocSet k v m).map (·.1)).Nodup := by
  rw [keys_assocSet_eq]
  split
  · exact h
  · next hk => exact List.nodup_append.2 ⟨h, List.pairwise_singleton _ k, fun a ha b hb => by
      rw [List.mem_singleton.1 hb]; exact fun he => hk (he ▸ ha)⟩

theorem keys_store (m : RegMap) (k : String) (e : Expr) (w : Nat) (h : KeysNodup m) : KeysNodup (m.store k e w) :=
  keys_assocSet k _ m h

/-- what the steps of the emulator keep beyond `Inv`/`Ready` of C03/C04: the register file is a map and no address space
has a byte at `2^64 - 1` -/
structure Extra (s : State.State) : Prop where
  keys : KeysNodup s.regs
  bounded : ∀ key, PresentBounded (s.mems.abs key)

theorem bounded_store {s : State.State} (h : Inv s) (hb : ∀ key, PresentBounded (s.mems.abs key))
    {key : String} {a w : Nat} {c : List UInt8} {mems' : MemMap} (hd : InDom a w)
    (hs : s.mems.store key a (.const c) w = .ok mems') : ∀ key', PresentBounded (mems'.abs key') := by
  intro key' x hx
  rw [abs_store_const h.good hd hs] at hx
  split at hx
  · have := hd.2.2; omega
  · exact hb key' x hx

theorem Stores.extra {s s' : State.State} (h : Stores s s') (hi : Inv s) (hx : Extra s) : Extra s' := by
  induction h with
  | refl _ => exact hx
  | reg _ k v w => exact ⟨keys_store _ _ _ _ hx.keys, hx.bounded⟩
  | mem hd _ hs => exact ⟨hx.keys, bounded_store hi hx.bounded hd hs⟩
  | trans h1 _ ih1 ih2 => exact ih2 (h1.inv hi) (ih1 hi hx)

/-- the start state of `emulF` is C04's `toolState` without pre-set registers -/
theorem startState_eq (bs : List BytesMem.Block) : startState bs = toolState [] bs := rfl

/-- the emulator states that arise in a session -/
structure EGood (e : ESt) : Prop where
  wf : CodeWF e.code
  sw : CodeSW e.code
  ready : Ready e.st
  extra : Extra e.st

theorem regsOf_oneIP (m : RegMap) (h : KeysNodup m) : Lemmas.Render.OneIP (regsOf m) :=
  (Lemmas.Render.oneIP_of_nodup (regs := m.map fun p => (⟨p.1, p.2.width⟩ : Render.Reg))
    (by rw [List.map_map]; exact h)).perm (List.mergeSort_perm _ _).symm

theorem toolState_extra (bs : List BytesMem.Block)
    (hbb : ∀ x, BytesSpec.ofBlocks bs x ≠ none → x + 1 < 2 ^ 64) (ip : Nat) :
    Extra (Emulator.new ip (toolState [] bs)) := by
  refine ⟨?_, ?_⟩
  · show KeysNodup (RegMap.store _ _ _ _)
    exact keys_store _ _ _ _ (by simp [toolState, KeysNodup, RegMap.empty])
  · intro key x hx
    have : (Emulator.new ip (toolState [] bs)).mems = (toolState [] bs).mems := rfl
    rw [this, abs_toolState] at hx
    split at hx
    · cases hb : BytesSpec.ofBlocks bs x with
      | none => simp [hb] at hx
      | some v => exact hbb x (by rw [hb]; simp)
    · exact absurd rfl hx

theorem TreeSafe.mono {σ : Type} {G G' : σ → Prop} (h : ∀ s, G s → G' s) {t : StepTree σ}
    (ht : TreeSafe G t) : TreeSafe G' t := by
  induction ht with
  | done hs => exact TreeSafe.done (h _ hs)
  | fail hs => exact TreeSafe.fail (h _ hs)
  | ask hw _ ih => exact TreeSafe.ask hw ih

/-- the step tree of the real emulator never panics, ends in good states on the same code and asks for `uint8`
widths — whatever is typed at the prompts, whatever the instruction accesses (`StepEnds.of_ready`) -/
theorem stepTree_safe_same_code (e : ESt) (hg : EGood e) : ∀ (fuel : Nat) (ans : Answers),
    TreeSafe (fun s => EGood s ∧ s.code = e.code) (stepTree e fuel ans)
  | 0, _ => TreeSafe.fail ⟨hg, rfl⟩
  | fuel + 1, ans => by
    unfold stepTree
    -- whether `Step` succeeds or ends in the access error (REPAIR F45): the first request without an answer is the
    -- next prompt; when there is none, the state after the step, resp. after the provider fills, is good again
    have hask : ∀ r, TreeSafe (fun s => EGood s ∧ s.code = e.code)
        (.ask (reqWidth r % 256) fun c => stepTree e fuel (ans ++ [(r, c)])) :=
      fun r => TreeSafe.ask (by omega) fun c => stepTree_safe_same_code e hg fuel _
    have hgood : ∀ {s'}, Stores e.st s' → EGood ⟨e.code, s'⟩ ∧ e.code = e.code :=
      fun hst => ⟨⟨hg.wf, hg.sw, hst.ready hg.ready, Stores.extra hst hg.ready.inv hg.extra⟩, rfl⟩
    cases StepEnds.of_ready (provOf ans) e.code hg.ready hg.wf fun _ ins _ hl => hg.sw ins (lookup_mem hl) with
    | err h => rw [h]; exact TreeSafe.fail ⟨hg, rfl⟩
    | @ok _ _ log h hst _ =>
      rw [h]
      simp only
      cases firstOpen ans log with
      | some r => exact hask r
      | none => exact TreeSafe.done (hgood hst)
    | @accessErr _ log _ _ h hst _ =>
      rw [h]
      simp only
      cases firstOpen ans log with
      | some r => exact hask r
      | none => exact TreeSafe.fail (hgood hst)

theorem regStore_code (bs : List BytesMem.Block) (cv : Emulator.CodeView) (e : ESt) (k c : Str) :
    ((emuOps bs cv).regStore e k c).code = e.code := by
  simp only [emuOps]
  split <;> rfl

/-- every assumption of C22 on the emulator (`EmuLawful`) for the real emulator model: `bs` is the byte memory
`memory.NewBytes` made of an image that does not reach the top of the address space, `cv` any well-formed code view -/
theorem emu_lawful {image bs : List BytesMem.Block} (hnb : BytesMem.newBytes image = .ok bs)
    (hbb : ∀ x, BytesSpec.ofBlocks bs x ≠ none → x + 1 < 2 ^ 64) (cv : Emulator.CodeView) (hwf : CodeWF cv)
    (hsw : CodeSW cv) :
    EmuLawful (emuOps bs cv) EGood where
  init_good _ ip := ⟨hwf, hsw, Props.C04.tool_start_ready [] hnb ip, toolState_extra bs hbb ip⟩
  ip_some e hg := by
    obtain ⟨c, hc⟩ := hg.ready.ipConst
    simp only [emuOps, mustIP_spec hc]
    rfl
  step_safe e hg := TreeSafe.mono (fun _ h => h.1) (stepTree_safe_same_code e hg stepFuel [])
  store_good e k v hg := by
    simp only [emuOps]
    split
    · exact ⟨hg.wf, hg.sw, Stores.ready (.reg ..) hg.ready, Stores.extra (.reg ..) hg.ready.inv hg.extra⟩
    · exact hg
  width_byte e k w _ h := by
    obtain ⟨x, _, rfl⟩ := Option.map_eq_some_iff.1 h
    omega
  regs_oneIP e hg := regsOf_oneIP e.st.regs hg.extra.keys
  mem_ok e k m hg h := by
    obtain ⟨mem, hk, rfl⟩ := Option.map_eq_some_iff.1 h
    obtain ⟨bl, hn, -, hcoh, -⟩ := ofMem_coh mem (hg.ready.inv.good.1 _ _ hk) (hg.ready.inv.mems _ _ hk)
      (Lemmas.Overlay.memmap_abs_of_get hk ▸ hg.extra.bounded (strOf k))
    exact ⟨bl, memBytes mem, hn, hcoh⟩

/-- `lb x3,-1(x0)` at 0x1000: a one-byte load from address `2^64 - 1` -/
def topBlocks : List (Nat × List UInt8) := [(4096, [0x83, 0x01, 0xf0, 0xff])]

end Mltwist.Lemmas.Compose
