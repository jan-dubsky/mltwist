import Mltwist.Spec.SparseAbs
import Mltwist.Lemmas.Bytes
import Mltwist.Lemmas.Transform
import Mltwist.Lemmas.Gadgets
/-
C14 (sparse memory), arithmetic.  Bytes of a number and little-endian sums of bytes (`byteOf`, `sumBytes`); the cuts
of `cut.go` on well-formed arguments, where `expr()` is the total function `slice` on a non-empty cut: the bytes
`[begin, end)` of the value; the `BitOr`/`Lsh` round by which `Load` appends one piece, and the loop of such rounds over
pieces that tile a range, each reading its part of the value (`ReadsAt`, `Answers`, `foldl_or_tiles`): the loop of `Sparse.Load` and of
`Overlay.Load`.  Last, the expressions that are closed (no load left) and well formed (`ClosedWf`): the gadgets of
`Load` keep them so.
-/
namespace Mltwist.Lemmas.Sparse
open Mltwist Mltwist.Sparse Mltwist.Spec.Sparse
open Mltwist.Lemmas.Bytes (pow256_pos pow256_succ pow256_add two_pow_eight_mul)
open Mltwist.Lemmas.RiscvLift (WOK)

theorem _root_.Mltwist.Sparse.InDom.wok {a w : Nat} (h : InDom a w) : WOK w := ⟨h.1, h.2.1⟩

/-- byte `i` of `v` -/
def byteOf (v i : Nat) : Nat := v / 256 ^ i % 256

theorem byteOf_trunc {w i : Nat} (h : i < w) (v : Nat) : byteOf (trunc w v) i = byteOf v i := by
  unfold byteOf
  rw [Bytes.trunc_eq]
  obtain ⟨k, rfl⟩ : ∃ k, w = i + (k + 1) := ⟨w - i - 1, by omega⟩
  rw [pow256_add, Nat.mod_mul_right_div_self, pow256_succ, Nat.mod_mul_right_mod]

theorem byteVal_eq (ρ : Env) (c : Cell) (h : c.2.1 < c.2.2) :
    byteVal ρ c = byteOf (c.1.eval ρ) c.2.1 := by
  unfold byteVal
  exact byteOf_trunc h _

theorem slice_eq_sum (v b : Nat) : ∀ n, v / 256 ^ b % 256 ^ n = sumBytes (fun j => byteOf v (b + j)) n
  | 0 => by simp [sumBytes, Nat.mod_one]
  | n + 1 => by
    rw [sumBytes, ← slice_eq_sum v b n]
    unfold byteOf
    rw [pow256_add b n, ← Nat.div_div_eq_div_mul]
    generalize v / 256 ^ b = u
    rw [Nat.pow_succ, Nat.mod_mul, Nat.mul_comm (256 ^ n)]

theorem sumBytes_congr {f g : Nat → Nat} : ∀ n, (∀ i, i < n → f i = g i) → sumBytes f n = sumBytes g n
  | 0, _ => rfl
  | n + 1, h => by
    rw [sumBytes, sumBytes, sumBytes_congr n (fun i hi => h i (by omega)), h n (by omega)]

theorem sumBytes_add (f : Nat → Nat) (n : Nat) : ∀ m,
    sumBytes f (n + m) = sumBytes f n + 256 ^ n * sumBytes (fun j => f (n + j)) m
  | 0 => by simp [sumBytes]
  | m + 1 => by
    rw [← Nat.add_assoc, sumBytes, sumBytes_add f n m, sumBytes, pow256_add, Nat.mul_add]
    rw [Nat.add_assoc]
    congr 1
    rw [Nat.mul_comm (f (n + m)), Nat.mul_assoc, Nat.mul_comm (f (n + m))]

theorem sumBytes_front (f : Nat → Nat) (n : Nat) :
    sumBytes f (n + 1) = f 0 + 256 * sumBytes (fun j => f (j + 1)) n := by
  rw [Nat.add_comm n 1, sumBytes_add f 1 n]
  simp only [sumBytes, Nat.pow_zero, Nat.mul_one, Nat.zero_add, Nat.pow_one, Nat.add_comm 1]

theorem sumBytes_lt (f : Nat → Nat) (hf : ∀ i, f i < 256) : ∀ n, sumBytes f n < 256 ^ n
  | 0 => by simp [sumBytes]
  | n + 1 => by
    have := sumBytes_lt f hf n
    have := hf n
    rw [sumBytes, pow256_succ]
    have : f n * 256 ^ n ≤ 255 * 256 ^ n := Nat.mul_le_mul_right _ (by omega)
    omega

theorem byteOf_lt (v i : Nat) : byteOf v i < 256 := Nat.mod_lt _ (by decide)

/-- a subtraction modulo `m` (`uint8`, `uint64`) that does not wrap -/
theorem sub_mod_eq {m x y : Nat} (h : y ≤ x) (hx : x < m) : (x + m - y) % m = x - y := by
  rw [Nat.sub_add_comm h, Nat.add_mod_right, Nat.mod_eq_of_lt (Nat.lt_of_le_of_lt (Nat.sub_le x y) hx)]

theorem sub64_eq {x y : Nat} (h : y ≤ x) (hx : x < 2 ^ 64) : sub64 x y = x - y :=
  sub_mod_eq h hx

theorem endAddr_eq {a w : Nat} (h : a + w < 2 ^ 64) : endAddr a w = a + w :=
  Nat.mod_eq_of_lt h

/-- `256` in the lemmas on cuts is the modulus of the Go type `Width`, as `Model/Sparse.lean` writes it -/
theorem width_eq (c : CutExpr) (h1 : c.begin ≤ c.end_) (h2 : WOK c.end_) :
    c.width = c.end_ - c.begin :=
  sub_mod_eq h1 (Nat.lt_succ_of_le h2.2)

theorem cutBegin_ok (c : CutExpr) (h1 : c.begin ≤ c.end_) (h2 : WOK c.end_) (n : Nat)
    (hn : n ≤ c.end_ - c.begin) :
    c.cutBegin (n % 256) = .ok { ex := c.ex, begin := c.end_ - n, end_ := c.end_ } := by
  have hn2 : n ≤ c.end_ := Nat.le_trans hn (Nat.sub_le _ _)
  have h256 : c.end_ < 256 := Nat.lt_succ_of_le h2.2
  unfold CutExpr.cutBegin
  rw [width_eq c h1 h2, Nat.mod_eq_of_lt (Nat.lt_of_le_of_lt hn2 h256), if_neg (Nat.not_lt.2 hn),
    sub_mod_eq hn2 h256]

theorem cutEnd_ok (c : CutExpr) (h1 : c.begin ≤ c.end_) (h2 : WOK c.end_) (n : Nat)
    (hn : n ≤ c.end_ - c.begin) :
    c.cutEnd (n % 256) = .ok { ex := c.ex, begin := c.begin, end_ := c.begin + n } := by
  have hn2 : c.begin + n < 256 := by have := h2.2; omega
  unfold CutExpr.cutEnd
  rw [width_eq c h1 h2, Nat.mod_eq_of_lt (Nat.lt_of_le_of_lt (Nat.le_add_left n _) hn2),
    if_neg (Nat.not_lt.2 hn), Nat.mod_eq_of_lt hn2]

/-- `expr()` shifts right by `uint16(begin) * 8` (a 2-byte constant), `Load` shifts left by
`(low - addr) * 8` (an 8-byte constant): shifts by whole bytes, the amount an `n`-byte constant -/
theorem eval_shift (ρ : Env) (op : BinOp) (x : Expr) {k n w : Nat} (hk : k < w) (h1 : k * 8 < 256 ^ n) :
    (Expr.binary op x (Tools.constUint (k * 8) n) w).eval ρ =
      evalBin op w (trunc w (x.eval ρ)) (k * 8) := by
  have h2 : k * 8 < 2 ^ (8 * w) := Nat.lt_trans (by omega : k * 8 < 8 * w) Nat.lt_two_pow_self
  simp only [Expr.eval, Tools.constUint, Bytes.leToNat_natToLE_pow256, Nat.mod_eq_of_lt h1,
    Bytes.trunc_of_lt h2]

theorem evalBin_rsh {k w : Nat} (hk : k < w) (v : Nat) : evalBin .rsh w v (k * 8) = v / 256 ^ k := by
  rw [EvalBasic.evalBin_rsh (by omega), Nat.mul_comm, two_pow_eight_mul]

theorem evalBin_lsh {k w : Nat} (hk : k < w) (v : Nat) :
    evalBin .lsh w v (k * 8) = v * 256 ^ k % 256 ^ w := by
  rw [EvalBasic.evalBin_lsh (by omega), Nat.mul_comm k, two_pow_eight_mul, two_pow_eight_mul]

/-- `expr()` behind its guard: the rest of the body of `CutExpr.expr`, retyped as a total function (`expr_eq`) -/
def slice (c : CutExpr) : Expr :=
  if c.begin ≥ c.ex.width then Tools.constUint 0 (c.end_ - c.begin)
  else
    setWidth
      (if c.begin > 0 then
        Expr.binary .rsh c.ex (Tools.constUint (c.begin % 65536 * 8 % 65536) 2) c.ex.width
      else c.ex)
      (c.end_ - c.begin)

theorem expr_eq {c : CutExpr} (h : c.begin < c.end_) : c.expr = .ok (slice c) := by
  unfold CutExpr.expr slice
  rw [if_neg (by omega)]
  split <;> rfl

theorem slice_width (c : CutExpr) : (slice c).width = c.end_ - c.begin := by
  unfold slice
  split
  · simp [Tools.constUint, Expr.width]
  · exact Transform.setWidth_width _ _

theorem slice_eval (c : CutExpr) (h1 : c.begin < c.end_) (h2 : WOK c.end_) (ρ : Env) :
    (slice c).eval ρ = c.ex.eval ρ / 256 ^ c.begin % 256 ^ (c.end_ - c.begin) := by
  unfold slice
  by_cases hz : c.begin ≥ c.ex.width
  · -- the slice lies in the zero extension
    rw [if_pos hz]
    have hlt := EvalBasic.eval_lt ρ c.ex
    rw [two_pow_eight_mul] at hlt
    rw [Nat.div_eq_of_lt (Nat.lt_of_lt_of_le hlt (Nat.pow_le_pow_right (by decide) hz)), Nat.zero_mod]
    simp [Tools.constUint, Expr.eval, Bytes.leToNat_natToLE_pow256]
  · rw [if_neg hz, Transform.setWidth_eval, Bytes.trunc_eq]
    congr 1
    split
    · have h16 := h2.bits_lt_two_pow16
      rw [show c.begin % 65536 * 8 % 65536 = c.begin * 8 by omega,
        eval_shift ρ _ _ (Nat.lt_of_not_le hz) (by omega), EvalBasic.trunc_eval_width,
        evalBin_rsh (Nat.lt_of_not_le hz)]
    · rw [show c.begin = 0 by omega, Nat.pow_zero, Nat.div_one]

theorem bitOr_width (a b : Expr) (w : Nat) : (Tools.bitOr a b w).width = w := rfl

theorem or_shift_eq_add {A k : Nat} (hA : A < 256 ^ k) (C : Nat) :
    A ||| C * 256 ^ k = A + C * 256 ^ k := by
  rw [← two_pow_eight_mul] at hA ⊢
  rw [← Nat.shiftLeft_eq, Nat.or_comm, Nat.add_comm]
  exact (Nat.shiftLeft_add_eq_or_of_lt hA C).symm

/-- one step of the loops of `Load` (here and in the overlay): `BitOr(acc, Lsh(c, k*8, w), w)` appends the bytes of
`c` above the `k` bytes of `acc`; the shift amount is an `n`-byte constant -/
theorem eval_or_lsh (ρ : Env) (acc c : Expr) (k m n w A C : Nat)
    (hacc : acc.eval ρ = A) (hA : A < 256 ^ k) (hc : c.eval ρ = C) (hC : C < 256 ^ m)
    (hm : 1 ≤ m) (hkm : k + m ≤ w) (hn : 8 * w < 256 ^ n) :
    (Tools.bitOr acc (Expr.binary .lsh c (Tools.constUint (k * 8) n) w) w).eval ρ = A + 256 ^ k * C := by
  have hle : ∀ {x j : Nat}, x < 256 ^ j → j ≤ w → x < 256 ^ w := fun h hj =>
    Nat.lt_of_lt_of_le h (Nat.pow_le_pow_right (by decide) hj)
  have hCk : C * 256 ^ k < 256 ^ (m + k) := by
    rw [Nat.pow_add]
    exact Nat.mul_lt_mul_of_pos_right hC (Bytes.pow256_pos k)
  have hkw : k < w := by omega
  rw [Gadgets.eval_bitOr, Spec.bor, hacc, Bytes.trunc_of_lt_pow256 (hle hA (by omega)),
    eval_shift ρ _ _ hkw (by omega), hc,
    Bytes.trunc_of_lt_pow256 (hle hC (by omega)), evalBin_lsh hkw, Nat.mod_eq_of_lt (hle hCk (by omega)),
    Bytes.trunc_of_lt_pow256 (hle hCk (by omega)), or_shift_eq_add hA, Nat.mul_comm]

theorem sumBytes_shift_add (g : Nat → Nat) (a k n : Nat) :
    sumBytes (fun i => g (a + i)) (k + n) =
      sumBytes (fun i => g (a + i)) k + 256 ^ k * sumBytes (fun i => g (a + k + i)) n := by
  rw [sumBytes_add]
  simp only [Nat.add_assoc]

/-- `ex` is an `n`-byte expression whose value is the little-endian sum of the `n` bytes from `b` on, `g ρ x` being the
byte at `x`: the `loadVal` of a byte map -/
structure ReadsAt (g : Env → Nat → Nat) (b n : Nat) (ex : Expr) : Prop where
  width : ex.width = n
  eval : ∀ ρ, ex.eval ρ = sumBytes (fun i => g ρ (b + i)) n

/-- `r` is the lawful answer to a load of `[a, a+w)` from the map `m` of optional bytes with values `val` -/
structure Answers {β : Type} (val : Env → Option β → Nat) (m : Nat → Option β) (a w : Nat) (r : Option Expr) : Prop where
  some_iff : r ≠ none ↔ ∀ i, i < w → m (a + i) ≠ none
  reads : ∀ e, r = some e → ReadsAt (fun ρ x => val ρ (m x)) a w e

section
variable {β γ : Type} {val : Env → Option β → Nat} {val' : Env → Option γ → Nat} {m : Nat → Option β}
  {m' : Nat → Option γ} {a w : Nat} {r : Option Expr}

/-- the form in which the load laws of C14 and C16 are written -/
theorem Answers.law (h : Answers val m a w r) :
    (r ≠ none ↔ ∀ i, i < w → m (a + i) ≠ none) ∧
      ∀ e, r = some e → e.width = w ∧ ∀ ρ, e.eval ρ = sumBytes (fun i => val ρ (m (a + i))) w :=
  ⟨h.some_iff, fun e he => ⟨(h.reads e he).width, (h.reads e he).eval⟩⟩

theorem Answers.map (h : Answers val m a w r)
    (hn : ∀ i, i < w → (m' (a + i) = none ↔ m (a + i) = none))
    (hv : ∀ ρ i, i < w → val' ρ (m' (a + i)) = val ρ (m (a + i))) : Answers val' m' a w r :=
  ⟨h.some_iff.trans (forall_congr' fun i => imp_congr_right fun hi => not_congr (hn i hi).symm),
    fun e he => ⟨(h.reads e he).width, fun ρ => ((h.reads e he).eval ρ).trans
      (sumBytes_congr w fun i hi => (hv ρ i hi).symm)⟩⟩

theorem Answers.congr {m' : Nat → Option β} (h : Answers val m a w r) (heq : ∀ i, i < w → m' (a + i) = m (a + i)) :
    Answers val m' a w r :=
  h.map (fun i hi => by rw [heq i hi]) fun ρ i hi => by rw [heq i hi]

end

/-- the pieces `l` tile `[s, e)`: each begins where the one before ends -/
def Tiles {α : Type} (beg len : α → Nat) : Nat → Nat → List α → Prop
  | s, e, [] => s = e
  | s, e, x :: l => beg x = s ∧ Tiles beg len (s + len x) e l

theorem Tiles.le {α : Type} {beg len : α → Nat} : ∀ {l : List α} {s e : Nat}, Tiles beg len s e l → s ≤ e
  | [], _, _, h => Nat.le_of_eq h
  | _ :: _, _, _, h => Nat.le_trans (Nat.le_add_right _ _) h.2.le

theorem tiles_map {α β : Type} (f : α → β) (beg len : β → Nat) : ∀ (l : List α) (s e : Nat),
    Tiles beg len s e (l.map f) ↔ Tiles (fun x => beg (f x)) (fun x => len (f x)) s e l
  | [], _, _ => Iff.rfl
  | _ :: l, _, _ => and_congr_right fun _ => tiles_map f beg len l _ _

/-- The or-loop of `Load`, of the sparse memory and of the overlay.  The pieces `xs` tile the rest `[a+k, a+w)` of the
loaded range, each reads its part of the value, and the accumulator reads the first `k` bytes; a round of the loop
(`step`) shifts the piece to its place and ors it to the accumulator.  (The shift amount is an `n`-byte constant.) -/
theorem foldl_or_tiles {α : Type} {beg len : α → Nat} {ex : α → Expr} {g : Env → Nat → Nat} (hg : ∀ ρ x, g ρ x < 256)
    {a w n : Nat} (hn : 8 * w < 256 ^ n) {step : Expr → α → Expr} :
    ∀ (xs : List α) (acc : Expr) (k : Nat),
      (∀ x ∈ xs, 1 ≤ len x ∧ ReadsAt g (beg x) (len x) (ex x)) →
      (∀ x ∈ xs, ∀ acc, step acc x =
        Tools.bitOr acc (.binary .lsh (ex x) (Tools.constUint ((beg x - a) * 8) n) w) w) →
      Tiles beg len (a + k) (a + w) xs → (xs = [] → acc.width = w) →
      (∀ ρ, acc.eval ρ = sumBytes (fun i => g ρ (a + i)) k) →
      ReadsAt g a w (xs.foldl step acc)
  | [], acc, k, _, _, ht, hwid, hacc => by
    obtain rfl : k = w := Nat.add_left_cancel ht
    exact ⟨hwid rfl, hacc⟩
  | x :: xs, acc, k, hx, hstep, ht, _, hacc => by
    obtain ⟨hlen, hrd⟩ := hx x List.mem_cons_self
    have hkm : k + len x ≤ w := Nat.le_of_add_le_add_left (Nat.add_assoc a k _ ▸ ht.2.le)
    have hs := hstep x List.mem_cons_self acc
    rw [ht.1, Nat.add_sub_cancel_left] at hs
    refine foldl_or_tiles hg hn xs _ (k + len x) (fun y hy => hx y (List.mem_cons_of_mem _ hy))
      (fun y hy => hstep y (List.mem_cons_of_mem _ hy)) (Nat.add_assoc a k _ ▸ ht.2) (fun _ => hs ▸ rfl) fun ρ => ?_
    rw [hs, sumBytes_shift_add (g ρ)]
    exact eval_or_lsh ρ acc (ex x) k (len x) n w _ _ (hacc ρ) (sumBytes_lt _ (fun _ => hg ρ _) k) (ht.1 ▸ hrd.eval ρ)
      (sumBytes_lt _ (fun _ => hg ρ _) _) hlen hkm hn

/-- closed (no load left) and well formed: what folds to a constant of its value.  Reducible: `Lemmas.Emulator.Shape`
and `Lemmas.MemView.CW` unfold to the same conjunction, and their towers use the lemmas below on them. -/
abbrev ClosedWf (e : Expr) : Prop := e.closed = true ∧ e.wf = true

theorem closedWf_const {c : List UInt8} (hw : WOK c.length) : ClosedWf (Expr.const c) :=
  ⟨rfl, (Transform.wf_const_iff c).2 hw⟩

theorem closedWf_constUint (v : Nat) {n : Nat} (hw : WOK n) : ClosedWf (Tools.constUint v n) :=
  closedWf_const (c := natToLE n v) ((Bytes.natToLE_length n v).symm ▸ hw)

theorem closedWf_binary {a b : Expr} (ha : ClosedWf a) (hb : ClosedWf b) (op : BinOp) {w : Nat} (hw : WOK w) :
    ClosedWf (Expr.binary op a b w) :=
  ⟨by simp [Expr.closed, ha.1, hb.1], (Transform.wf_binary_iff op a b w).2 ⟨hw, ha.2, hb.2⟩⟩

theorem closedWf_less {a b t f : Expr} (ha : ClosedWf a) (hb : ClosedWf b)
    (ht : ClosedWf t) (hf : ClosedWf f) {w : Nat} (hw : WOK w) : ClosedWf (Expr.less a b t f w) :=
  ⟨by simp [Expr.closed, ha.1, hb.1, ht.1, hf.1], (Transform.wf_less_iff a b t f w).2 ⟨hw, ha.2, hb.2, ht.2, hf.2⟩⟩

theorem closedWf_setWidth {e : Expr} (h : ClosedWf e) {n : Nat} (hw : WOK n) : ClosedWf (setWidth e n) :=
  ⟨(Transform.setWidth_closed e n).trans h.1, Transform.setWidth_wf h.2 hw.1 hw.2⟩

theorem closedWf_bitOr {a b : Expr} (ha : ClosedWf a) (hb : ClosedWf b) {w : Nat} (hw : WOK w) :
    ClosedWf (Tools.bitOr a b w) := by
  unfold Tools.bitOr Tools.bitNot Tools.ones
  have hz : ClosedWf Expr.zero := closedWf_const (by decide)
  exact closedWf_binary (closedWf_binary ha (closedWf_binary hz hz .nand hw) .nand hw)
    (closedWf_binary hb (closedWf_binary hz hz .nand hw) .nand hw) .nand hw

theorem slice_closedWf {c : CutExpr} (hex : ClosedWf c.ex) (h1 : c.begin < c.end_)
    (h2 : WOK c.end_) : ClosedWf (slice c) := by
  have hlen : WOK (c.end_ - c.begin) := ⟨by omega, Nat.le_trans (Nat.sub_le _ _) h2.2⟩
  unfold slice
  split
  · exact closedWf_constUint 0 hlen
  · apply closedWf_setWidth _ hlen
    split
    · exact closedWf_binary hex (closedWf_constUint _ (by decide)) .rsh (Transform.wf_width hex.2)
    · exact hex

end Mltwist.Lemmas.Sparse
