/-
The two routines of Go's package `sort` that the models lean on.

`sort.Slice` is modelled by a stable insertion sort, written out once per element type (seven monomorphic copies, and the
matcher's `sortBy` over a comparison function, `Model/Opcode.lean`).  What is proved here follows from the two equations of
the insertion function alone, so each copy gets its facts by `rfl`; the sort itself may be a left fold over the input or a
recursion on it.

`sort.Search` on a total predicate: the index the binary search loop of the Go library computes, and what
it finds for a monotone predicate.  The models of two call sites (`Elf.searchLoop`, `BasicBlock.searchLoop`)
run the same loop on a predicate that may fail; such a loop enters through its three equations (`Search`, as
the insertion does through its two) and computes `bsearch` where its predicate is defined.  (`Bytes.address` and the
matcher's `searchFirst`, `Opcode.searchFirst_eq_findIdx`, model their `sort.Search` by `List.findIdx` and need nothing
from here.)

Between the two: what a sorted list lets one conclude (`eq_of_pairwise`, `find?_of_pairwise`), and the facts about `find?`,
`findIdx` and `Pairwise` that core's `List` lacks and more than one tower wants.
-/
namespace Mltwist.Lemmas

namespace InsertSort

variable {α : Type _} {p : α → α → Prop} [DecidableRel p] {ins : α → List α → List α}
  (hnil : ∀ x, ins x [] = [x])
  (hcons : ∀ x y ys, ins x (y :: ys) = if p x y then x :: y :: ys else y :: ins x ys)
include hnil hcons

theorem ins_perm (x : α) (l : List α) : (ins x l).Perm (x :: l) := by
  induction l with
  | nil => rw [hnil]
  | cons y ys ih =>
    rw [hcons]
    split
    · exact .refl _
    · exact (ih.cons y).trans (.swap x y ys)

theorem rec_perm {srt : List α → List α} (h0 : srt [] = []) (h1 : ∀ x l, srt (x :: l) = ins x (srt l))
    (l : List α) : (srt l).Perm l := by
  induction l with
  | nil => rw [h0]
  | cons x l ih =>
    rw [h1]
    exact (ins_perm hnil hcons x _).trans (ih.cons x)

theorem sort_perm (l : List α) : (l.foldl (fun acc x => ins x acc) []).Perm l := by
  rw [List.foldl_eq_foldr_reverse]
  exact (rec_perm hnil hcons (srt := List.foldr (fun x acc => ins x acc) []) rfl (fun _ _ => rfl) l.reverse).trans
    (List.reverse_perm l)

variable {r : α → α → Prop} (hpr : ∀ {x y}, p x y → r x y) (hnp : ∀ {x y}, ¬ p x y → r y x)
  (htr : ∀ {x y z}, r x y → r y z → r x z)
include hpr hnp htr

/-- insertion keeps a list sorted for every transitive `r` that the test `p` decides -/
theorem ins_sorted (x : α) (l : List α) (h : l.Pairwise r) : (ins x l).Pairwise r := by
  induction l with
  | nil => rw [hnil]; exact List.pairwise_singleton _ _
  | cons y ys ih =>
    rw [List.pairwise_cons] at h
    rw [hcons]
    split
    · next hx =>
      exact List.pairwise_cons.2 ⟨List.forall_mem_cons.2 ⟨hpr hx, fun z hz => htr (hpr hx) (h.1 z hz)⟩,
        List.pairwise_cons.2 h⟩
    · next hx =>
      refine List.pairwise_cons.2 ⟨fun z hz => ?_, ih h.2⟩
      rcases List.mem_cons.1 ((ins_perm hnil hcons x ys).mem_iff.1 hz) with rfl | hz'
      · exact hnp hx
      · exact h.1 z hz'

theorem rec_sorted {srt : List α → List α} (h0 : srt [] = []) (h1 : ∀ x l, srt (x :: l) = ins x (srt l))
    (l : List α) : (srt l).Pairwise r := by
  induction l with
  | nil => rw [h0]; exact .nil
  | cons x l ih =>
    rw [h1]
    exact ins_sorted hnil hcons hpr hnp htr x _ ih

theorem sort_sorted (l : List α) : (l.foldl (fun acc x => ins x acc) []).Pairwise r := by
  rw [List.foldl_eq_foldr_reverse]
  exact rec_sorted hnil hcons hpr hnp htr (srt := List.foldr (fun x acc => ins x acc) []) rfl (fun _ _ => rfl) l.reverse

end InsertSort

theorem eq_of_pairwise {α} {R : α → α → Prop} {l : List α} (h : l.Pairwise R) {a b : α} (ha : a ∈ l)
    (hb : b ∈ l) (hab : ¬ R a b) (hba : ¬ R b a) : a = b := by
  induction h with
  | nil => cases ha
  | cons h1 _ ih =>
    rcases List.mem_cons.mp ha with rfl | ha' <;> rcases List.mem_cons.mp hb with rfl | hb'
    · rfl
    · exact absurd (h1 _ hb') hab
    · exact absurd (h1 _ ha') hba
    · exact ih ha' hb'

theorem find?_of_pairwise {α} {R : α → α → Prop} {p : α → Bool} {l : List α} (h : l.Pairwise R) {a : α}
    (ha : a ∈ l) (hp : p a = true) (hR : ∀ b, R b a → p b = false) : l.find? p = some a := by
  induction h with
  | nil => cases ha
  | cons h1 _ ih =>
    rcases List.mem_cons.mp ha with rfl | ha'
    · rw [List.find?_cons_of_pos hp]
    · rw [List.find?_cons_of_neg (by simp [hR _ (h1 _ ha')])]
      exact ih ha'

theorem find?_congr_of_mem {α} (l : List α) (p q : α → Bool) (h : ∀ x ∈ l, p x = q x) :
    l.find? p = l.find? q := by
  induction l with
  | nil => rfl
  | cons x xs ih =>
    simp only [List.find?_cons, h x (List.mem_cons_self ..)]
    rw [ih (fun y hy => h y (List.mem_cons_of_mem _ hy))]

theorem findIdx?_congr {α : Type} {p q : α → Bool} : ∀ {L : List α}, (∀ l ∈ L, p l = q l) →
    L.findIdx? p = L.findIdx? q
  | [], _ => rfl
  | x :: L, h => by
    simp only [List.findIdx?_cons, h x (List.mem_cons_self ..),
      findIdx?_congr fun l hl => h l (List.mem_cons_of_mem _ hl)]

theorem findIdx_append_false {α : Type} (p : α → Bool) (l r : List α)
    (h : ∀ x ∈ l, p x = false) : (l ++ r).findIdx p = l.length + r.findIdx p := by
  induction l with
  | nil => simp
  | cons x l ih =>
    have hx := h x (List.mem_cons_self ..)
    rw [List.cons_append, List.findIdx_cons, hx, ih (fun y hy => h y (List.mem_cons_of_mem _ hy))]
    simp only [cond_false, List.length_cons]
    omega

theorem pairwise_iff_getElem?_ne {α} {R : α → α → Prop} (hs : ∀ {a b}, R a b → R b a) (l : List α) :
    l.Pairwise R ↔ ∀ (i j : Nat) (a b : α), i ≠ j → l[i]? = some a → l[j]? = some b → R a b := by
  rw [List.pairwise_iff_getElem]
  constructor
  · intro h i j a b hij hi hj
    obtain ⟨hi', rfl⟩ := List.getElem?_eq_some_iff.1 hi
    obtain ⟨hj', rfl⟩ := List.getElem?_eq_some_iff.1 hj
    rcases Nat.lt_or_gt_of_ne hij with hlt | hgt
    · exact h i j hi' hj' hlt
    · exact hs (h j i hj' hi' hgt)
  · intro h i j hi hj hij
    exact h i j _ _ (Nat.ne_of_lt hij) (List.getElem?_eq_getElem hi) (List.getElem?_eq_getElem hj)

theorem pairwise_insertIdx {α : Type} {R : α → α → Prop} (l : List α) (i : Nat) (x : α)
    (hi : i ≤ l.length) :
    (l.insertIdx i x).Pairwise R ↔
      l.Pairwise R ∧ (∀ y ∈ l.take i, R y x) ∧ ∀ y ∈ l.drop i, R x y := by
  obtain ⟨l₁, l₂, rfl, rfl, h⟩ := List.exists_of_modifyTailIdx (List.cons x) hi
  rw [List.insertIdx, h, List.take_left, List.drop_left]
  simp only [List.pairwise_append, List.pairwise_cons, List.mem_cons, forall_eq_or_imp]
  constructor
  · rintro ⟨h1, ⟨h2, h3⟩, h4⟩
    exact ⟨⟨h1, h3, fun a ha => (h4 a ha).2⟩, fun a ha => (h4 a ha).1, h2⟩
  · rintro ⟨⟨h1, h3, h4⟩, h5, h2⟩
    exact ⟨h1, ⟨h2, h3⟩, fun a ha => ⟨h5 a ha, h4 a ha⟩⟩

/-- `for i < j { h := (i+j)/2; if !p(h) { i = h+1 } else { j = h } }`, on fuel -/
def bsearch (p : Nat → Bool) : Nat → Nat → Nat → Nat
  | 0, i, _ => i
  | fuel + 1, i, j =>
    if i < j then
      if p ((i + j) / 2) then bsearch p fuel i ((i + j) / 2) else bsearch p fuel ((i + j) / 2 + 1) j
    else i

theorem mid_mem {i j : Nat} (h : i < j) : i ≤ (i + j) / 2 ∧ (i + j) / 2 < j := by omega

theorem bsearch_mem (p : Nat → Bool) (fuel : Nat) {i j : Nat} (hij : i ≤ j) :
    i ≤ bsearch p fuel i j ∧ bsearch p fuel i j ≤ j := by
  induction fuel generalizing i j with
  | zero => exact ⟨Nat.le_refl _, hij⟩
  | succ fuel ih =>
    unfold bsearch
    by_cases hlt : i < j
    · obtain ⟨h1, h2⟩ := mid_mem hlt
      rw [if_pos hlt]
      generalize (i + j) / 2 = m at h1 h2
      split
      · have := ih h1
        exact ⟨this.1, by omega⟩
      · have := ih (i := m + 1) h2
        exact ⟨by omega, this.2⟩
    · rw [if_neg hlt]
      exact ⟨Nat.le_refl _, hij⟩

/-- for a predicate that is monotone on `[0, n)` the search returns the least index satisfying it, or
`n`; the invariant is that `p` is false below `i` and true from `j` on -/
theorem bsearch_spec (p : Nat → Bool) (n : Nat) (hmono : ∀ s t, s ≤ t → t < n → p s = true → p t = true)
    (fuel : Nat) {i j : Nat} (hij : i ≤ j) (hj : j ≤ n) (hfuel : j - i ≤ fuel)
    (hlo : ∀ t, t < i → p t = false) (hhi : ∀ t, j ≤ t → t < n → p t = true) :
    (∀ t, t < bsearch p fuel i j → p t = false) ∧ (∀ t, bsearch p fuel i j ≤ t → t < n → p t = true) := by
  induction fuel generalizing i j with
  | zero =>
    obtain rfl : i = j := by omega
    exact ⟨hlo, hhi⟩
  | succ fuel ih =>
    unfold bsearch
    by_cases hlt : i < j
    · obtain ⟨h1, h2⟩ := mid_mem hlt
      rw [if_pos hlt]
      generalize (i + j) / 2 = m at h1 h2
      split
      next hp => exact ih h1 (by omega) (by omega) hlo fun t ht htn => hmono m t ht htn hp
      next hp =>
        refine ih h2 hj (by omega) (fun t ht => ?_) hhi
        cases hpt : p t
        · rfl
        · exact absurd (hmono t m (by omega) (by omega) hpt) hp
    · rw [if_neg hlt]
      obtain rfl : i = j := by omega
      exact ⟨hlo, hhi⟩

theorem bsearch_list {α : Type} (l : List α) (q : α → Bool)
    (hmono : l.Pairwise fun x y => q x = true → q y = true) :
    ∃ pre post, l = pre ++ post ∧
      bsearch (fun i => (l[i]?.map q).getD false) l.length 0 l.length = pre.length ∧
      (∀ x ∈ pre, q x = false) ∧ ∀ x ∈ post, q x = true := by
  have hp : ∀ i (h : i < l.length), (l[i]?.map q).getD false = q l[i] := fun i h => by
    rw [List.getElem?_eq_getElem h]; rfl
  have hb := bsearch_mem (fun i => (l[i]?.map q).getD false) l.length (Nat.zero_le l.length)
  have hs := bsearch_spec (fun i => (l[i]?.map q).getD false) l.length
    (fun s t hst ht hs => by
      rcases Nat.lt_or_eq_of_le hst with hlt | rfl
      · rw [hp s (by omega)] at hs
        rw [hp t ht]
        exact List.pairwise_iff_getElem.1 hmono s t (by omega) ht hlt hs
      · exact hs)
    l.length (Nat.zero_le _) (Nat.le_refl _) (Nat.le_refl _) (fun _ h => absurd h (Nat.not_lt_zero _))
    (fun _ hk hkn => absurd hkn (Nat.not_lt.2 hk))
  generalize bsearch _ l.length 0 l.length = k at hb hs
  refine ⟨l.take k, l.drop k, (List.take_append_drop k l).symm, by rw [List.length_take]; omega, ?_, ?_⟩
  · intro x hx
    obtain ⟨i, hi, rfl⟩ := List.mem_take_iff_getElem.1 hx
    rw [← hp i (by omega)]
    exact hs.1 i (by omega)
  · intro x hx
    obtain ⟨i, hi, rfl⟩ := List.mem_drop_iff_getElem.1 hx
    rw [← hp (k + i) (by omega)]
    exact hs.2 _ (by omega) (by omega)

/-! The loop of a model, on a probe that may fail: `ρ` is the result type (`Option`, `Except Fail`),
`okB`/`okN` its successes. -/
namespace Search

variable {ρ : Type → Type} {okB : Bool → ρ Bool} {okN : Nat → ρ Nat}
  {loop : (Nat → ρ Bool) → Nat → Nat → Nat → ρ Nat}
  (h0 : ∀ f i j, loop f 0 i j = okN i)
  (hge : ∀ f fuel i j, ¬ i < j → loop f (fuel + 1) i j = okN i)
  (hlt : ∀ f fuel i j b, i < j → f ((i + j) / 2) = okB b →
    loop f (fuel + 1) i j = if b then loop f fuel i ((i + j) / 2) else loop f fuel ((i + j) / 2 + 1) j)
include h0 hge hlt

theorem loop_eq (f : Nat → ρ Bool) (p : Nat → Bool) (n : Nat) (hf : ∀ i, i < n → f i = okB (p i))
    (fuel : Nat) {i j : Nat} (hj : j ≤ n) : loop f fuel i j = okN (bsearch p fuel i j) := by
  induction fuel generalizing i j with
  | zero => exact h0 f i j
  | succ fuel ih =>
    unfold bsearch
    by_cases h : i < j
    · have hm := (mid_mem h).2
      rw [hlt f fuel i j _ h (hf _ (Nat.lt_of_lt_of_le hm hj)), if_pos h]
      cases p ((i + j) / 2)
      · exact ih hj
      · exact ih (by omega)
    · rw [hge f fuel i j h, if_neg h]

theorem search_total (f : Nat → ρ Bool) (n : Nat) (hf : ∀ i, i < n → ∃ v, f i = okB v) :
    ∃ k, loop f n 0 n = okN k ∧ k ≤ n := by
  have : ∀ i, ∃ v, i < n → f i = okB v := fun i => by
    by_cases h : i < n
    · exact (hf i h).imp fun _ hv _ => hv
    · exact ⟨false, fun h' => absurd h' h⟩
  obtain ⟨p, hp⟩ := Classical.skolem.1 this
  exact ⟨_, loop_eq h0 hge hlt f p n hp n (Nat.le_refl n), (bsearch_mem p n (Nat.zero_le n)).2⟩

theorem search_list {α : Type} (l : List α) (f : Nat → ρ Bool) (q : α → Bool)
    (hf : ∀ i (h : i < l.length), f i = okB (q l[i]))
    (hmono : l.Pairwise fun x y => q x = true → q y = true) :
    ∃ pre post, l = pre ++ post ∧ loop f l.length 0 l.length = okN pre.length ∧
      (∀ x ∈ pre, q x = false) ∧ ∀ x ∈ post, q x = true := by
  obtain ⟨pre, post, hl, hk, h⟩ := bsearch_list l q hmono
  refine ⟨pre, post, hl, ?_, h⟩
  rw [← hk]
  exact loop_eq h0 hge hlt f _ l.length
    (fun i hi => by rw [hf i hi, List.getElem?_eq_getElem hi]; rfl) l.length (Nat.le_refl _)

/-- the search for the first element that passes the monotone test `p`, followed by the test `r` on that
element, finds the first element that passes `r`, provided `r` implies `p` and nothing behind an element
that passes `p` passes `r` (the lookups in sorted, non-overlapping ranges: `p` = ends above the address,
`r` = covers it) -/
theorem search_find? {α : Type} (l : List α) (f : Nat → ρ Bool) (p r : α → Bool)
    (hf : ∀ i (h : i < l.length), f i = okB (p l[i]))
    (hmono : l.Pairwise fun x y => p x = true → p y = true ∧ r y = false)
    (hrp : ∀ x ∈ l, r x = true → p x = true) :
    ∃ k, loop f l.length 0 l.length = okN k ∧ k ≤ l.length ∧
      (∀ h : k < l.length, p l[k] = true) ∧ l.find? r = l[k]?.filter r := by
  obtain ⟨pre, post, rfl, hk, hpre, hpost⟩ :=
    search_list h0 hge hlt l f p hf (hmono.imp fun h hx => (h hx).1)
  -- no element of `pre` passes `p`, let alone `r`
  have hfind : (pre ++ post).find? r = post.find? r := by
    rw [List.find?_append, List.find?_eq_none.2, Option.none_or]
    intro x hx hr
    have := hrp x (List.mem_append_left _ hx) hr
    rw [hpre x hx] at this
    cases this
  refine ⟨pre.length, hk, by simp, fun h => hpost _ ?_, ?_⟩
  · rw [List.getElem_append_right (Nat.le_refl _)]
    exact List.getElem_mem _
  · rw [hfind, List.getElem?_append_right (Nat.le_refl _), Nat.sub_self]
    cases post with
    | nil => rfl
    | cons x xs =>
      rw [List.getElem?_cons_zero, Option.filter_some, List.find?_cons]
      cases hr : r x with
      | true => rfl
      | false =>
        -- `x` passes `p`, so nothing behind it passes `r`
        have hxs := (List.pairwise_cons.1 (List.pairwise_append.1 hmono).2.1).1
        exact List.find?_eq_none.2 fun y hy => by
          rw [(hxs y hy (hpost x List.mem_cons_self)).2]
          exact Bool.false_ne_true

end Search

end Mltwist.Lemmas
