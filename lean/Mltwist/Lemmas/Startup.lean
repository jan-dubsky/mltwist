import Mltwist.Model.Startup
import Mltwist.Props.C20
import Mltwist.Props.C21
import Mltwist.Props.C08
import Mltwist.Props.C15
/-
C26: composition of the no-panic theorems of the components.  A composition imports what it composes: the
statements of C08, C15, C20 and C21 are used here under their Props names.
-/
namespace Mltwist.Lemmas.Startup
open Mltwist Mltwist.Elf Mltwist.Parse Mltwist.Startup

/-- `runLoaded` without its dead first branch.  Every other proof goes through this equation: wherever
the kernel has to compare `runLoaded e c m` with its unfolded body (`unfold`, `delta`, `decide`, also a
rewrite of `runLoaded e c m` under a binder, because of η) it unfolds the outer `match` first and
evaluates `newMatcher` on the whole table.  Here only the constant `runLoaded` is unfolded, against a λ. -/
theorem runLoaded_eq (entry : Nat) (code mem : List Block) :
    runLoaded entry code mem =
      match parseRv64 code with
      | .error (.parse _ _) => .exit1 .parse
      | .error (.invalid _) => .exit1 .parse
      | .error _ => .panic
      | .ok is =>
        match BasicBlock.newCode entry (codeInput is) with
        | .error .panic => .panic
        | .error _ => .exit1 .model
        | .ok _ => runIU mem := by
  obtain ⟨M, hM⟩ := Lemmas.Parse.rv64Facts.newMatcher_ok
  conv => lhs; fun; fun; fun; delta runLoaded
  rw [hM]
  rfl

theorem not_overlap_of_tidy (l : List Block) (ht : Elf.Spec.Tidy l) : ¬ BytesSpec.Overlap l := by
  rintro ⟨i, j, hij, bi, bj, hi, hj, a, ⟨_, h2⟩, ⟨h3, _⟩⟩
  obtain ⟨hil, rfl⟩ := List.getElem?_eq_some_iff.1 hi
  obtain ⟨hjl, rfl⟩ := List.getElem?_eq_some_iff.1 hj
  have := List.pairwise_iff_getElem.1 ht.2 i j hil hjl hij
  omega

/-- `memory.NewBytes` decides `runIU`, and its only failure is an overlap -/
theorem runIU_cases (mem : List Block) :
    (runIU mem = .ui ∧ ∃ bs, BytesMem.newBytes mem = .ok bs) ∨ (runIU mem = .exit1 .bytes ∧ BytesSpec.Overlap mem) := by
  unfold runIU
  cases h : BytesMem.newBytes mem with
  | ok bs => exact Or.inl ⟨rfl, bs, rfl⟩
  | error e =>
    obtain rfl := Props.C15.newBytes_no_panic mem e h
    exact Or.inr ⟨rfl, (Props.C15.newBytes_error_iff mem).1 h⟩

theorem runLoaded_cases (entry : Nat) (code mem : List Block) (hc : Elf.Spec.Fits code) :
    runLoaded entry code mem ≠ .panic ∧
    (runLoaded entry code mem = .ui → ∃ is bb bs, parseRv64 code = .ok is ∧
      BasicBlock.newCode entry (codeInput is) = .ok bb ∧ BytesMem.newBytes mem = .ok bs) := by
  rw [runLoaded_eq]
  cases hp : parseRv64 code with
  | error f =>
    obtain ⟨_, _, _, _, ⟨_, rfl⟩ | rfl⟩ := Props.C21.parse_error_kind _ (Props.C21.rv_honest _) code hc f hp <;>
      exact ⟨nofun, nofun⟩
  | ok is =>
    simp only
    cases hn : BasicBlock.newCode entry (codeInput is) with
    | ok bb =>
      simp only
      rcases runIU_cases mem with ⟨h, bs, hbs⟩ | ⟨h, _⟩ <;> rw [h]
      · exact ⟨nofun, fun _ => ⟨is, bb, bs, rfl, hn, hbs⟩⟩
      · exact ⟨nofun, nofun⟩
    | error e =>
      cases e with
      | panic => exact absurd hn (Props.C08.newCode_never_panics _ _)
      | _ => exact ⟨nofun, nofun⟩

theorem runLoaded_total (entry : Nat) (code mem : List Block) (hc : Elf.Spec.Fits code) :
    runLoaded entry code mem ≠ .panic :=
  (runLoaded_cases entry code mem hc).1

theorem run_loaded {lim : Nat} {v : Option View} {l : Loaded} {code mem : List Block} (hl : load lim v = .ok l)
    (hc : l.code = .ok code) (hm : l.mem = .ok mem) : run lim 1 v = runLoaded l.entry code mem := by
  unfold run
  rw [if_neg (by decide)]
  simp only [hl, hc, hm]

theorem run_total (lim nargs : Nat) (v : Option View) (hv : ∀ w, v = some w → Elf.Spec.ViewOK w)
    (hlim : ∀ w, v = some w → ∀ p ∈ w.progs, p.typ = 1 → p.memsz ≤ lim) : run lim nargs v ≠ .panic := by
  unfold run
  by_cases hn : nargs + 1 ≠ 2
  · rw [if_pos hn]; simp
  · rw [if_neg hn]
    cases hl : load lim v with
    | error e => simp
    | ok l =>
      simp only
      cases v with
      | none => rw [Props.C20.open_failed] at hl; cases hl
      | some w =>
        obtain rfl := Lemmas.Elf.load_some hl
        have hvw := hv w rfl
        simp only
        cases hc : machineCode w with
        | error e =>
          have he := Props.C20.machineCode_errors w hvw e hc
          cases e with
          | panic | alloc => simp at he
          | _ => simp
        | ok code =>
          simp only
          have hcf : Elf.Spec.Fits code := ((Props.C20.loaded_tidy lim w hvw _ hl).1 code hc).1
          cases hm : memory lim w with
          | error e =>
            obtain ⟨h1, h2⟩ := Props.C20.memory_no_crash lim w hvw (hlim w rfl)
            cases e with
            | panic => exact absurd hm h2
            | alloc => exact absurd hm h1
            | _ => simp
          | ok mem =>
            simp only
            exact runLoaded_total w.entry code mem hcf

end Mltwist.Lemmas.Startup
