import Mltwist.Lemmas.IntervalBasic
/-
C17: `MapIntersect` and `MapComplement` (`map.go`).  Both walk over the intervals of `i1` and keep a cursor `j` into
`i2`: what lies before the cursor ends before the current interval of `i1` and is not looked at again (`cursor_step`).
So the cursor is an optimisation, and each loop computes `i1.flatMap` of its single-interval step on all of `i2`.
The steps `intersect` and `complement` are described without their accumulators (`interPieces`/`interCnt`,
`compPieces`/`compIdx`); what they return are `Cuts`: the normal form of the members of the interval they are cut
from that lie in (outside) the other set.
-/
namespace Mltwist.Lemmas.Interval
open Mltwist.Interval

theorem cursor_step {i2 : List Intv} {i : Intv} {is : List Intv} {j c : Nat} (his : Normal (i :: is))
    (hki : ∀ k ∈ i2.take j, ∀ i' ∈ i :: is, k.2 ≤ i'.1) (hc : ∀ k ∈ (i2.drop j).take c, k.2 ≤ i.2) :
    ∀ k ∈ i2.take (j + c), ∀ i' ∈ is, k.2 ≤ i'.1 := by
  intro k hk i' hi'
  have := (normal_cons.1 his).2.1 i' hi'
  rw [List.take_add, List.mem_append] at hk
  rcases hk with hk | hk
  · exact hki k hk i' (List.mem_cons_of_mem _ hi')
  · exact Int.le_trans (hc k hk) (Int.le_of_lt this)

/-- `ps` are the normal pieces cut out of `[b, e)` by `Q`: the normal form of its members with `Q` -/
abbrev Cuts (ps : List Intv) (b e : Int) (Q : Int → Prop) : Prop := NormalOf ps fun x => (b ≤ x ∧ x < e) ∧ Q x

theorem Cuts.inside {ps : List Intv} {b e : Int} {Q : Int → Prop} (h : Cuts ps b e Q) :
    ∀ p ∈ ps, b ≤ p.1 ∧ p.2 ≤ e :=
  NormalOf.inside h fun _ hx => hx.1

theorem cuts_nil {b e : Int} {Q : Int → Prop} (h : ∀ x, b ≤ x → x < e → ¬ Q x) : Cuts [] b e Q :=
  ⟨trivial, fun x => ⟨fun h => absurd h (mem_nil x), fun h' => absurd h'.2 (h x h'.1.1 h'.1.2)⟩⟩

theorem cuts_single {b e : Int} {Q : Int → Prop} (hbe : b < e) (h : ∀ x, b ≤ x → x < e → Q x) :
    Cuts [(b, e)] b e Q :=
  ⟨hbe, fun x => (mem_singleton x _).trans ⟨fun h' => ⟨h', h x h'.1 h'.2⟩, fun h' => h'.1⟩⟩

theorem Cuts.congr {ps : List Intv} {b e : Int} {Q Q' : Int → Prop} (h : Cuts ps b e Q)
    (hq : ∀ x, b ≤ x → x < e → (Q x ↔ Q' x)) : Cuts ps b e Q' :=
  NormalOf.congr h fun x => and_congr_right fun hx => hq x hx.1 hx.2

/-- the range `[a, n)` as the memory laws write it, the upper bound through `toNat` -/
theorem cuts_toNat {ps : List Intv} {a n : Nat} {Q : Int → Prop} :
    Cuts ps a n Q ↔ NormalOf ps fun x => (a : Int) ≤ x ∧ x.toNat < n ∧ Q x := by
  have h : ∀ x : Int, ((a : Int) ≤ x ∧ x < n) ∧ Q x ↔ (a : Int) ≤ x ∧ x.toNat < n ∧ Q x := fun x =>
    and_assoc.trans (and_congr_right fun h => by rw [Int.toNat_lt (Int.le_trans (Int.natCast_nonneg a) h)])
  exact ⟨(NormalOf.congr · h), (NormalOf.congr · fun x => (h x).symm)⟩

theorem Cuts.append {l r : List Intv} {b m m' e : Int} {Q : Int → Prop} (hl : Cuts l b m Q) (hr : Cuts r m' e Q)
    (hm : m < m') (hbm : b ≤ m) (hme : m' ≤ e) (hgap : ∀ x, m ≤ x → x < m' → ¬ Q x) : Cuts (l ++ r) b e Q := by
  refine ⟨normal_append hl.normal hr.normal fun p hp q hq => ?_, fun x => ?_⟩
  · exact Int.lt_of_le_of_lt (hl.inside p hp).2 (Int.lt_of_lt_of_le hm (hr.inside q hq).1)
  · have := hgap x
    rw [mem_append, hl.mem, hr.mem]
    constructor
    · rintro (h | h)
      · exact ⟨⟨h.1.1, by omega⟩, h.2⟩
      · exact ⟨⟨by omega, h.1.2⟩, h.2⟩
    · intro h
      by_cases hx : x < m
      · exact .inl ⟨⟨h.1.1, hx⟩, h.2⟩
      · exact .inr ⟨⟨by by_cases hx' : x < m'; exact absurd h.2 (this (by omega) hx'); omega, h.1.2⟩, h.2⟩

theorem cuts_seg {b m : Int} {Q : Int → Prop} (h : ∀ x, b ≤ x → x < m → Q x) :
    Cuts (if b < m then [(b, m)] else []) b (max b m) Q := by
  split
  · next hbm =>
    rw [Int.max_eq_right (Int.le_of_lt hbm)]
    exact cuts_single hbm h
  · next hbm =>
    rw [Int.max_eq_left (Int.not_lt.1 hbm)]
    exact cuts_nil fun x h1 h2 => absurd h2 (Int.not_lt.2 h1)

theorem cuts_guard {ps : List Intv} {m e : Int} {Q : Int → Prop} (h : m < e → Cuts ps m e Q) :
    Cuts (if m < e then ps else []) (min m e) e Q := by
  split
  · next hme =>
    rw [Int.min_eq_left (Int.le_of_lt hme)]
    exact h hme
  · next hme =>
    rw [Int.min_eq_right (Int.not_lt.1 hme)]
    exact cuts_nil fun x h1 h2 => absurd h2 (Int.not_lt.2 h1)

theorem flatMap_spec {f : Intv → List Intv} {Q : Int → Prop} {is : List Intv} (his : Normal is)
    (h : ∀ i ∈ is, Cuts (f i) i.1 i.2 Q) :
    NormalOf (is.flatMap f) fun x => Mem x is ∧ Q x := by
  induction is with
  | nil => exact ⟨trivial, fun x => ⟨fun h => absurd h (mem_nil x), fun h => absurd h.1 (mem_nil x)⟩⟩
  | cons i is ih =>
    obtain ⟨_, hi2, his'⟩ := normal_cons.1 his
    have hi := h i List.mem_cons_self
    have h' := fun i' hi' => h i' (List.mem_cons_of_mem _ hi')
    obtain ⟨ih1, ih2⟩ := ih his' h'
    rw [List.flatMap_cons]
    refine ⟨normal_append hi.normal ih1 fun a ha b hb => ?_, fun x => ?_⟩
    · obtain ⟨i', hi', hb⟩ := List.mem_flatMap.1 hb
      exact Int.lt_of_le_of_lt (hi.inside a ha).2 (Int.lt_of_lt_of_le (hi2 i' hi') ((h' i' hi').inside b hb).1)
    · rw [mem_append, mem_cons, hi.mem, ih2, or_and_right]

/-- pieces produced by `intersect` on a normal list: the intervals that meet `intv`, each cut to `intv` -/
def interPieces (intv : Intv) (l : List Intv) : List Intv :=
  (l.filter fun k => decide (k.1 < intv.2) && decide (intv.1 < k.2)).map fun k => (max intv.1 k.1, min intv.2 k.2)

/-- number of consumed intervals reported by `intersect` -/
def interCnt (intv : Intv) : List Intv → Nat
  | [] => 0
  | k :: rest =>
    if intv.2 ≤ k.1 then 0
    else (if k.2 ≤ intv.2 then 1 else 0) + interCnt intv rest

theorem intersect_eq (intv : Intv) {l : List Intv} (hl : Normal l) : ∀ (acc : List Intv) (cnt : Nat),
    intersect intv l acc cnt = (acc ++ interPieces intv l, cnt + interCnt intv l) := by
  induction l with
  | nil => intro acc cnt; simp [intersect, interPieces, interCnt]
  | cons k rest ih =>
    intro acc cnt
    obtain ⟨hk1, hk2, hl'⟩ := normal_cons.1 hl
    simp only [interPieces] at ih ⊢
    simp only [intersect, interCnt, List.filter_cons, Bool.and_eq_true, decide_eq_true_eq, ih hl']
    by_cases h1 : intv.2 ≤ k.1
    · -- sorted: nothing behind `k` begins before `intv` ends
      rw [if_pos h1, if_pos h1, if_neg fun h => Int.not_lt.2 h1 h.1, List.filter_eq_nil_iff.2 fun k' hk' => ?_,
        List.map_nil, List.append_nil, Nat.add_zero]
      have := hk2 k' hk'
      simp only [Bool.and_eq_true, decide_eq_true_eq]
      omega
    · simp only [h1, if_false]
      by_cases h2 : k.2 ≤ intv.1
      · simp only [h2, if_true, Int.not_lt.2 h2, and_false, if_false]
        by_cases h3 : k.2 ≤ intv.2 <;> simp [h3] <;> omega
      · simp only [h2, if_false, Int.not_le.1 h1, Int.not_le.1 h2, and_self, if_true]
        by_cases h3 : k.2 ≤ intv.2 <;> simp [h3] <;> omega

theorem interPieces_drop {intv : Intv} {l : List Intv} {j : Nat} (h : ∀ k ∈ l.take j, k.2 ≤ intv.1) :
    interPieces intv (l.drop j) = interPieces intv l := by
  conv => rhs; rw [← List.take_append_drop j l]
  rw [interPieces, interPieces, List.filter_append,
    (List.filter_eq_nil_iff (l := l.take j)).2 fun k hk => ?_, List.nil_append]
  simp only [Bool.and_eq_true, decide_eq_true_eq]
  exact fun h' => Int.not_lt.2 (h k hk) h'.2

theorem interPieces_spec (intv : Intv) (hne : intv.1 < intv.2) {l : List Intv} (hl : Normal l) :
    Cuts (interPieces intv l) intv.1 intv.2 fun x => Mem x l := by
  obtain ⟨hl1, hl2⟩ := (normal_iff l).1 hl
  refine ⟨?_, fun x => ?_⟩
  · -- an interval that meets `intv` is non-empty when cut to it, and the cuts keep the order of the intervals
    rw [interPieces, normal_iff, List.pairwise_map]
    simp only [List.forall_mem_map, List.forall_mem_filter, Bool.and_eq_true, decide_eq_true_eq]
    exact ⟨fun k hk h => Int.lt_min.2 ⟨Int.max_lt.2 ⟨hne, h.1⟩, Int.max_lt.2 ⟨h.2, hl1 k hk⟩⟩,
      (hl2.filter _).imp fun h => Int.lt_of_le_of_lt (Int.min_le_right _ _) (Int.lt_of_lt_of_le h (Int.le_max_right _ _))⟩
  -- `x` lies in the cut of `k` iff it lies in `intv` and in `k`
  simp only [interPieces, Mem, List.mem_map, List.mem_filter, Bool.and_eq_true, decide_eq_true_eq]
  refine ⟨?_, ?_⟩
  · rintro ⟨_, ⟨k, ⟨hk, _⟩, rfl⟩, h5, h6⟩
    have ⟨h1, h2⟩ := Int.max_le.1 h5
    have ⟨h3, h4⟩ := Int.lt_min.1 h6
    exact ⟨⟨h1, h3⟩, k, hk, h2, h4⟩
  · rintro ⟨⟨h1, h3⟩, k, hk, h2, h4⟩
    exact ⟨_, ⟨k, ⟨hk, Int.lt_of_le_of_lt h2 h3, Int.lt_of_le_of_lt h1 h4⟩, rfl⟩, Int.max_le.2 ⟨h1, h2⟩,
      Int.lt_min.2 ⟨h3, h4⟩⟩

theorem interCnt_take (intv : Intv) (l : List Intv) (hl : Normal l) :
    ∀ k ∈ l.take (interCnt intv l), k.2 ≤ intv.2 := by
  induction l with
  | nil => simp [interCnt]
  | cons k rest ih =>
    have hk := (normal_cons.1 hl).2.1
    have ih := ih (normal_tail hl)
    simp only [interCnt]
    split
    · simp
    · next h1 =>
      by_cases h3 : k.2 ≤ intv.2
      · simp only [h3, if_true]
        rw [Nat.add_comm, List.take_succ_cons]
        intro k' hk'
        rcases List.mem_cons.1 hk' with rfl | hk'
        · exact h3
        · exact ih k' hk'
      · -- the next interval of `l` begins behind `intv`: the count stops
        have : interCnt intv rest = 0 := by
          cases rest with
          | nil => rfl
          | cons k' rest' =>
            have := hk k' List.mem_cons_self
            simp only [interCnt]
            rw [if_pos (by omega)]
        simp [h3, this]

theorem mapIntersectLoop_eq {i2 : List Intv} (hi2 : Normal i2) (is : List Intv) : ∀ (j : Nat) (acc : List Intv),
    Normal is → (∀ k ∈ i2.take j, ∀ i ∈ is, k.2 ≤ i.1) →
      mapIntersectLoop i2 is j acc = acc ++ is.flatMap fun i => interPieces i i2 := by
  induction is with
  | nil => exact fun _ acc _ _ => (List.append_nil acc).symm
  | cons i is ih =>
    intro j acc his hki
    have hd := fun i' hi' => interPieces_drop (intv := i') fun k hk => hki k hk i' hi'
    have hn := normal_drop hi2 j
    rw [mapIntersectLoop]
    split
    · next hj =>
      -- `i2` is used up: every interval of `i2` ends before `i :: is` begins
      rw [List.flatMap_eq_nil_iff.2 fun i' hi' => ?_, List.append_nil]
      rw [← hd i' hi', List.drop_eq_nil_of_le hj]
      rfl
    · rw [intersect_eq i hn]
      simp only [List.nil_append, Nat.zero_add]
      rw [ih _ _ (normal_tail his) (cursor_step his hki (interCnt_take i _ hn)),
        hd i List.mem_cons_self, List.flatMap_cons, List.append_assoc]

theorem intersect_spec {a b : List Intv} {A B : Int → Prop} (ha : NormalOf a A) (hb : NormalOf b B) :
    NormalOf (mapIntersect a b) fun x => A x ∧ B x := by
  rw [mapIntersect, mapIntersectLoop_eq hb.normal a 0 [] ha.normal (fun _ h => nomatch h)]
  exact (flatMap_spec ha.normal fun i hi => interPieces_spec i (normal_nonempty ha.normal i hi) hb.normal).congr
    fun x => and_congr (ha.mem x) (hb.mem x)

/-- pieces produced by `complement` -/
def compPieces (intv : Intv) : List Intv → List Intv
  | [] => [intv]
  | s :: rest =>
    if s.2 ≤ intv.1 then compPieces intv rest
    else if intv.2 ≤ s.1 then [intv]
    else
      (if intv.1 < s.1 then [(intv.1, s.1)] else []) ++
        (if s.2 < intv.2 then compPieces (s.2, intv.2) rest else [])

/-- index (relative to the start of `sub`) reported by `complement`: the number of intervals it has passed, less one
when it ran off the end of `sub` (`cnt - 1` in `map.go`; hence `-1` on the empty list).  `MapComplement` moves its
cursor by it only when it is positive. -/
def compIdx (intv : Intv) : List Intv → Int
  | [] => -1
  | s :: rest =>
    if s.2 ≤ intv.1 then 1 + compIdx intv rest
    else if intv.2 ≤ s.1 then 0
    else if s.2 < intv.2 then 1 + compIdx (s.2, intv.2) rest else 0

theorem complement_eq (l : List Intv) :
    ∀ (intv : Intv) (acc : List Intv) (cnt : Nat),
      complement intv l acc cnt = (acc ++ compPieces intv l, (cnt : Int) + compIdx intv l) := by
  induction l with
  | nil => intro intv acc cnt; simp [complement, compPieces, compIdx]; omega
  | cons s rest ih =>
    intro intv acc cnt
    simp only [complement, compPieces, compIdx]
    by_cases h1 : s.2 ≤ intv.1
    · simp only [h1, if_true, ih]
      simp only [Prod.mk.injEq, true_and]
      omega
    · simp only [h1, if_false]
      by_cases h2 : intv.2 ≤ s.1
      · simp [h2]
      · simp only [h2, if_false]
        by_cases h3 : s.2 < intv.2
        · simp only [h3, if_true, ih]
          by_cases h4 : intv.1 < s.1
          · simp only [h4, if_true, List.append_assoc, Prod.mk.injEq, true_and]
            omega
          · simp only [h4, if_false, List.nil_append, Prod.mk.injEq, true_and]
            omega
        · simp only [h3, if_false]
          by_cases h4 : intv.1 < s.1 <;> simp [h4]

/-- sorted, non-empty, disjoint: a normal list whose intervals may touch (the intervals of a sparse memory are such) -/
def Separate (l : List Intv) : Prop := (∀ i ∈ l, i.1 < i.2) ∧ l.Pairwise fun i j => i.2 ≤ j.1

theorem separate_cons {i : Intv} {l : List Intv} :
    Separate (i :: l) ↔ i.1 < i.2 ∧ (∀ k ∈ l, i.2 ≤ k.1) ∧ Separate l := by
  simp only [Separate, List.pairwise_cons, List.mem_cons, forall_eq_or_imp]
  exact ⟨fun ⟨⟨a, b⟩, c, d⟩ => ⟨a, c, b, d⟩, fun ⟨a, c, b, d⟩ => ⟨⟨a, b⟩, c, d⟩⟩

theorem separate_of_normal {l : List Intv} (h : Normal l) : Separate l :=
  have ⟨h1, h2⟩ := (normal_iff l).1 h
  ⟨h1, h2.imp Int.le_of_lt⟩

theorem compPieces_spec : ∀ (l : List Intv), Separate l → ∀ (intv : Intv), intv.1 < intv.2 →
    Cuts (compPieces intv l) intv.1 intv.2 (fun x => ¬ Mem x l)
  | [], _, intv, hne => cuts_single hne fun x _ _ => mem_nil x
  | s :: rest, hl, intv, hne => by
    obtain ⟨hs, hs2, hl'⟩ := separate_cons.1 hl
    have ih := compPieces_spec rest hl'
    have hrest : ∀ x, x < s.2 → ¬ Mem x rest := fun x hx ⟨k, hk, h1, h2⟩ =>
      Int.not_lt.2 (Int.le_trans (hs2 k hk) h1) hx
    simp only [compPieces, mem_cons, not_or]
    split
    · next h1 =>
      exact (ih intv hne).congr fun x hx _ => ⟨fun h => ⟨fun h' => Int.not_lt.2 (Int.le_trans h1 hx) h'.2, h⟩, fun h => h.2⟩
    · next h1 =>
      split
      · next h2 =>
        exact cuts_single hne fun x _ hx => ⟨fun h' => Int.not_lt.2 (Int.le_trans h2 h'.1) hx,
          hrest x (Int.lt_trans (Int.lt_of_lt_of_le hx h2) hs)⟩
      · next h2 =>
        -- the part of `intv` before `s`, nothing inside `s`, the pieces of what is left behind `s`
        have h1 := Int.not_le.1 h1
        have h2 := Int.not_le.1 h2
        refine (cuts_seg fun x _ hx => ⟨fun h' => Int.not_lt.2 h'.1 hx, hrest x (Int.lt_trans hx hs)⟩).append
          (cuts_guard fun h3 => (ih (s.2, intv.2) h3).congr fun x hx _ =>
            ⟨fun h => ⟨fun h' => Int.not_lt.2 hx h'.2, h⟩, fun h => h.2⟩)
          (Int.max_lt.2 ⟨Int.lt_min.2 ⟨h1, hne⟩, Int.lt_min.2 ⟨hs, h2⟩⟩) (Int.le_max_left _ _) (Int.min_le_right _ _)
          fun x hx1 hx2 hq => hq.1 ⟨Int.le_trans (Int.le_max_right _ _) hx1, Int.lt_of_lt_of_le hx2 (Int.min_le_left _ _)⟩

theorem compIdx_ge (l : List Intv) : ∀ intv : Intv, -1 ≤ compIdx intv l := by
  induction l with
  | nil => intro intv; simp [compIdx]
  | cons s rest ih =>
    intro intv
    simp only [compIdx]
    split
    · have := ih intv; omega
    · split
      · omega
      · split
        · have := ih (s.2, intv.2); omega
        · omega

theorem take_succ_idx {s : Intv} {rest : List Intv} {c b : Int} (hc : -1 ≤ c) (hs : s.2 ≤ b)
    (h : ∀ k ∈ rest.take c.toNat, k.2 ≤ b) : ∀ k ∈ (s :: rest).take (1 + c).toNat, k.2 ≤ b := by
  by_cases h1 : c = -1
  · subst h1
    exact fun _ hk => nomatch hk
  · rw [show (1 + c).toNat = c.toNat + 1 by omega, List.take_succ_cons]
    intro k hk
    rcases List.mem_cons.1 hk with rfl | hk
    · exact hs
    · exact h k hk

theorem compIdx_take : ∀ (l : List Intv) (intv : Intv), intv.1 < intv.2 →
    ∀ k ∈ l.take (compIdx intv l).toNat, k.2 ≤ intv.2
  | [], _, _ => fun _ hk => by simp at hk
  | s :: rest, intv, hne => by
    simp only [compIdx]
    split
    · exact take_succ_idx (compIdx_ge rest intv) (by omega) (compIdx_take rest intv hne)
    · split
      · exact fun _ hk => nomatch hk
      · split
        · next h3 =>
          exact take_succ_idx (compIdx_ge rest _) (Int.le_of_lt h3)
            (compIdx_take rest (s.2, intv.2) h3)
        · exact fun _ hk => nomatch hk

theorem compPieces_drop {intv : Intv} {l : List Intv} {j : Nat} (h : ∀ k ∈ l.take j, k.2 ≤ intv.1) :
    compPieces intv (l.drop j) = compPieces intv l := by
  induction j generalizing l with
  | zero => rfl
  | succ j ih =>
    cases l with
    | nil => rfl
    | cons k rest =>
      exact (ih fun k' hk' => h k' (List.mem_cons_of_mem _ hk')).trans (if_pos (h k List.mem_cons_self)).symm

theorem mapComplementLoop_cons (i2 : List Intv) (i : Intv) (is : List Intv) (j : Nat)
    (acc : List Intv) :
    mapComplementLoop i2 (i :: is) j acc =
      mapComplementLoop i2 is (j + (compIdx i (i2.drop j)).toNat)
        (acc ++ compPieces i (i2.drop j)) := by
  have hsub : (if j < i2.length then i2.drop j else []) = i2.drop j := by
    split
    · rfl
    · exact (List.drop_eq_nil_of_le (by omega)).symm
  simp only [mapComplementLoop, hsub, complement_eq, List.nil_append]
  congr 1
  split <;> omega

theorem mapComplementLoop_eq {i2 : List Intv} (is : List Intv) : ∀ (j : Nat) (acc : List Intv),
    Normal is → (∀ k ∈ i2.take j, ∀ i ∈ is, k.2 ≤ i.1) →
      mapComplementLoop i2 is j acc = acc ++ is.flatMap fun i => compPieces i i2 := by
  induction is with
  | nil => exact fun _ acc _ _ => (List.append_nil acc).symm
  | cons i is ih =>
    intro j acc his hki
    rw [mapComplementLoop_cons, ih _ _ (normal_tail his)
        (cursor_step his hki (compIdx_take _ i (normal_cons.1 his).1)),
      compPieces_drop fun k hk => hki k hk i List.mem_cons_self, List.flatMap_cons, List.append_assoc]

theorem complement_spec {a b : List Intv} {A B : Int → Prop} (ha : NormalOf a A) (hb : NormalOf b B) :
    NormalOf (mapComplement a b) fun x => A x ∧ ¬ B x := by
  rw [mapComplement, mapComplementLoop_eq a 0 [] ha.normal (fun _ h => nomatch h)]
  exact (flatMap_spec ha.normal fun i hi =>
    compPieces_spec b (separate_of_normal hb.normal) i (normal_nonempty ha.normal i hi)).congr
    fun x => and_congr (ha.mem x) (not_congr (hb.mem x))

end Mltwist.Lemmas.Interval
