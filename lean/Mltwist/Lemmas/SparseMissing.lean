import Mltwist.Lemmas.SparseLoad
/-
C14: `Missing` and `Blocks` (`sparse.go`).  The appends of `Missing` (in front of the first overlapping interval, in the
loop over the rest, behind it) compute the complement of the range by the overlapping intervals (`missing_eq`), whose
members `comp_ovl_spec` describes.  `Blocks` hands the address ranges of all stored intervals to `NewMap`.
-/
namespace Mltwist.Lemmas.Sparse
open Mltwist Mltwist.Sparse Mltwist.Spec.Sparse Mltwist.Interval
open Mltwist.Lemmas.Interval (newMap_spec normal_nonempty compPieces NormalOf)

theorem newIntv_ok {b e : Nat} (h : b ≤ e) : newIntv b e = .ok ((b : Int), (e : Int)) := by
  unfold newIntv
  rw [if_neg (by omega)]

/-- Stated with the rest `k` of the `do` block, so that it rewrites `missing` where the loop stands: both steps can
fail, and their results only exist under the binds. -/
theorem missingLoop_eq {β : Type} (e : Nat) (k : List Intv → Except Panic β) : ∀ (os : List KV) (le : Nat) (acc : List Intv),
    Walk e le os →
    (do
      let r ← missingLoop le os acc
      let intervals ← missingLast r.2 e r.1
      k intervals) =
      k (acc ++ if le < e then compPieces ((le : Int), (e : Int)) (os.map iv) else [])
  | [], le, acc, _ => by
    by_cases h : le < e
    · simp only [missingLoop, missingLast, bind, Except.bind, List.map_nil, compPieces, if_pos h,
        newIntv_ok (Nat.le_of_lt h)]
      rfl
    · simp only [missingLoop, missingLast, bind, Except.bind, if_neg h, List.append_nil]
      rfl
  | o :: os, le, acc, ⟨h1, h2, hoe, h3⟩ => by
    have ih := fun acc => missingLoop_eq e k os o.high acc h3
    rw [if_pos (by omega), compPieces_walk (Nat.lt_of_le_of_lt h1 h2) hoe, ← List.append_assoc]
    unfold missingLoop
    split
    · next hlo =>
      rw [newIntv_ok h1, if_pos (by omega)]
      exact ih _
    · next hlo =>
      rw [if_neg (by omega), List.append_nil]
      exact ih _

theorem missing_eq (t : Tree) (hinv : Inv t) {a w : Nat} (hd : InDom a w) :
    missing t a w =
      .ok (newMap (compPieces ((a : Int), ((a + w : Nat) : Int)) ((ovl t a (a + w)).map iv))) := by
  obtain ⟨hw1, _, hlt⟩ := hd
  unfold missing
  rw [endAddr_eq hlt]
  dsimp only
  rw [overlaps_eq t (Nat.le_add_right a w)]
  simp only [bind, Except.bind]
  cases hints : ovl t a (a + w) with
  | nil =>
    simp only
    rw [newIntv_ok (Nat.le_add_right a w)]
    rfl
  | cons i0 rest =>
    have ho := ovl_cons hinv hints
    have := missingLoop_eq (a + w) (fun l => pure (f := Except Panic) (newMap l)) rest i0.high
      (if a < i0.low then [((a : Int), (i0.low : Int))] else []) ho.walk
    simp only [bind, Except.bind] at this
    simp only [missingFirst]
    by_cases hf : a < i0.low
    · simp only [if_pos hf, newIntv_ok (Nat.le_of_lt hf), bind, Except.bind, pure, Except.pure] at this ⊢
      rw [this, compPieces_walk ho.high ho.low, if_pos hf]
    · simp only [if_neg hf, bind, Except.bind, pure, Except.pure] at this ⊢
      rw [this, compPieces_walk ho.high ho.low, if_neg hf]

theorem missing_ok (t : Tree) (hinv : Inv t) (a w : Nat) (hd : InDom a w) :
    ∃ m, missing t a w = .ok m ∧
      NormalOf m fun x => (a : Int) ≤ x ∧ (x.toNat < a + w ∧ abs t x.toNat = none) := by
  have hc := comp_ovl_spec hinv (a := a) hd.1
  exact ⟨_, missing_eq t hinv hd, (newMap_spec _ (normal_nonempty hc.normal)).congr hc.mem⟩

theorem blocksLoop_eq : ∀ (t : List KV), (∀ kv ∈ t, kv.low < kv.high) → blocksLoop t = .ok (t.map iv)
  | [], _ => rfl
  | kv :: t, h => by
    unfold blocksLoop
    rw [newIntv_ok (Nat.le_of_lt (h kv List.mem_cons_self)),
      blocksLoop_eq t fun kv' h' => h kv' (List.mem_cons_of_mem _ h')]
    rfl

theorem blocks_ok (t : Tree) (hinv : Inv t) :
    ∃ m, blocks t = .ok m ∧ NormalOf m fun x => (0 : Int) ≤ x ∧ abs t x.toNat ≠ none := by
  have hne : ∀ i ∈ t.map iv, i.1 < i.2 := fun i hi => by
    obtain ⟨o, ho, rfl⟩ := List.mem_map.1 hi
    exact Int.ofNat_lt.2 (hinv.2 o ho).1
  refine ⟨_, ?_, (newMap_spec _ hne).congr fun x => ?_⟩
  · unfold blocks
    rw [blocksLoop_eq t fun kv h => (hinv.2 kv h).1]
    rfl
  · rw [mem_map_iv, Ne, abs_eq_none_iff]
    exact and_congr_right fun _ => ⟨fun ⟨kv, hkv, hc⟩ hn => hn kv hkv hc,
      fun hn => Classical.byContradiction fun hne => hn fun kv hkv hc => hne ⟨kv, hkv, hc⟩⟩

end Mltwist.Lemmas.Sparse
