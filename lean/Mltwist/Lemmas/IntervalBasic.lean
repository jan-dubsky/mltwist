import Mltwist.Spec.IntervalSet
import Mltwist.Lemmas.SortSearch
/-
C17: interval lists as sets (`Mem`) and the normal form (`Normal`); `NormalOf l S`, "`l` is the normal form of the set
`S`", is what every operation of the package and every `Missing`/`Blocks` of a memory is specified by.  `addInterval`
on the reversed accumulator of `NewMap` and `MapUnion` (`HeadLe`: intervals arrive in the order of their begins):
one loop, which `NewMap` runs over the sorted list and `MapUnion` over the merge of its two lists
(`unionMerge_eq`).
-/
namespace Mltwist.Lemmas.Interval
open Mltwist.Interval

theorem mem_nil (x : Int) : ¬ Mem x [] := fun ⟨_, h, _⟩ => nomatch h

theorem mem_cons (x : Int) (i : Intv) (m : List Intv) :
    Mem x (i :: m) ↔ (i.1 ≤ x ∧ x < i.2) ∨ Mem x m := by
  simp only [Mem, List.mem_cons, exists_eq_or_imp]

theorem mem_append (x : Int) (l r : List Intv) : Mem x (l ++ r) ↔ Mem x l ∨ Mem x r := by
  simp only [Mem, List.mem_append, or_and_right, exists_or]

theorem mem_congr (x : Int) {l r : List Intv} (h : ∀ i, i ∈ l ↔ i ∈ r) : Mem x l ↔ Mem x r := by
  simp only [Mem, h]

theorem mem_reverse (x : Int) (l : List Intv) : Mem x l.reverse ↔ Mem x l :=
  mem_congr x (fun _ => List.mem_reverse)

theorem mem_singleton (x : Int) (i : Intv) : Mem x [i] ↔ (i.1 ≤ x ∧ x < i.2) := by
  simp only [Mem, List.mem_singleton, exists_eq_left]

theorem mem_map {α : Type} (f : α → Intv) (l : List α) (x : Int) :
    Mem x (l.map f) ↔ ∃ o ∈ l, (f o).1 ≤ x ∧ x < (f o).2 :=
  ⟨fun ⟨_, hi, h⟩ => let ⟨o, ho, e⟩ := List.mem_map.1 hi; ⟨o, ho, e ▸ h⟩,
    fun ⟨o, ho, h⟩ => ⟨f o, List.mem_map_of_mem ho, h⟩⟩

theorem normal_iff (l : List Intv) :
    Normal l ↔ (∀ i ∈ l, i.1 < i.2) ∧ l.Pairwise (fun i j => i.2 < j.1) := by
  induction l with
  | nil => simp [Normal]
  | cons i t ih =>
    cases t with
    | nil => simp [Normal]
    | cons j rest =>
      simp only [Normal, ih, List.pairwise_cons, List.mem_cons, forall_eq_or_imp]
      constructor
      · rintro ⟨h1, h2, ⟨h3, h4⟩, h5, h6⟩
        refine ⟨⟨h1, h3, h4⟩, ⟨h2, ?_⟩, h5, h6⟩
        intro k hk
        have := h5 k hk
        omega
      · rintro ⟨⟨h1, h3, h4⟩, ⟨h2, _⟩, h5, h6⟩
        exact ⟨h1, h2, ⟨h3, h4⟩, h5, h6⟩

theorem normal_cons {i : Intv} {l : List Intv} :
    Normal (i :: l) ↔ i.1 < i.2 ∧ (∀ k ∈ l, i.2 < k.1) ∧ Normal l := by
  simp only [normal_iff, List.pairwise_cons, List.mem_cons, forall_eq_or_imp]
  exact ⟨fun ⟨⟨a, b⟩, c, d⟩ => ⟨a, c, b, d⟩, fun ⟨a, c, b, d⟩ => ⟨⟨a, b⟩, c, d⟩⟩

theorem normal_nonempty {l : List Intv} (h : Normal l) : ∀ i ∈ l, i.1 < i.2 :=
  ((normal_iff l).1 h).1

theorem normal_tail {i : Intv} {l : List Intv} (h : Normal (i :: l)) : Normal l :=
  (normal_cons.1 h).2.2

theorem normal_sorted {l : List Intv} (h : Normal l) : l.Pairwise (fun i j : Intv => i.1 ≤ j.1) := by
  obtain ⟨hne, hp⟩ := (normal_iff l).1 h
  refine hp.imp_of_mem fun {i j} hi _ hij => ?_
  have := hne i hi
  omega

theorem normal_drop {l : List Intv} (h : Normal l) (j : Nat) : Normal (l.drop j) := by
  rw [normal_iff] at h ⊢
  exact ⟨fun i hi => h.1 i (List.mem_of_mem_drop hi), h.2.sublist (List.drop_sublist j l)⟩

theorem normal_append {l r : List Intv} (hl : Normal l) (hr : Normal r)
    (h : ∀ a ∈ l, ∀ b ∈ r, a.2 < b.1) : Normal (l ++ r) := by
  rw [normal_iff] at hl hr ⊢
  refine ⟨fun i hi => ?_, List.pairwise_append.2 ⟨hl.2, hr.2, h⟩⟩
  rcases List.mem_append.1 hi with hi | hi
  · exact hl.1 i hi
  · exact hr.1 i hi

/-- `l` is the normal form of the set `S` -/
structure NormalOf (l : List Intv) (S : Int → Prop) : Prop where
  normal : Normal l
  mem : ∀ x, Mem x l ↔ S x

theorem normalOf_self {l : List Intv} (h : Normal l) : NormalOf l fun x => Mem x l := ⟨h, fun _ => Iff.rfl⟩

theorem normalOf_singleton {b e : Int} (h : b < e) : NormalOf [(b, e)] fun x => b ≤ x ∧ x < e :=
  ⟨h, fun x => mem_singleton x _⟩

theorem NormalOf.congr {l : List Intv} {S S' : Int → Prop} (h : NormalOf l S) (hs : ∀ x, S x ↔ S' x) :
    NormalOf l S' :=
  ⟨h.normal, fun x => (h.mem x).trans (hs x)⟩

theorem NormalOf.eq_nil_iff {l : List Intv} {S : Int → Prop} (h : NormalOf l S) : l = [] ↔ ∀ x, ¬ S x := by
  cases l with
  | nil => exact ⟨fun _ x hx => mem_nil x ((h.mem x).2 hx), fun _ => rfl⟩
  | cons i l =>
    exact ⟨fun h' => (nomatch h'), fun h' => absurd ((h.mem i.1).1
      ⟨i, List.mem_cons_self, Int.le_refl _, normal_nonempty h.normal i List.mem_cons_self⟩) (h' i.1)⟩

theorem NormalOf.inside {l : List Intv} {S : Int → Prop} (h : NormalOf l S) {b e : Int}
    (hs : ∀ x, S x → b ≤ x ∧ x < e) : ∀ p ∈ l, b ≤ p.1 ∧ p.2 ≤ e := by
  intro p hp
  have hne := normal_nonempty h.normal p hp
  have h1 := hs p.1 ((h.mem _).1 ⟨p, hp, Int.le_refl _, hne⟩)
  have h2 := hs (p.2 - 1) ((h.mem _).1 ⟨p, hp, by omega, by omega⟩)
  omega

theorem normal_reverse_cons {i : Intv} {acc : List Intv} :
    Normal (i :: acc).reverse ↔ i.1 < i.2 ∧ (∀ k ∈ acc, k.2 < i.1) ∧ Normal acc.reverse := by
  simp only [normal_iff, List.pairwise_reverse, List.mem_reverse, List.pairwise_cons, List.mem_cons, forall_eq_or_imp]
  exact ⟨fun ⟨⟨a, b⟩, c, d⟩ => ⟨a, c, b, d⟩, fun ⟨a, c, b, d⟩ => ⟨⟨a, b⟩, c, d⟩⟩

/-- the head of the reversed accumulator begins at or before `b` -/
def HeadLe (acc : List Intv) (b : Int) : Prop := ∀ h ∈ acc.head?, h.1 ≤ b

theorem headLe_nil (b : Int) : HeadLe [] b := fun _ h => nomatch h

theorem headLe_cons {i : Intv} {acc : List Intv} {b : Int} : HeadLe (i :: acc) b ↔ i.1 ≤ b := by
  simp only [HeadLe, List.head?_cons, Option.mem_def, Option.some.injEq, forall_eq']

theorem headLe_mono {acc : List Intv} {b c : Int} (h : HeadLe acc b) (hbc : b ≤ c) :
    HeadLe acc c := fun k hk => Int.le_trans (h k hk) hbc

theorem addInterval_spec (acc : List Intv) (i : Intv) (hn : Normal acc.reverse) (hh : HeadLe acc i.1)
    (hi : i.1 < i.2) :
    Normal (addInterval acc i).reverse ∧ HeadLe (addInterval acc i) i.1 ∧
      ∀ x, Mem x (addInterval acc i) ↔ Mem x acc ∨ (i.1 ≤ x ∧ x < i.2) := by
  cases acc with
  | nil =>
    refine ⟨normal_reverse_cons.2 ⟨hi, fun _ h => (nomatch h), hn⟩, headLe_cons.2 (Int.le_refl _), fun x => ?_⟩
    rw [addInterval, mem_singleton]
    exact (or_iff_right (mem_nil x)).symm
  | cons last rest =>
    obtain ⟨hl, hlr, hr⟩ := normal_reverse_cons.1 hn
    have hh := headLe_cons.1 hh
    simp only [addInterval]
    split
    · next h1 =>
      refine ⟨normal_reverse_cons.2 ⟨hi, fun k hk => ?_, hn⟩, headLe_cons.2 (Int.le_refl _), fun x => ?_⟩
      · rcases List.mem_cons.1 hk with rfl | hk
        · exact h1
        · have := hlr k hk
          omega
      · rw [mem_cons]
        exact or_comm
    · next h1 =>
      split
      · next h2 =>
        refine ⟨normal_reverse_cons.2 ⟨by simp only; omega, hlr, hr⟩, headLe_cons.2 hh, fun x => ?_⟩
        simp only [mem_cons]
        have : (last.1 ≤ x ∧ x < i.2) ↔ (last.1 ≤ x ∧ x < last.2) ∨ (i.1 ≤ x ∧ x < i.2) := by omega
        rw [this]
        exact or_right_comm
      · next h2 =>
        refine ⟨hn, headLe_cons.2 hh, fun x => ?_⟩
        rw [mem_cons]
        have : (i.1 ≤ x ∧ x < i.2) → (last.1 ≤ x ∧ x < last.2) := by omega
        exact ⟨Or.inl, fun h => h.elim id fun h => .inl (this h)⟩

theorem foldl_addInterval_spec (l : List Intv) :
    ∀ (acc : List Intv), Normal acc.reverse → (∀ i ∈ l.head?, HeadLe acc i.1) → (∀ i ∈ l, i.1 < i.2) →
      l.Pairwise (fun i j => i.1 ≤ j.1) →
      Normal (l.foldl addInterval acc).reverse ∧
        ∀ x, Mem x (l.foldl addInterval acc) ↔ Mem x acc ∨ Mem x l := by
  induction l with
  | nil =>
    intro acc hn _ _ _
    exact ⟨hn, fun x => (or_iff_left (mem_nil x)).symm⟩
  | cons i t ih =>
    intro acc hn hh hne hs
    simp only [List.mem_cons, forall_eq_or_imp] at hne
    simp only [List.pairwise_cons] at hs
    obtain ⟨h1, h2, h3⟩ := addInterval_spec acc i hn (hh i rfl) hne.1
    obtain ⟨h4, h5⟩ := ih (addInterval acc i) h1
      (fun k hk => headLe_mono h2 (hs.1 k (List.mem_of_mem_head? hk))) hne.2 hs.2
    refine ⟨h4, fun x => ?_⟩
    rw [List.foldl_cons, h5, h3, mem_cons, or_assoc]

theorem sortByBegin_sorted (l : List Intv) :
    (sortByBegin l).Pairwise (fun i j : Intv => i.1 ≤ j.1) :=
  InsertSort.sort_sorted (p := fun a b : Intv => a.1 < b.1) (ins := insertByBegin) (fun _ => rfl)
    (fun _ _ _ => rfl) Int.le_of_lt Int.not_lt.1 Int.le_trans l

theorem mem_sortByBegin (l : List Intv) (i : Intv) : i ∈ sortByBegin l ↔ i ∈ l :=
  (InsertSort.sort_perm (p := fun a b : Intv => a.1 < b.1) (ins := insertByBegin) (fun _ => rfl)
    (fun _ _ _ => rfl) l).mem_iff

theorem newMap_nil : newMap [] = [] := rfl

theorem newMap_singleton (i : Intv) : newMap [i] = [i] := rfl

theorem newMap_spec (l : List Intv) (h : ∀ i ∈ l, i.1 < i.2) : NormalOf (newMap l) fun x => Mem x l := by
  obtain ⟨h1, h2⟩ := foldl_addInterval_spec (sortByBegin l) [] trivial
    (fun _ _ => headLe_nil _) (fun i hi => h i ((mem_sortByBegin l i).1 hi)) (sortByBegin_sorted l)
  refine ⟨h1, fun x => ?_⟩
  rw [newMap, mem_reverse, h2, mem_congr x (mem_sortByBegin l)]
  exact or_iff_right (mem_nil x)

theorem unionMerge_eq (as bs acc : List Intv) :
    unionMerge as bs acc = (List.merge bs as fun x y => decide (x.1 ≤ y.1)).foldl addInterval acc := by
  fun_induction unionMerge as bs acc with
  | case1 a as b bs acc hlt ih =>
    rw [ih, List.cons_merge_cons_neg _ _ _ (by simpa using hlt), List.foldl_cons]
  | case2 a as b bs acc hge ih =>
    rw [ih, List.cons_merge_cons_pos _ _ _ (by simpa using hge), List.foldl_cons]
  | case3 bs acc => rw [List.merge_right]
  | case4 as acc _ => rw [List.nil_merge]

theorem union_spec {a b : List Intv} {A B : Int → Prop} (ha : NormalOf a A) (hb : NormalOf b B) :
    NormalOf (mapUnion a b) fun x => A x ∨ B x := by
  have hm : ∀ i, i ∈ List.merge b a (fun x y => decide (x.1 ≤ y.1)) ↔ i ∈ b ++ a :=
    fun _ => List.mem_merge.trans List.mem_append.symm
  have hs : ∀ {l : List Intv}, Normal l → l.Pairwise fun x y => decide (x.1 ≤ y.1) = true :=
    fun h => (normal_sorted h).imp decide_eq_true
  have hsorted := List.pairwise_merge (le := fun x y : Intv => decide (x.1 ≤ y.1))
    (fun _ _ _ h1 h2 => decide_eq_true (Int.le_trans (of_decide_eq_true h1) (of_decide_eq_true h2)))
    (fun x y => by simp [Int.le_total x.1 y.1]) b a (hs hb.normal) (hs ha.normal)
  obtain ⟨h1, h2⟩ := foldl_addInterval_spec _ [] trivial (fun _ _ => headLe_nil _)
    (fun i hi => (List.mem_append.1 ((hm i).1 hi)).elim (normal_nonempty hb.normal i) (normal_nonempty ha.normal i))
    (hsorted.imp of_decide_eq_true)
  rw [mapUnion, unionMerge_eq]
  refine ⟨h1, fun x => ?_⟩
  rw [mem_reverse, h2, mem_congr x hm, mem_append, hb.mem, ha.mem]
  exact (or_iff_right (mem_nil x)).trans or_comm

end Mltwist.Lemmas.Interval
