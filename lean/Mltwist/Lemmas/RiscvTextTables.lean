import Mltwist.Lemmas.RiscvDecode
import Mltwist.Lemmas.RiscvTextArgs
import Mltwist.Lemmas.RiscvFields
import Mltwist.Lemmas.RiscvLiftTables
/-
C25 (disassembly text is faithful), table level.

Namespace `RiscvTextTables` (re-checked against the regenerated tables on every run): for every entry of
every instruction table
* the mnemonic contains no space: it is a mnemonic of the reference (C02), whose mnemonics contain none (by evaluation);
* the effects depend on the instruction word only through the fields that the text shows (`DependsOnShown`).  The effects
  of an entry are those of the class of its mnemonic (`RiscvLiftTables`).  A class reads the word through a few fields only
  (`Desc.reads`, `Desc.lift_congr`), and the flags of every entry make its text show the fields its class reads, the
  immediate in that format (`flags32`, `flags64`, by evaluation).

Namespace `RiscvText`: C25 for any table of good entries with pairwise distinct mnemonics.  Mnemonics contain
no space, so equal texts have equal mnemonics and come from the same entry; for one entry the text
determines the shown fields (`RiscvTextArgs.shown_of_text`), through which alone the effects of a
good entry depend on the word.
-/
namespace Mltwist.Lemmas.RiscvTextTables
open Mltwist Mltwist.Riscv Mltwist.Lemmas.RiscvTextArgs Mltwist.Lemmas.RiscvLift

def DependsOnShown (e : Entry) : Prop :=
  ∀ addr w1 w2, SameShown e w1 w2 → e.effects ⟨addr, w1⟩ = e.effects ⟨addr, w2⟩

/-- what the text needs from an entry: a mnemonic without space, and effects that read the word only
through the fields the text shows -/
def Good (e : Entry) : Prop := ' ' ∉ e.name.toList ∧ DependsOnShown e

theorem csrImm_eq (i : Ins) : csrImm i = constFromUint 1 (regNum .rs1 i.value) := rfl

/-- proves `∀ e ∈ table, DependsOnShown e` for a table given by its definition.  Nothing calls it: `good_of_mem` goes
through `dependsOnShown_of_flags`. -/
macro "depends_on_shown " tbl:ident : tactic => `(tactic| (
  simp only [$tbl:ident, List.forall_mem_cons, List.not_mem_nil, false_imp_iff, implies_true]
  repeat' apply And.intro
  all_goals first | trivial | skip
  all_goals
    intro addr w1 w2 ⟨h1, h2, h3, h4⟩
    try (have h1 := h1 rfl)
    try (have h2 := h2 (by decide))
    try (have h3 := h3 (by decide))
    simp only [regStore, regLoad, regImmOp, reg2Op, maskedRegOp,
      regImmShift_eq _ _ _ _ (by decide : 5 ≤ 6), regImmShift_eq _ _ _ _ (by decide : 6 ≤ 6),
      jumpTarget, branchCmp, addrImmConst, immConst, atomicOp, atomicOpWidth, csrKey,
      csrImm_eq] at h4 ⊢ <;>
    simp only [*]))

/-- evaluated on the UTF-8 bytes (32 is the space): the kernel decodes a string literal into characters very slowly -/
theorem spec_names : ∀ r ∈ Spec.Rv.encodings, 32 ∉ r.name.toByteArray.data.toList := by decide +kernel

/-- the text of the entry shows every field that the class reads, the immediate in the format in which it is read: a
requirement on the flags of the entry, whatever their values -/
def flagsOK (e : Entry) (d : Desc) : Bool :=
  d.reads.all fun f => (shownFields e).contains f && (f != .imm || e.imm == d.immType)

theorem dependsOnShown_of_flags {e : Entry} {d : Desc} {W : Nat} (he : e.effects = d.lift W)
    (hf : flagsOK e d = true) : DependsOnShown e := by
  intro addr w1 w2 h
  rw [he]
  refine d.lift_congr W addr fun f hfd => ?_
  simp only [flagsOK, List.all_eq_true, Bool.and_eq_true, List.contains_iff_mem, Bool.or_eq_true, bne_iff_ne, ne_eq,
    beq_iff_eq] at hf
  obtain ⟨hm, ht⟩ := hf f hfd
  cases f with
  | reg r => exact h _ hm
  | imm => exact ht.resolve_left (fun h => h rfl) ▸ h _ hm

/-- the flags of the regenerated entries against the classes of the schema, pair by pair in the order in which
`tables32`/`tables64` compare the effects -/
theorem flags32 : ((instructionSet 32 true true).zip (classesOf 4)).all (fun x => flagsOK x.1 x.2.2) = true := by
  decide +kernel

theorem flags64 : ((instructionSet 64 true true).zip (classesOf 8)).all (fun x => flagsOK x.1 x.2.2) = true := by
  decide +kernel

theorem good_of_mem (xlen : Nat) (hx : RiscvDecode.Cfg xlen) (m a : Bool) (e : Entry)
    (h : e ∈ instructionSet xlen m a) : Good e := by
  obtain ⟨r, hr, hn⟩ := (RiscvDecode.rowFacts xlen hx m a).name_mem h
  refine ⟨hn ▸ RiscvTextStr.notMem_toList_of_byte (by decide) (spec_names r (List.mem_filter.1 hr).1), ?_⟩
  obtain ⟨p, hp, -, hl⟩ := pair_of_mem hx h
  have hf : ((instructionSet xlen true true).zip (classesOf (xlen / 8))).all (fun x => flagsOK x.1 x.2.2) = true := by
    rcases hx with rfl | rfl
    · exact flags32
    · exact flags64
  exact dependsOnShown_of_flags hl (List.all_eq_true.1 hf (e, p) hp)

end Mltwist.Lemmas.RiscvTextTables

namespace Mltwist.Lemmas.RiscvText
open Mltwist Mltwist.Riscv
open Mltwist.Lemmas.RiscvTextArgs Mltwist.Lemmas.RiscvTextTables

theorem entry_of_text {tbl : List Entry} (hn : (tbl.map (·.name)).Nodup)
    (hg : ∀ e ∈ tbl, Good e) {e1 e2 : Entry} (h1 : e1 ∈ tbl) (h2 : e2 ∈ tbl) (i1 i2 : Ins)
    (ht : e1.text i1 = e2.text i2) : e1 = e2 :=
  have hn' := name_of_text e1 e2 i1 i2 (hg e1 h1).1 (hg e2 h2).1 ht
  eq_of_pairwise (List.pairwise_map.1 hn) h1 h2 (fun h => h hn') fun h => h hn'.symm

theorem text_faithful {tbl : List Entry} (hn : (tbl.map (·.name)).Nodup)
    (hg : ∀ e ∈ tbl, Good e) {e1 e2 : Entry} (h1 : e1 ∈ tbl) (h2 : e2 ∈ tbl) (addr w1 w2 : Nat)
    (ht : e1.text ⟨addr, w1⟩ = e2.text ⟨addr, w2⟩) :
    e1.validEffects ⟨addr, w1⟩ = e2.validEffects ⟨addr, w2⟩ := by
  obtain rfl := entry_of_text hn hg h1 h2 _ _ ht
  unfold Entry.validEffects
  rw [(hg e1 h1).2 addr w1 w2 (shown_of_text e1 _ _ ht)]

end Mltwist.Lemmas.RiscvText
