import Mltwist.Model.RiscvTables
import Mltwist.Lemmas.Bytes
import Mltwist.Lemmas.RiscvFields
import Mltwist.Spec.Riscv
import Mltwist.Lemmas.Opcode
/-
Proofs for C02: the decoder accepts exactly the reference instruction set.

First the pattern of an entry as a 32-bit (mask, match) pair: little-endian values versus byte-wise `&&&`; "a pattern of at
most four bytes matches `bs`" is a statement about the word `wordOf bs` (`patMatches_iff_word`).  Then over ANY table `T`:
what follows for `parse` / `parseM` from a few decidable facts about `T` (`TableFacts`: same rows as a reference list `R`,
shape of the patterns, entries pairwise `Distinct`, i.e. no word matched by two of them and different names, valid opcode
patterns; the patterns of `Distinct` entries do not conflict, `noConflict_of_distinct`).  Then those facts are RE-CHECKED
for the regenerated tables (`Generated/Riscv*.lean`) by kernel evaluation (`decide +kernel`; no native code, no copied
constants), once per variant on its three chunks (integer, M, A); they pass to the eight configurations because every
configuration is a sublist of the full table of its variant (`chunks_sublist`), chunk by chunk like the
reference rows.
-/
namespace Mltwist.Lemmas.RiscvDecode
open Mltwist Mltwist.Riscv

section
open Mltwist.Lemmas.Bytes

theorem wordMask_eq (e : Entry) : e.wordMask = leToNat e.mask := by
  simp [Entry.wordMask, leToNat_append]

theorem wordMatch_eq (e : Entry) : e.wordMatch = leToNat e.bytes &&& leToNat e.mask := by
  simp [Entry.wordMatch, leToNat_append, leToNat_zipWith_and]

theorem patMatches_iff_word (e : Entry) (bs : List UInt8) (hl : e.bytes.length = e.mask.length)
    (hm : e.mask.length ≤ 4) (hb : 4 ≤ bs.length) :
    patMatches e.bytes e.mask bs = e.matchesWord (wordOf bs) := by
  have hlen : e.mask.length ≤ bs.length := by omega
  have key : wordOf bs &&& e.wordMask = e.wordMatch ↔
      List.zipWith (fun b m => b &&& m) bs e.mask = List.zipWith (fun b m => b &&& m) e.bytes e.mask := by
    rw [wordMask_eq, wordMatch_eq, wordOf, ← leToNat_zipWith_and, ← leToNat_zipWith_and,
      Opcode.zipWith_take_left _ hm]
    constructor
    · intro h
      -- two lists of one length with the same little-endian value
      refine (eq_natToLE ?_ h).trans (natToLE_leToNat _)
      simp only [List.length_zipWith]
      omega
    · intro h
      rw [h]
  unfold patMatches Entry.matchesWord
  rw [Bool.eq_iff_iff]
  simp only [Bool.and_eq_true, decide_eq_true_eq, beq_iff_eq, hlen, true_and]
  exact key.symm

end

abbrev Row := String × Nat × Nat

/-- the (name, match, mask) triples of a table and of reference rows: what `C02.table_eq_spec` compares -/
def triT (T : List Entry) : List Row := T.map (fun e => (e.name, e.wordMatch, e.wordMask))
def triR (R : List Spec.Rv.Enc) : List Row := R.map (fun e => (e.name, e.mtch, e.mask))

/-- membership; the numbers are compared first, so that a name (slow to compare in the kernel) is only
compared with the name of the row it belongs to -/
def rowIn (r : Row) (L : List Row) : Bool :=
  L.any fun x => x.2.1 == r.2.1 && (x.2.2 == r.2.2 && x.1 == r.1)

def sameRowsB (A B : List Row) : Bool := A.all (rowIn · B) && B.all (rowIn · A)

def shapeB (T : List Entry) : Bool :=
  T.all fun e => e.bytes.length == e.mask.length && decide (e.mask.length ≤ 4)

def Shaped (T : List Entry) : Prop := ∀ e ∈ T, e.bytes.length = e.mask.length ∧ e.mask.length ≤ 4

theorem rowIn_iff (r : Row) (L : List Row) : rowIn r L = true ↔ r ∈ L := by
  simp only [rowIn, List.any_eq_true, Bool.and_eq_true, beq_iff_eq]
  exact ⟨fun ⟨x, hx, h1, h2, h3⟩ => (Prod.ext h3 (Prod.ext h1 h2) : x = r) ▸ hx,
    fun h => ⟨r, h, rfl, rfl, rfl⟩⟩

theorem sameRowsB_iff (A B : List Row) (h : sameRowsB A B = true) (r : Row) : r ∈ A ↔ r ∈ B := by
  simp only [sameRowsB, Bool.and_eq_true, List.all_eq_true, rowIn_iff] at h
  exact ⟨h.1 r, h.2 r⟩

theorem shapeB_iff (T : List Entry) : shapeB T = true ↔ Shaped T := by
  simp [shapeB, Shaped]

/-- numeric code of a name: names with different codes are different, and the codes are numerals when the
pairs of a table are swept (strings are slow to compare in the kernel) -/
def nameKey (s : String) : Nat := s.toByteArray.data.toList.foldl (fun n b => n * 256 + b.toNat) 0

/-- two different instructions: no word is matched by both entries, and their names differ -/
def distinct (e f : Entry) : Bool :=
  e.wordMatch &&& f.wordMask != f.wordMatch &&& e.wordMask && nameKey e.name != nameKey f.name

abbrev Distinct (e f : Entry) : Prop := distinct e f = true

def allDistinct : List Entry → Bool
  | [] => true
  | e :: T => T.all (distinct e) && allDistinct T

theorem allDistinct_iff (T : List Entry) : allDistinct T = true ↔ T.Pairwise Distinct := by
  induction T with
  | nil => simp [allDistinct]
  | cons e T ih => simp [allDistinct, ih]

theorem distinct_iff {e f : Entry} : Distinct e f ↔
    e.wordMatch &&& f.wordMask ≠ f.wordMatch &&& e.wordMask ∧ nameKey e.name ≠ nameKey f.name := by
  simp [Distinct, distinct]

theorem Distinct.not_both {e f : Entry} (h : Distinct e f) (w : Nat) (m1 : e.matchesWord w = true)
    (m2 : f.matchesWord w = true) : False := by
  simp only [Entry.matchesWord, beq_iff_eq] at m1 m2
  apply (distinct_iff.1 h).1
  rw [← m1, ← m2, Nat.and_assoc, Nat.and_assoc, Nat.and_comm e.wordMask]

theorem matched_unique {T : List Entry} (hap : T.Pairwise Distinct) {e f : Entry} (he : e ∈ T)
    (hf : f ∈ T) {w : Nat} (m1 : e.matchesWord w = true) (m2 : f.matchesWord w = true) : e = f :=
  eq_of_pairwise hap he hf (fun h => h.not_both w m1 m2) fun h => h.not_both w m2 m1

/-- what the statements about `parse`/`parseM` over a table `T` need, `R` being the reference rows -/
structure TableFacts (T : List Entry) (R : List Spec.Rv.Enc) : Prop where
  rows : ∀ r, r ∈ triT T ↔ r ∈ triR R
  shaped : Shaped T
  distinct : T.Pairwise Distinct
  wellFormed : ∀ p ∈ patsOf T, Opcode.WellFormed p

theorem TableFacts.name_mem {T : List Entry} {R : List Spec.Rv.Enc} (h : TableFacts T R) {e : Entry}
    (he : e ∈ T) : ∃ r ∈ R, r.name = e.name := by
  obtain ⟨r, hr, hrr⟩ := List.mem_map.1 ((h.rows _).1 (List.mem_map.2 ⟨e, he, rfl⟩))
  exact ⟨r, hr, congrArg Prod.fst hrr⟩

theorem parse_of_short (T : List Entry) (addr : Nat) {bs : List UInt8} (h : bs.length < 4) : parse T addr bs = .short :=
  if_pos h

theorem parse_of_long (T : List Entry) (addr : Nat) {bs : List UInt8} (h : 4 ≤ bs.length) :
    parse T addr bs =
      match T.find? (fun e => patMatches e.bytes e.mask bs) with
      | none => .unknown
      | some e => .ok e ⟨addr, wordOf bs⟩ :=
  if_neg (Nat.not_lt.2 h)

theorem parse_cases (tbl : List Entry) (a : Nat) (bytes : List UInt8) :
    (bytes.length < 4 ∧ Riscv.parse tbl a bytes = .short) ∨
    (4 ≤ bytes.length ∧ (Riscv.parse tbl a bytes = .unknown ∨
      ∃ e ∈ tbl, Riscv.parse tbl a bytes = .ok e ⟨a, wordOf bytes⟩)) := by
  by_cases hl : bytes.length < 4
  · exact Or.inl ⟨hl, parse_of_short tbl a hl⟩
  · refine Or.inr ⟨Nat.not_lt.1 hl, ?_⟩
    rw [parse_of_long tbl a (Nat.not_lt.1 hl)]
    cases hf : tbl.find? (fun e => patMatches e.bytes e.mask bytes) with
    | none => exact Or.inl rfl
    | some e => exact Or.inr ⟨e, List.mem_of_find?_eq_some hf, rfl⟩

theorem parse_eq_word (T : List Entry) (hs : Shaped T) (addr : Nat) (bs : List UInt8)
    (h : 4 ≤ bs.length) :
    parse T addr bs =
      match T.find? (fun e => e.matchesWord (wordOf bs)) with
      | none => .unknown
      | some e => .ok e ⟨addr, wordOf bs⟩ := by
  have : T.find? (fun e => patMatches e.bytes e.mask bs) =
      T.find? (fun e => e.matchesWord (wordOf bs)) :=
    find?_congr_of_mem _ _ _ fun e he => patMatches_iff_word e bs (hs e he).1 (hs e he).2 h
  rw [parse_of_long T addr h, this]

theorem parse_trailing_gen (T : List Entry) (hs : Shaped T) (addr : Nat) (bs : List UInt8)
    (h : 4 ≤ bs.length) : parse T addr bs = parse T addr (bs.take 4) := by
  have hw : wordOf (bs.take 4) = wordOf bs := by simp [wordOf, List.take_take]
  rw [parse_eq_word T hs addr bs h, parse_eq_word T hs addr (bs.take 4) (by simp; omega), hw]

theorem decode_eq {T : List Entry} {R : List Spec.Rv.Enc} (h : TableFacts T R) (w : Nat) :
    (T.find? fun e => e.matchesWord w).map (·.name) =
      (R.find? fun r => w &&& r.mask == r.mtch).map (·.name) := by
  have toT : ∀ r ∈ R, (w &&& r.mask == r.mtch) = true →
      ∃ e ∈ T, e.matchesWord w = true ∧ e.name = r.name := by
    intro r hr hm
    obtain ⟨e, he, hee⟩ := List.mem_map.1 ((h.rows _).2 (List.mem_map.2 ⟨r, hr, rfl⟩))
    simp only [Prod.mk.injEq] at hee
    exact ⟨e, he, by rw [Entry.matchesWord, hee.2.1, hee.2.2]; exact hm, hee.1⟩
  have toR : ∀ e ∈ T, e.matchesWord w = true → ∃ r ∈ R, (w &&& r.mask == r.mtch) = true := by
    intro e he hm
    obtain ⟨r, hr, hrr⟩ := List.mem_map.1 ((h.rows _).1 (List.mem_map.2 ⟨e, he, rfl⟩))
    simp only [Prod.mk.injEq] at hrr
    exact ⟨r, hr, by rw [hrr.2.1, hrr.2.2]; exact hm⟩
  cases hR : R.find? (fun r => w &&& r.mask == r.mtch) with
  | none =>
    cases hT : T.find? (fun e => e.matchesWord w) with
    | none => rfl
    | some e =>
      obtain ⟨r, hr, hm⟩ := toR e (List.mem_of_find?_eq_some hT)
        (List.find?_some (p := fun e : Entry => e.matchesWord w) hT)
      exact absurd hm (List.find?_eq_none.1 hR r hr)
  | some r =>
    obtain ⟨e, he, hm, hn⟩ := toT r (List.mem_of_find?_eq_some hR)
      (List.find?_some (p := fun r : Spec.Rv.Enc => w &&& r.mask == r.mtch) hR)
    cases hT : T.find? (fun e => e.matchesWord w) with
    | none => exact absurd hm (List.find?_eq_none.1 hT e he)
    | some e' =>
      rw [matched_unique h.distinct (List.mem_of_find?_eq_some hT) he
        (List.find?_some (p := fun e : Entry => e.matchesWord w) hT) hm]
      exact congrArg some hn

theorem parse_unknown_gen {T : List Entry} {R : List Spec.Rv.Enc} (hf : TableFacts T R) (addr : Nat)
    (bs : List UInt8) (h : 4 ≤ bs.length) :
    parse T addr bs = .unknown ↔
      (R.find? fun e => wordOf bs &&& e.mask == e.mtch).map (·.name) = none := by
  rw [← decode_eq hf, parse_eq_word T hf.shaped addr bs h]
  cases T.find? (fun e => e.matchesWord (wordOf bs)) <;> simp

theorem parse_ok_gen {T : List Entry} {R : List Spec.Rv.Enc} (hf : TableFacts T R) (addr : Nat)
    (bs : List UInt8) (h : 4 ≤ bs.length) (n : String) :
    (∃ e, e ∈ T ∧ e.name = n ∧ parse T addr bs = .ok e ⟨addr, wordOf bs⟩) ↔
      (R.find? fun e => wordOf bs &&& e.mask == e.mtch).map (·.name) = some n := by
  rw [← decode_eq hf, parse_eq_word T hf.shaped addr bs h]
  cases hT : T.find? (fun e => e.matchesWord (wordOf bs)) with
  | none => simp
  | some e =>
    simp only [ParseResult.ok.injEq, and_true, Option.map_some, Option.some.injEq]
    constructor
    · rintro ⟨e', -, hn, rfl⟩
      exact hn
    · intro hn
      exact ⟨e, List.mem_of_find?_eq_some hT, hn, rfl⟩

open Mltwist.Opcode Mltwist.Lemmas.Opcode in
theorem patMatches_iff_Matches (e : Entry) (bs : List UInt8) (hl : e.bytes.length = e.mask.length) :
    patMatches e.bytes e.mask bs = true ↔ Matches ⟨e.bytes, e.mask⟩ bs := by
  rw [matches_iff_masked _ _ hl, applyMask_take, applyMask_eq_zipWith, applyMask_eq_zipWith]
  simp [patMatches]

/-- A byte string matched by two patterns, padded to four bytes, gives a word matched by two entries:
the opcode patterns of a table of pairwise distinct entries do not conflict. -/
theorem noConflict_of_distinct (T : List Entry) (hs : Shaped T) (hap : T.Pairwise Distinct) :
    (patsOf T).Pairwise fun p q => ¬ Opcode.Conflict p q := by
  have word : ∀ e ∈ T, ∀ bs, Opcode.Matches ⟨e.bytes, e.mask⟩ bs →
      e.matchesWord (wordOf (bs ++ [0, 0, 0, 0])) = true := by
    intro e he bs hm
    obtain ⟨hl, h4⟩ := hs e he
    rw [← patMatches_iff_word e _ hl h4 (by simp), patMatches_iff_Matches e _ hl]
    exact Opcode.matches_append hm _
  exact List.pairwise_map.2 (hap.imp_of_mem fun he hf h ⟨bs, h1, h2⟩ =>
    h.not_both _ (word _ he bs h1) (word _ hf bs h2))

/-- `NewParser`'s `bug: matcher creation failed` cannot happen -/
theorem TableFacts.newMatcher_ok {T : List Entry} {R : List Spec.Rv.Enc} (h : TableFacts T R) :
    ∃ M, Opcode.newMatcher (patsOf T) = .ok M :=
  Opcode.newMatcher_ok_of _ h.wellFormed (noConflict_of_distinct T h.shaped h.distinct)

open Mltwist.Opcode Mltwist.Lemmas.Opcode in
/-- the matcher answers with the position of the one entry whose pattern matches, which is the entry `find?` stops at -/
theorem parseM_gen {T : List Entry} {R : List Spec.Rv.Enc} (hf : TableFacts T R) (addr : Nat)
    (bs : List UInt8) : parseM T addr bs = some (parse T addr bs) := by
  obtain ⟨M, hM⟩ := hf.newMatcher_ok
  have hb := built_of_ok _ _ hM
  have hpm : ∀ e ∈ T, (patMatches e.bytes e.mask bs = true ↔ Matches ⟨e.bytes, e.mask⟩ bs) :=
    fun e he => patMatches_iff_Matches e bs (hf.shaped e he).1
  unfold parseM
  rw [hM]
  by_cases hshort : bs.length < 4
  · rw [parse_of_short T addr hshort]
    exact if_pos hshort
  · rw [parse_of_long T addr (Nat.not_lt.1 hshort)]
    simp only [hshort, if_false]
    cases hm : M.match bs with
    | none =>
      rw [List.find?_eq_none.2 fun e he hp =>
        (hb.match_none_iff bs).1 hm _ (List.mem_map_of_mem he) ((hpm e he).1 hp)]
    | some i =>
      obtain ⟨p, hp, hmp⟩ := hb.match_sound bs i hm
      simp only [patsOf, List.getElem?_map, Option.map_eq_some_iff] at hp
      obtain ⟨e, he, rfl⟩ := hp
      have hmem := List.mem_of_getElem? he
      simp only [he]
      cases hfind : T.find? (fun e => patMatches e.bytes e.mask bs) with
      | none => exact absurd ((hpm e hmem).2 hmp) (List.find?_eq_none.1 hfind e hmem)
      | some e' =>
        -- the entry found matches too, so the matcher answers with its position as well
        have hmem' := List.mem_of_find?_eq_some hfind
        obtain ⟨j, hj⟩ := List.mem_iff_getElem?.1 hmem'
        have := hb.match_complete bs j ⟨e'.bytes, e'.mask⟩ (by simp [patsOf, hj])
          ((hpm e' hmem').1 (List.find?_some (p := fun e : Entry => patMatches e.bytes e.mask bs) hfind))
        rw [show M.match bs = matchGroups M.groups bs from rfl] at hm
        cases hm.symm.trans this
        cases he.symm.trans hj
        rfl

/-- the reference rows of one extension in the variant: `Spec.Rv.rows` is the union of these over the extensions chosen
(`mem_rows`), as `instructionSet` is of the three tables -/
def extRows (xlen : Nat) (x : Spec.Rv.Ext) : List Spec.Rv.Enc :=
  Spec.Rv.encodings.filter fun e => (if xlen = 32 then e.rv32 else e.rv64) && e.ext == x

theorem mem_rows (xlen : Nat) (m a : Bool) (e : Spec.Rv.Enc) :
    e ∈ Spec.Rv.rows xlen m a ↔
      e ∈ extRows xlen .I ∨ (e ∈ extRows xlen .M ∧ m = true) ∨ (e ∈ extRows xlen .A ∧ a = true) := by
  simp only [Spec.Rv.rows, extRows, List.mem_filter, Bool.and_eq_true, beq_iff_eq]
  cases e.ext <;> simp [and_assoc]

theorem mem_triR_rows (xlen : Nat) (m a : Bool) (r : Row) :
    r ∈ triR (Spec.Rv.rows xlen m a) ↔
      r ∈ triR (extRows xlen .I) ∨ (m = true ∧ r ∈ triR (extRows xlen .M)) ∨
        (a = true ∧ r ∈ triR (extRows xlen .A)) := by
  cases m <;> cases a <;> simp [triR, mem_rows, or_and_right, exists_or]

/-- what is evaluated on the three tables `I`, `M`, `A` of a variant: each has the rows of its extension; together they
are shaped, pairwise distinct and valid patterns.  `tableFacts_of_chunks` passes this to every configuration. -/
structure ChunkFacts (xlen : Nat) (I M A : List Entry) : Prop where
  rowsI : sameRowsB (triT I) (triR (extRows xlen .I)) = true
  rowsM : sameRowsB (triT M) (triR (extRows xlen .M)) = true
  rowsA : sameRowsB (triT A) (triR (extRows xlen .A)) = true
  shape : shapeB (I ++ M ++ A) = true
  distinct : allDistinct (I ++ M ++ A) = true
  valid : (patsOf (I ++ M ++ A)).all Opcode.validate = true

/-- evaluated together: field by field (`constructor <;> decide +kernel`) the kernel has an eighth more work -/
instance (xlen : Nat) (I M A : List Entry) : Decidable (ChunkFacts xlen I M A) :=
  decidable_of_iff (_ ∧ _ ∧ _ ∧ _ ∧ _ ∧ _)
    ⟨fun ⟨a, b, c, d, e, f⟩ => ⟨a, b, c, d, e, f⟩, fun ⟨a, b, c, d, e, f⟩ => ⟨a, b, c, d, e, f⟩⟩

theorem chunkFacts32 : ChunkFacts 32 Gen.integer32 Gen.mul32 Gen.atomic32 := by decide +kernel

theorem chunkFacts64 : ChunkFacts 64 Gen.integer64 Gen.mul64 Gen.atomic64 := by decide +kernel

theorem tableFacts_of_chunks {xlen : Nat} {I M A : List Entry} (h : ChunkFacts xlen I M A)
    (m a : Bool) :
    TableFacts (I ++ (if m then M else []) ++ (if a then A else [])) (Spec.Rv.rows xlen m a) := by
  have hsub := chunks_sublist I M A m a
  refine ⟨fun r => ?_, fun e he => (shapeB_iff _).1 h.shape e (hsub.subset he), ((allDistinct_iff _).1 h.distinct).sublist hsub,
    fun p hp => (Opcode.all_validate_iff _).1 h.valid p ((hsub.map _).subset hp)⟩
  rw [mem_triR_rows, ← sameRowsB_iff _ _ h.rowsI, ← sameRowsB_iff _ _ h.rowsM, ← sameRowsB_iff _ _ h.rowsA]
  cases m <;> cases a <;> simp [triT]

theorem rowFacts (xlen : Nat) (hx : Cfg xlen) (m a : Bool) :
    TableFacts (instructionSet xlen m a) (Spec.Rv.rows xlen m a) := by
  rcases hx with rfl | rfl
  · exact tableFacts_of_chunks chunkFacts32 m a
  · exact tableFacts_of_chunks chunkFacts64 m a

/-- the configuration the tool runs, `NewParser(Variant64, ExtM, ExtA)` -/
theorem rv64Facts : TableFacts (instructionSet 64 true true) (Spec.Rv.rows 64 true true) := rowFacts 64 Cfg.rv64 true true

theorem names_nodup (xlen : Nat) (hx : Cfg xlen) (m a : Bool) :
    ((instructionSet xlen m a).map (·.name)).Nodup :=
  List.pairwise_map.2 ((rowFacts xlen hx m a).distinct.imp fun h hn => (distinct_iff.1 h).2 (congrArg nameKey hn))

end Mltwist.Lemmas.RiscvDecode
