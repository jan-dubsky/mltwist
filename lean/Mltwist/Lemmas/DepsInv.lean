import Mltwist.Lemmas.DepsMove
import Mltwist.Lemmas.DepsView
/-
The bookkeeping invariant of a block of the model (`BInv`), what it says about the bounds
(`LowerBound` / `UpperBound` are one behind the last dependency / one before the first dependent, and
contain the position) and its preservation by `Block.move` (C07): under the invariant indices and addresses
are functions of the order (`BInv.laid`: the sequence is its own layout `readdr insMovable 0 begin`), a move
gives the layout of the rotated sequence (`move_laid`; `BInv.move_eq`: `Block.move` is `checkMove` followed by
that), and the invariant survives the layout of every rearrangement that respects the edges (`BInv.relayout`);
`SameBlock` is the block object after a history, `Orig` the same of a freshly analysed block.
`IdxFrom`, `TilesI`, `bytesI` (`I`: on the instructions `Ins` of the model) are recursive, model-side forms of
the clauses of the specification's `VBlock.Inv` (`idx`, `Spec.Tiles`, `VBlock.bytes`); `BInv.view_inv` in
`DepsLookup.lean` is the bridge.
-/
namespace Mltwist.Lemmas.Deps
open Mltwist Mltwist.Deps Mltwist.Deps.Spec

/-- indices are `k, k+1, …` -/
def IdxFrom : Nat → List Ins → Prop
  | _, [] => True
  | k, i :: rest => i.blockIdx = k ∧ IdxFrom (k + 1) rest

/-- the instructions have positive lengths and tile the addresses from `a` on -/
def TilesI : Nat → List Ins → Prop
  | _, [] => True
  | a, i :: rest => i.currAddr = a ∧ 0 < i.len ∧ TilesI (a + i.len) rest

def bytesI (l : List Ins) : Nat := (l.map (·.len)).sum

def idsOf (l : List Ins) : List Nat := l.map (·.id)

/-- the invariant of one block -/
structure BInv (b : Block) : Prop where
  ne : b.seq ≠ []
  idx : IdxFrom 0 b.seq
  ids : (idsOf b.seq).Perm (List.range b.seq.length)
  tiles : TilesI b.begin b.seq
  top : b.begin + bytesI b.seq ≤ M
  end_ : b.end_ = (b.begin + bytesI b.seq) % M
  fwd : Fwd (idsOf b.seq) b.edges

theorem idxFrom_append (k : Nat) (l1 l2 : List Ins) :
    IdxFrom k (l1 ++ l2) ↔ IdxFrom k l1 ∧ IdxFrom (k + l1.length) l2 := by
  induction l1 generalizing k with
  | nil => simp [IdxFrom]
  | cons x xs ih =>
    simp only [List.cons_append, IdxFrom, ih, List.length_cons, and_assoc, Nat.add_assoc,
      Nat.add_comm 1]

theorem bytesI_append (l1 l2 : List Ins) : bytesI (l1 ++ l2) = bytesI l1 + bytesI l2 := by
  simp [bytesI]

theorem bytesI_cons (x : Ins) (l : List Ins) : bytesI (x :: l) = x.len + bytesI l := by
  simp [bytesI]

theorem bytesI_perm {l1 l2 : List Ins} (h : l1.Perm l2) : bytesI l1 = bytesI l2 :=
  (h.map fun i : Ins => i.len).sum_nat

theorem idsOf_length (l : List Ins) : (idsOf l).length = l.length := by simp [idsOf]

theorem idsOf_getElem (l : List Ins) (i : Nat) (hi : i < l.length) :
    (idsOf l)[i]'(by simpa [idsOf] using hi) = l[i].id := by simp [idsOf]

theorem tilesI_append (a : Nat) (l1 l2 : List Ins) :
    TilesI a (l1 ++ l2) ↔ TilesI a l1 ∧ TilesI (a + bytesI l1) l2 := by
  induction l1 generalizing a with
  | nil => simp [TilesI, bytesI]
  | cons x xs ih =>
    simp only [List.cons_append, TilesI, ih, bytesI_cons, and_assoc, Nat.add_assoc]

theorem idxFrom_getElem (k : Nat) (l : List Ins) (h : IdxFrom k l) (j : Nat) (hj : j < l.length) :
    l[j].blockIdx = k + j := by
  induction l generalizing k j with
  | nil => simp at hj
  | cons x xs ih =>
    cases j with
    | zero => simpa using h.1
    | succ j =>
      have := ih (k + 1) h.2 j (by simpa using hj)
      simp only [List.getElem_cons_succ, this]
      omega

theorem tilesI_mem (a : Nat) (l : List Ins) (h : TilesI a l) (i : Ins) (hi : i ∈ l) :
    a ≤ i.currAddr ∧ i.currAddr + i.len ≤ a + bytesI l ∧ 0 < i.len := by
  induction l generalizing a with
  | nil => cases hi
  | cons x xs ih =>
    rw [bytesI_cons]
    rcases List.mem_cons.1 hi with rfl | hi
    · have := h.1; have := h.2.1; exact ⟨by omega, by omega, by omega⟩
    · obtain ⟨g1, g2, g3⟩ := ih (a + x.len) h.2.2 hi
      exact ⟨by omega, by omega, g3⟩

theorem tilesI_pos (a : Nat) (l : List Ins) (h : TilesI a l) : ∀ i ∈ l, 0 < i.len :=
  fun i hi => (tilesI_mem a l h i hi).2.2

theorem tilesI_last (a : Nat) (l : List Ins) (h : TilesI a l) (hne : l ≠ []) :
    ∃ z ∈ l, a + bytesI l = z.currAddr + z.len := by
  induction l generalizing a with
  | nil => exact absurd rfl hne
  | cons x xs ih =>
    cases xs with
    | nil => exact ⟨x, by simp, by simp [bytesI, h.1]⟩
    | cons y ys =>
      obtain ⟨z, hz, e⟩ := ih (a + x.len) h.2.2 (by simp)
      refine ⟨z, List.mem_cons_of_mem _ hz, ?_⟩
      rw [bytesI_cons, ← e]; omega

theorem tilesI_sorted (a : Nat) (l : List Ins) (h : TilesI a l) :
    l.Pairwise fun x y => x.currAddr + x.len ≤ y.currAddr := by
  induction l generalizing a with
  | nil => exact List.Pairwise.nil
  | cons x xs ih =>
    refine List.pairwise_cons.2 ⟨fun y hy => ?_, ih _ h.2.2⟩
    rw [h.1]
    exact (tilesI_mem _ xs h.2.2 y hy).1

theorem tilesI_lt (a : Nat) (l : List Ins) (h : TilesI a l) (i j : Nat) (hij : i < j)
    (hj : j < l.length) : (l[i]'(by omega)).currAddr + (l[i]'(by omega)).len ≤ l[j].currAddr :=
  List.pairwise_iff_getElem.1 (tilesI_sorted a l h) i j (by omega) hj hij

theorem tilesI_getElem (a : Nat) (l : List Ins) (h : TilesI a l) (j : Nat) (hj : j < l.length) :
    l[j].currAddr = a + bytesI (l.take j) := by
  induction l generalizing a j with
  | nil => simp at hj
  | cons x xs ih =>
    cases j with
    | zero => simpa [bytesI] using h.1
    | succ j =>
      have := ih (a + x.len) h.2.2 j (by simpa using hj)
      simp only [List.getElem_cons_succ, this, List.take_succ_cons, bytesI_cons]
      omega

theorem readdr_static (k a : Nat) (l : List Ins) :
    (readdr insMovable k a l).map Ins.static = l.map Ins.static :=
  readdr_map insMovable Ins.static (fun _ _ => rfl) (fun _ _ => rfl) k a l

theorem readdr_ids (k a : Nat) (l : List Ins) : idsOf (readdr insMovable k a l) = idsOf l :=
  readdr_map insMovable (·.id) (fun _ _ => rfl) (fun _ _ => rfl) k a l

theorem readdr_bytes (k a : Nat) (l : List Ins) : bytesI (readdr insMovable k a l) = bytesI l :=
  congrArg List.sum (readdr_map insMovable (·.len) (fun _ _ => rfl) (fun _ _ => rfl) k a l)

theorem readdr_idx (k a : Nat) (l : List Ins) : IdxFrom k (readdr insMovable k a l) := by
  induction l generalizing k a with
  | nil => simp [readdr, IdxFrom]
  | cons x xs ih =>
    simp only [readdr, IdxFrom]
    exact ⟨rfl, ih _ _⟩

theorem readdr_tiles (k a : Nat) (l : List Ins) (hpos : ∀ i ∈ l, 0 < i.len)
    (htop : a + bytesI l ≤ M) : TilesI a (readdr insMovable k a l) := by
  induction l generalizing k a with
  | nil => simp [readdr, TilesI]
  | cons x xs ih =>
    simp only [readdr, TilesI]
    refine ⟨rfl, hpos x (by simp), ?_⟩
    cases xs with
    | nil => simp [readdr, TilesI]
    | cons y ys =>
      have hy : 0 < y.len := hpos y (by simp)
      have hb : a + x.len + (y.len + bytesI ys) ≤ M := by
        have := htop; simp only [bytesI_cons] at this; omega
      have he : insMovable.end_ (insMovable.setAddr (insMovable.setIndex x k) a) = a + x.len := by
        show (a + x.len) % M = a + x.len
        exact Nat.mod_eq_of_lt (by omega)
      rw [he]
      exact ih (k + 1) (a + x.len) (fun i hi => hpos i (by simp [hi]))
        (by simp only [bytesI_cons]; omega)

theorem blockIdxOf_eq (k : Nat) (l : List Ins) (h : IdxFrom k l) (id : Nat) (hm : id ∈ idsOf l) :
    blockIdxOf l id = some (k + (idsOf l).idxOf id) := by
  induction l generalizing k with
  | nil => simp [idsOf] at hm
  | cons x xs ih =>
    by_cases hx : x.id = id
    · simp [blockIdxOf, idsOf, hx, h.1]
    · have hm' : id ∈ idsOf xs := by
        simp only [idsOf, List.map_cons, List.mem_cons] at hm
        rcases hm with hm | hm
        · exact absurd hm.symm hx
        · exact hm
      have := ih (k + 1) h.2 hm'
      have hb : (x.id == id) = false := by simpa using hx
      simp only [blockIdxOf, List.find?_cons, hb] at this ⊢
      rw [this]
      simp only [idsOf, List.map_cons, List.idxOf_cons, hb, cond_false]
      congr 1; omega

theorem blockIdxOf_none (l : List Ins) (id : Nat) (hm : id ∉ idsOf l) : blockIdxOf l id = none := by
  induction l with
  | nil => simp [blockIdxOf]
  | cons x xs ih =>
    simp only [idsOf, List.map_cons, List.mem_cons, not_or] at hm
    have hb : (x.id == id) = false := by simpa using fun h => hm.1 h.symm
    have := ih hm.2
    simp only [blockIdxOf, List.find?_cons, hb] at this ⊢
    exact this

/-- the values `findBound` looks at -/
def boundVals (seq : List Ins) (set : List Nat) : List Nat := set.filterMap (blockIdxOf seq)

theorem findBound_eq_foldl (cmpF : Nat → Nat → Bool) (seq : List Ins) (set : List Nat) :
    findBound cmpF seq set = (boundVals seq set).foldl (fun curr bi =>
      match curr with
      | none => some bi
      | some c => if cmpF bi c then some bi else curr) none := by
  rw [boundVals, List.foldl_filterMap]
  unfold findBound
  congr 1
  funext curr id
  cases blockIdxOf seq id <;> rfl

theorem foldl_pick (cmpF : Nat → Nat → Bool) (op : Nat → Nat → Nat)
    (h : ∀ b c, (if cmpF b c then b else c) = op c b) (l : List Nat) (c : Nat) :
    l.foldl (fun curr bi =>
      match curr with
      | none => some bi
      | some c => if cmpF bi c then some bi else curr) (some c) = some (l.foldl op c) := by
  induction l generalizing c with
  | nil => rfl
  | cons b l ih =>
    rw [List.foldl_cons, List.foldl_cons, ← h b c, ← ih]
    congr 1
    exact (apply_ite some _ _ _).symm

theorem findBound_gt (seq : List Ins) (set : List Nat) :
    findBound (fun x y => decide (x > y)) seq set = (boundVals seq set).max? := by
  rw [findBound_eq_foldl]
  cases boundVals seq set with
  | nil => rfl
  | cons a as =>
    exact foldl_pick _ max (fun b c => by simp only [decide_eq_true_eq]; split <;> omega) as a

theorem findBound_lt (seq : List Ins) (set : List Nat) :
    findBound (fun x y => decide (x < y)) seq set = (boundVals seq set).min? := by
  rw [findBound_eq_foldl]
  cases boundVals seq set with
  | nil => rfl
  | cons a as =>
    exact foldl_pick _ min (fun b c => by simp only [decide_eq_true_eq]; split <;> omega) as a

theorem BInv.nodup {b : Block} (hb : BInv b) : (idsOf b.seq).Nodup :=
  (hb.ids.nodup_iff).2 List.nodup_range

theorem BInv.idxOf_id {b : Block} (hb : BInv b) (i : Nat) (hi : i < b.seq.length) :
    (idsOf b.seq).idxOf b.seq[i].id = i := by
  have := hb.nodup.idxOf_getElem i (by simpa [idsOf] using hi)
  rwa [idsOf_getElem] at this

/-- `key` and `val` pick the two ends of an edge: `depsBack` and `depsFwd` are the two instances -/
theorem BInv.mem_boundVals {b : Block} (hb : BInv b) (key val : Nat × Nat → Nat)
    (hv : ∀ e ∈ b.edges, val e ∈ idsOf b.seq) (id p : Nat) :
    p ∈ boundVals b.seq (b.edges.filterMap fun e => if key e = id then some (val e) else none) ↔
      ∃ e ∈ b.edges, key e = id ∧ p = (idsOf b.seq).idxOf (val e) := by
  simp only [boundVals, List.mem_filterMap, Option.ite_none_right_eq_some, Option.some.injEq]
  constructor
  · rintro ⟨x, ⟨e, he, hk, rfl⟩, hp⟩
    rw [blockIdxOf_eq 0 b.seq hb.idx _ (hv e he), Nat.zero_add, Option.some.injEq] at hp
    exact ⟨e, he, hk, hp.symm⟩
  · rintro ⟨e, he, hk, rfl⟩
    exact ⟨_, ⟨e, he, hk, rfl⟩, by rw [blockIdxOf_eq 0 b.seq hb.idx _ (hv e he), Nat.zero_add]⟩

theorem BInv.mem_back {b : Block} (hb : BInv b) (id p : Nat) :
    p ∈ boundVals b.seq (b.depsBack id) ↔ ∃ e ∈ b.edges, e.2 = id ∧ p = (idsOf b.seq).idxOf e.1 :=
  hb.mem_boundVals Prod.snd Prod.fst (fun _ he => hb.fwd.mem_fst he) id p

theorem BInv.mem_fwd {b : Block} (hb : BInv b) (id p : Nat) :
    p ∈ boundVals b.seq (b.depsFwd id) ↔ ∃ e ∈ b.edges, e.1 = id ∧ p = (idsOf b.seq).idxOf e.2 :=
  hb.mem_boundVals Prod.fst Prod.snd (fun _ he => hb.fwd.mem_snd he) id p

theorem index_nat (b : Block) (i : Nat) (hi : i < b.seq.length) : b.index (i : Int) = some b.seq[i] := by
  simp [Block.index, hi]

/-- `lo` is one behind the last instruction that the instruction at position `i` depends on -/
structure IsLower (b : Block) (i : Nat) (hi : i < b.seq.length) (lo : Nat) : Prop where
  le : lo ≤ i
  behind : ∀ e ∈ b.edges, e.2 = b.seq[i].id → (idsOf b.seq).idxOf e.1 < lo
  tight : lo = 0 ∨ ∃ e ∈ b.edges, e.2 = b.seq[i].id ∧ (idsOf b.seq).idxOf e.1 + 1 = lo

/-- `up` is one before the first instruction that depends on the instruction at position `i` -/
structure IsUpper (b : Block) (i : Nat) (hi : i < b.seq.length) (up : Nat) : Prop where
  ge : i ≤ up
  lt : up < b.seq.length
  before : ∀ e ∈ b.edges, e.1 = b.seq[i].id → up < (idsOf b.seq).idxOf e.2
  tight : up + 1 = b.seq.length ∨ ∃ e ∈ b.edges, e.1 = b.seq[i].id ∧ (idsOf b.seq).idxOf e.2 = up + 1

theorem BInv.lowerBound_spec {b : Block} (hb : BInv b) (i : Nat) (hi : i < b.seq.length) :
    ∃ lo : Nat, b.lowerBound (i : Int) = some (lo : Int) ∧ IsLower b i hi lo := by
  -- the candidates are the positions of the dependencies; they lie before `i`
  have hmem := hb.mem_back b.seq[i].id
  have hpos : ∀ p ∈ boundVals b.seq (b.depsBack b.seq[i].id), p < i := fun p hp => by
    obtain ⟨e, he, h2, rfl⟩ := (hmem p).1 hp
    have := hb.fwd.lt he
    rwa [h2, hb.idxOf_id i hi] at this
  simp only [Block.lowerBound, index_nat b i hi, Option.map_some, findBound_gt]
  cases h : (boundVals b.seq (b.depsBack b.seq[i].id)).max? with
  | none =>
    rw [List.max?_eq_none_iff] at h
    refine ⟨0, by simp, Nat.zero_le _, fun e he h2 => ?_, .inl rfl⟩
    have := (hmem _).2 ⟨e, he, h2, rfl⟩
    rw [h] at this
    cases this
  | some c =>
    obtain ⟨hc, hle⟩ := List.max?_eq_some_iff.1 h
    obtain ⟨e, he, h2, h3⟩ := (hmem c).1 hc
    exact ⟨c + 1, by simp, hpos c hc,
      fun e' he' h2' => Nat.lt_succ_of_le (hle _ ((hmem _).2 ⟨e', he', h2', rfl⟩)),
      .inr ⟨e, he, h2, by omega⟩⟩

theorem cast_pred {n : Nat} (h : 0 < n) : (n : Int) - 1 = ((n - 1 : Nat) : Int) := by omega

theorem BInv.upperBound_spec {b : Block} (hb : BInv b) (i : Nat) (hi : i < b.seq.length) :
    ∃ up : Nat, b.upperBound (i : Int) = some (up : Int) ∧ IsUpper b i hi up := by
  -- the candidates are the positions of the dependents; they lie behind `i`
  have hmem := hb.mem_fwd b.seq[i].id
  have hpos : ∀ p ∈ boundVals b.seq (b.depsFwd b.seq[i].id), i < p ∧ p < b.seq.length := fun p hp => by
    obtain ⟨e, he, h2, rfl⟩ := (hmem p).1 hp
    have := hb.fwd.lt he
    rw [h2, hb.idxOf_id i hi] at this
    exact ⟨this, idsOf_length b.seq ▸ List.idxOf_lt_length_of_mem (hb.fwd.mem_snd he)⟩
  simp only [Block.upperBound, index_nat b i hi, Option.map_some, findBound_lt]
  cases h : (boundVals b.seq (b.depsFwd b.seq[i].id)).min? with
  | none =>
    rw [List.min?_eq_none_iff] at h
    refine ⟨b.seq.length - 1, congrArg some (cast_pred (by omega)), by omega, by omega,
      fun e he h2 => ?_, .inl (by omega)⟩
    · have := (hmem _).2 ⟨e, he, h2, rfl⟩
      rw [h] at this
      cases this
  | some c =>
    obtain ⟨hc, hle⟩ := List.min?_eq_some_iff.1 h
    obtain ⟨e, he, h2, h3⟩ := (hmem c).1 hc
    have := hpos c hc
    refine ⟨c - 1, congrArg some (cast_pred (by omega)), by omega, by omega, fun e' he' h2' => ?_,
      .inr ⟨e, he, h2, by omega⟩⟩
    · have := hle _ ((hmem _).2 ⟨e', he', h2', rfl⟩)
      omega

theorem checkFromToIndex_spec (f t : Int) (n : Nat) :
    (checkFromToIndex f t n = .ok () ∧ 0 ≤ f ∧ f < n ∧ 0 ≤ t ∧ t < n) ∨
      ∃ e, checkFromToIndex f t n = .error e ∧ e ≠ .panic ∧ ¬(0 ≤ f ∧ f < n ∧ 0 ≤ t ∧ t < n) := by
  unfold checkFromToIndex
  by_cases h1 : f < 0
  · rw [if_pos h1]
    exact .inr ⟨_, rfl, nofun, fun hv => Int.not_le.2 h1 hv.1⟩
  rw [if_neg h1]
  by_cases h2 : f ≥ n
  · rw [if_pos h2]
    exact .inr ⟨_, rfl, nofun, fun hv => Int.not_le.2 hv.2.1 h2⟩
  rw [if_neg h2]
  by_cases h3 : t < 0
  · rw [if_pos h3]
    exact .inr ⟨_, rfl, nofun, fun hv => Int.not_le.2 h3 hv.2.2.1⟩
  rw [if_neg h3]
  by_cases h4 : t ≥ n
  · rw [if_pos h4]
    exact .inr ⟨_, rfl, nofun, fun hv => Int.not_le.2 hv.2.2.2 h4⟩
  rw [if_neg h4]
  exact .inl ⟨rfl, Int.not_lt.1 h1, Int.not_le.1 h2, Int.not_lt.1 h3, Int.not_le.1 h4⟩

/-- both positions are valid and the target lies within the two bounds the tool reports for `f` (the condition of
`C07.move_accepted_iff`) -/
structure Accepts (b : Block) (f t : Int) : Prop where
  valid : 0 ≤ f ∧ f < b.seq.length ∧ 0 ≤ t ∧ t < b.seq.length
  within : ∃ lo up : Int, b.lowerBound f = some lo ∧ b.upperBound f = some up ∧ lo ≤ t ∧ t ≤ up

/-- `checkMove_iff` and `move_err` are the two halves -/
theorem BInv.checkMove_spec {b : Block} (hb : BInv b) (f t : Int) :
    (b.checkMove f t = .ok () ∧ Accepts b f t) ∨
      ∃ e, b.checkMove f t = .error e ∧ e ≠ .panic ∧ ¬ Accepts b f t := by
  unfold Block.checkMove
  rcases checkFromToIndex_spec f t b.seq.length with ⟨hok, hv⟩ | ⟨e, he, hne, hv⟩
  · obtain ⟨i, rfl⟩ := Int.eq_ofNat_of_zero_le hv.1
    have hi : i < b.seq.length := by omega
    obtain ⟨lo, hlo, hL⟩ := hb.lowerBound_spec i hi
    obtain ⟨up, hup, hU⟩ := hb.upperBound_spec i hi
    have hlo1 := hL.le
    have hup1 := hU.ge
    have hiff : Accepts b i t ↔ (lo : Int) ≤ t ∧ t ≤ up :=
      ⟨fun h => by
        obtain ⟨lo', up', e1, e2, h56⟩ := h.within
        rw [hlo] at e1; rw [hup] at e2; cases e1; cases e2; exact h56,
       fun h56 => ⟨hv, lo, up, hlo, hup, h56⟩⟩
    simp only [hok, hlo, hup, bind, Except.bind, hiff]
    by_cases c1 : (i : Int) < t
    · rw [if_pos c1]
      by_cases c2 : (up : Int) < t
      · rw [if_pos c2]
        exact .inr ⟨_, rfl, nofun, by omega⟩
      · rw [if_neg c2]
        exact .inl ⟨rfl, by omega⟩
    · rw [if_neg c1]
      by_cases c3 : (i : Int) > t
      · rw [if_pos c3]
        by_cases c4 : (lo : Int) > t
        · rw [if_pos c4]
          exact .inr ⟨_, rfl, nofun, by omega⟩
        · rw [if_neg c4]
          exact .inl ⟨rfl, by omega⟩
      · rw [if_neg c3]
        exact .inl ⟨rfl, by omega⟩
  · exact .inr ⟨e, by simp only [he, bind, Except.bind], hne, fun h => hv h.valid⟩

theorem BInv.checkMove_iff {b : Block} (hb : BInv b) (f t : Int) :
    b.checkMove f t = .ok () ↔ Accepts b f t := by
  rcases hb.checkMove_spec f t with ⟨h, hv⟩ | ⟨e, h, _, hv⟩
  · exact ⟨fun _ => hv, fun _ => h⟩
  · exact ⟨fun h' => (by rw [h] at h'; cases h'), fun hv' => absurd hv' hv⟩

/-- moving the instruction at position `i` to position `j` passes no end of an edge of that instruction -/
structure EdgesAllow (b : Block) (i j : Nat) : Prop where
  src : i < b.seq.length
  dst : j < b.seq.length
  before : ∀ e ∈ b.edges, e.1 = b.seq[i].id → j < (idsOf b.seq).idxOf e.2
  behind : ∀ e ∈ b.edges, e.2 = b.seq[i].id → (idsOf b.seq).idxOf e.1 < j

theorem BInv.checkMove_iff_edges {b : Block} (hb : BInv b) (i j : Nat) :
    b.checkMove (i : Int) (j : Int) = .ok () ↔ EdgesAllow b i j := by
  rw [hb.checkMove_iff]
  constructor
  · intro h
    have hv := h.valid
    have hi : i < b.seq.length := by omega
    obtain ⟨lo, hlo, hL⟩ := hb.lowerBound_spec i hi
    obtain ⟨up, hup, hU⟩ := hb.upperBound_spec i hi
    obtain ⟨lo', up', e1, e2, h5, h6⟩ := h.within
    rw [hlo] at e1; rw [hup] at e2; cases e1; cases e2
    exact ⟨hi, by omega, fun e he h => by have := hU.before e he h; omega,
      fun e he h => by have := hL.behind e he h; omega⟩
  · intro h
    -- the bounds are tight: each is the neighbour of a dependency, or the end of the block
    obtain ⟨lo, hlo, hL⟩ := hb.lowerBound_spec i h.src
    obtain ⟨up, hup, hU⟩ := hb.upperBound_spec i h.src
    have hi := h.src
    have hj := h.dst
    refine ⟨by omega, lo, up, hlo, hup, ?_, ?_⟩
    · rcases hL.tight with rfl | ⟨e, he, h', rfl⟩
      · omega
      · have := h.behind e he h'; omega
    · rcases hU.tight with h' | ⟨e, he, h', h''⟩
      · omega
      · have := h.before e he h'; omega

theorem readdr_fix (k a : Nat) (l : List Ins) (hi : IdxFrom k l) (ht : TilesI a l)
    (htop : a + bytesI l ≤ M) : readdr insMovable k a l = l := by
  induction l generalizing k a with
  | nil => rfl
  | cons x xs ih =>
    obtain ⟨rfl, hi⟩ := hi
    obtain ⟨rfl, -, ht⟩ := ht
    show x :: readdr insMovable (x.blockIdx + 1) ((x.currAddr + x.len) % M) xs = x :: xs
    -- the address of the next instruction, if there is one, has not wrapped
    cases xs with
    | nil => rfl
    | cons y ys =>
      have := ht.2.1
      simp only [bytesI_cons] at htop
      rw [Nat.mod_eq_of_lt (by omega), ih _ _ hi ht (by simp only [bytesI_cons]; omega)]

theorem BInv.laid {b : Block} (hb : BInv b) : readdr insMovable 0 b.begin b.seq = b.seq :=
  readdr_fix 0 b.begin b.seq hb.idx hb.tiles hb.top

theorem readdrEnd_ins (k a : Nat) (l : List Ins) (hne : l ≠ []) :
    readdrEnd insMovable k a l = (a + bytesI l) % M := by
  induction l generalizing k a with
  | nil => exact absurd rfl hne
  | cons x xs ih =>
    show readdrEnd insMovable (k + 1) ((a + x.len) % M) xs = _
    cases xs with
    | nil => rfl
    | cons y ys =>
      rw [ih _ _ (List.cons_ne_nil _ _), Nat.mod_add_mod, bytesI_cons x, Nat.add_assoc]

/-- the segment gets what the layout would give it, and what stands before and behind the segment is where it
was, since the segment has kept its length and its bytes -/
theorem move_laid (a : Nat) (l : List Ins) (hfix : readdr insMovable 0 a l = l) (f t : Nat)
    (hf : f < l.length) (ht : t < l.length) :
    Deps.move insMovable l f t = some (readdr insMovable 0 a (rotate l f t)) := by
  by_cases hne : f = t
  · subst hne
    rw [move_self, rotate_self, hfix]
  · obtain ⟨P, seg, seg', S, y, rfl, hy, hp, hmv, hrot⟩ := move_split insMovable l f t hf ht hne
    obtain ⟨rest, rfl⟩ := List.head?_eq_some_iff.1 hy
    have hne' : seg' ≠ [] := fun h => by rw [h] at hp; cases hp.nil_eq
    rw [hmv, hrot]
    simp only [List.append_assoc, readdr_append, Nat.zero_add] at hfix ⊢
    obtain ⟨h1, h23⟩ := List.append_inj hfix (readdr_length ..)
    obtain ⟨h2, h3⟩ := List.append_inj h23 (readdr_length ..)
    -- the old first instruction of the segment stands where the layout of `P` ends
    have hy' : readdrEnd insMovable 0 a P = y.currAddr := congrArg Ins.currAddr (List.cons.inj h2).1
    rw [hy', readdrEnd_ins _ _ _ (List.cons_ne_nil _ _), ← bytesI_perm hp, ← hp.length_eq,
      ← readdrEnd_ins P.length _ _ hne'] at h3
    rw [h1, hy', h3]
    rfl

theorem BInv.relayout {b : Block} (hb : BInv b) {L : List Ins} (hp : L.Perm b.seq)
    (hfwd : Fwd (idsOf L) b.edges) : BInv { b with seq := readdr insMovable 0 b.begin L } := by
  have hlen : (readdr insMovable 0 b.begin L).length = b.seq.length := by
    rw [readdr_length, hp.length_eq]
  have hbytes : bytesI (readdr insMovable 0 b.begin L) = bytesI b.seq := by
    rw [readdr_bytes, bytesI_perm hp]
  exact ⟨List.ne_nil_of_length_pos (hlen ▸ List.length_pos_iff.2 hb.ne), readdr_idx _ _ _,
    by rw [hlen, readdr_ids]; exact (hp.map _).trans hb.ids,
    readdr_tiles _ _ _ (fun i hi => tilesI_pos _ _ hb.tiles i (hp.mem_iff.1 hi))
      (bytesI_perm hp ▸ hb.top),
    hbytes ▸ hb.top, hbytes ▸ hb.end_, (readdr_ids 0 b.begin L).symm ▸ hfwd⟩

theorem BInv.move_eq {b : Block} (hb : BInv b) (f t : Int) :
    b.move f t = (b.checkMove f t).map fun _ =>
      { b with seq := readdr insMovable 0 b.begin (rotate b.seq f.toNat t.toNat) } := by
  cases hc : b.checkMove f t with
  | error e => simp only [Block.move, hc, bind, Except.bind, Except.map]
  | ok u =>
    have hv := ((hb.checkMove_iff f t).1 hc).valid
    simp only [Block.move, hc, bind, Except.bind, Except.map,
      move_laid b.begin b.seq hb.laid f.toNat t.toNat (by omega) (by omega)]
    rfl

theorem move_ok_check {b b' : Block} {f t : Int} (h : b.move f t = .ok b') :
    b.checkMove f t = .ok () := by
  unfold Block.move at h
  cases hc : b.checkMove f t with
  | ok u => rfl
  | error e => rw [hc] at h; cases h

theorem BInv.move_accepted {b : Block} (hb : BInv b) {f t : Int} (hc : b.checkMove f t = .ok ()) :
    ∃ b', b.move f t = .ok b' := by
  rw [hb.move_eq, hc]
  exact ⟨_, rfl⟩

theorem BInv.move_err {b : Block} (hb : BInv b) (f t : Int) (e : MoveErr) (h : b.move f t = .error e) :
    e ≠ .panic := by
  rw [hb.move_eq] at h
  rcases hb.checkMove_spec f t with ⟨hc, _⟩ | ⟨e', hc, hne, _⟩ <;> rw [hc] at h <;> cases h
  exact hne

theorem static_eq {x y : Ins} (h : x.static = y.static) :
    x = { y with currAddr := x.currAddr, blockIdx := x.blockIdx } := by
  cases x; cases y
  simp only [Ins.static, Prod.mk.injEq] at h
  obtain ⟨rfl, rfl, rfl, rfl, rfl, rfl⟩ := h
  rfl

/-- the block object `b` is the block object `b0` after some history: same pointer, address range and
edges, and the same instructions up to order, current address and index -/
structure SameBlock (b0 b : Block) : Prop where
  ptr : b.ptr = b0.ptr
  begin : b.begin = b0.begin
  end_ : b.end_ = b0.end_
  edges : b.edges = b0.edges
  static : (b.seq.map Ins.static).Perm (b0.seq.map Ins.static)

theorem sameBlock_bytes {b0 b : Block} (h : SameBlock b0 b) : bytesI b.seq = bytesI b0.seq := by
  have := (h.static.map fun (_, _, _, len, _, _) => len).sum_nat
  rw [List.map_map, List.map_map] at this
  exact this

theorem SameBlock.refl (b : Block) : SameBlock b b := ⟨rfl, rfl, rfl, rfl, List.Perm.refl _⟩

theorem SameBlock.trans {a b c : Block} (h1 : SameBlock a b) (h2 : SameBlock b c) : SameBlock a c :=
  ⟨h2.ptr.trans h1.ptr, h2.begin.trans h1.begin, h2.end_.trans h1.end_, h2.edges.trans h1.edges,
    h2.static.trans h1.static⟩

/-- `b` is the block `b0` (in its original order, as analysed by the finders) after some history; `static`: an
instruction of `b` is known by its id, which is its position in `b0` -/
structure Orig (b0 b : Block) : Prop where
  ids : IdsArePositions b0.seq
  edges : findAllDeps b0.seq = some b.edges
  len : b.seq.length = b0.seq.length
  static : ∀ x ∈ b.seq, ∃ h : x.id < b0.seq.length, x.static = b0.seq[x.id].static

theorem Orig.refl {b : Block} (hi : IdsArePositions b.seq) (he : findAllDeps b.seq = some b.edges) :
    Orig b b := by
  refine ⟨hi, he, rfl, fun x hx => ?_⟩
  obtain ⟨k, hk, rfl⟩ := List.mem_iff_getElem.1 hx
  simp only [hi k hk]
  exact ⟨hk, trivial⟩

theorem Orig.same {b0 b b' : Block} (ho : Orig b0 b) (hs : SameBlock b b') : Orig b0 b' := by
  refine ⟨ho.ids, hs.edges ▸ ho.edges,
    (by simpa using hs.static.length_eq : b'.seq.length = b.seq.length).trans ho.len, fun x hx => ?_⟩
  obtain ⟨y, hy, hyx⟩ := List.mem_map.1 (hs.static.mem_iff.1 (List.mem_map_of_mem hx))
  have hid : y.id = x.id := by rw [static_eq hyx]
  rw [← hyx, ← hid]
  exact ho.static y hy

/-- what an accepted move `b.move f t = .ok b'` does: the static parts of the instructions are rotated, and
everything else follows from the invariant of the new block -/
structure Moved (b b' : Block) (f t : Int) : Prop where
  inv : BInv b'
  same : SameBlock b b'
  idx : b'.idx = b.idx
  static : b'.seq.map Ins.static = rotate (b.seq.map Ins.static) f.toNat t.toNat

theorem BInv.move_ok {b b' : Block} (hb : BInv b) {f t : Int} (hm : b.move f t = .ok b') :
    Moved b b' f t := by
  have hc := move_ok_check hm
  have hv := ((hb.checkMove_iff f t).1 hc).valid
  obtain ⟨i, rfl⟩ := Int.eq_ofNat_of_zero_le hv.1
  obtain ⟨j, rfl⟩ := Int.eq_ofNat_of_zero_le hv.2.2.1
  have hE := (hb.checkMove_iff_edges i j).1 hc
  have hi := hE.src
  have hj := hE.dst
  have hp := rotate_perm b.seq i j hi hj
  have hfwd : Fwd (idsOf (rotate b.seq i j)) b.edges := by
    rw [idsOf, rotate_map]
    exact fwd_rotate (idsOf b.seq) b.edges hb.nodup hb.fwd i j (by rwa [idsOf_length])
      (by rwa [idsOf_length]) (fun e he h => hE.before e he (by rw [h, idsOf_getElem]))
      (fun e he h => hE.behind e he (by rw [h, idsOf_getElem]))
  rw [hb.move_eq, hc] at hm
  obtain rfl := Except.ok.inj hm
  refine ⟨hb.relayout hp hfwd, ⟨rfl, rfl, rfl, rfl, ?_⟩, rfl, ?_⟩
  · exact (readdr_static ..).symm ▸ hp.map _
  · exact (readdr_static ..).trans (rotate_map ..)

end Mltwist.Lemmas.Deps
