import Std.Data.String.ToNat
import Mltwist.Model.Riscv
import Mltwist.Lemmas.TwosComplement
/-
What the RISC-V towers share.  The variants (`Cfg xlen`: RV32 or RV64, registers of `xlen / 8` bytes), and that an
instruction set is a sublist of the three tables of its variant (`chunks_sublist`), so that what is checked on the
regenerated tables of a variant holds in each of its four configurations.
The instruction word, for the lifting (C01) and for the text (C25): the model's field extraction (`regNum`, `bitRange`,
`signExtendImm`, `immParse`) agrees with the reference's (`rd`, `rs1`, `rs2`, `bits`, `sx`, `immI/S/B/U/J`).  A field of the
word, `Field`, and two words agreeing in one, `Field.Same`: what the schema reads (`Desc.reads`) and what the text shows
(`Slot.fields`) are lists of fields.
-/
namespace Mltwist.Lemmas.RiscvDecode

/-- the two variants `parser.go` knows -/
def Cfg (xlen : Nat) : Prop := xlen = 32 ∨ xlen = 64

theorem Cfg.rv64 : Cfg 64 := Or.inr rfl

/-- the register width in bytes, in which the lifting counts (`RiscvLift.Ctx`: `xlen = 8 * W`, `W = 4 ∨ W = 8`) -/
theorem Cfg.bytes {xlen : Nat} (h : Cfg xlen) : xlen = 8 * (xlen / 8) ∧ (xlen / 8 = 4 ∨ xlen / 8 = 8) := by
  rcases h with rfl | rfl
  · exact ⟨rfl, Or.inl rfl⟩
  · exact ⟨rfl, Or.inr rfl⟩

/-- `instructionSet xlen m a` in the full instruction set of the variant, `instructionSet xlen true true` -/
theorem chunks_sublist {α : Type} (I M A : List α) (m a : Bool) :
    (I ++ (if m then M else []) ++ (if a then A else [])).Sublist (I ++ M ++ A) := by
  cases m <;> cases a <;> simp

end Mltwist.Lemmas.RiscvDecode

namespace Mltwist.Lemmas.RiscvLift
open Mltwist Mltwist.Riscv Mltwist.Spec.Rv
open Mltwist.Lemmas.TwosComplement

theorem regName_inj {m n : Nat} : regName m = regName n ↔ m = n := by
  unfold regName
  rw [String.append_right_inj, Nat.toString_eq_repr, Nat.toString_eq_repr, Nat.repr_inj]

theorem regNum_rd (w : Nat) : regNum .rd w = rd w := rfl
theorem regNum_rs1 (w : Nat) : regNum .rs1 w = rs1 w := rfl
theorem regNum_rs2 (w : Nat) : regNum .rs2 w = rs2 w := rfl
theorem regNum_lt (r : Reg) (w : Nat) : regNum r w < 32 := Nat.mod_lt _ (by decide)

theorem bits_lt (w lo n : Nat) : bits w lo n < 2 ^ n := Nat.mod_lt _ (Nat.two_pow_pos n)
theorem rd_lt (w : Nat) : rd w < 32 := bits_lt w 7 5
theorem rs1_lt (w : Nat) : rs1 w < 32 := bits_lt w 15 5
theorem rs2_lt (w : Nat) : rs2 w < 32 := bits_lt w 20 5
theorem zimm_lt (w : Nat) : zimm w < 32 := bits_lt w 15 5
theorem csrNum_lt (w : Nat) : csrNum w < 4096 := bits_lt w 20 12

/-- the model cuts a field out with `mod` first and `div` second, the reference the other way round -/
theorem bitRange_eq_bits {w b e : Nat} (h : b ≤ e) : bitRange w b e = bits w b (e - b) := by
  unfold bitRange bits
  obtain ⟨n, rfl⟩ := Nat.exists_eq_add_of_le h
  rw [Nat.add_sub_cancel_left, Nat.pow_add, Nat.mod_mul_right_div_self]

theorem signExtendImm_eq_sx {u k : Nat} (hu : u < 2 ^ (k + 1)) :
    signExtendImm u k = sx (k + 1) u := by
  rw [sx_eq hu]
  unfold signExtendImm
  have h2 : 2 ^ (k + 1) = 2 * 2 ^ k := Nat.pow_succ'
  have hp := Nat.two_pow_pos k
  have hd : u / 2 ^ k < 2 := by rw [Nat.div_lt_iff_lt_mul hp]; omega
  have hiff : u / 2 ^ k % 2 = 0 ↔ u < 2 ^ k := by
    rw [Nat.mod_eq_of_lt hd, Nat.div_eq_zero_iff]; omega
  simp only [hiff, Nat.add_sub_cancel]

/-! The immediates: the fields are the same (`bitRange_eq_bits`), summed in a different order; the
bound on the sum follows from the bounds on the fields. -/

theorem immParse_I (w : Nat) : (immParse .I w).1 = immI w := by
  show signExtendImm (bitRange w 20 32) 11 = sx 12 (bits w 20 12)
  rw [bitRange_eq_bits (by decide)]
  exact signExtendImm_eq_sx (bits_lt _ _ _)

theorem immParse_S (w : Nat) : (immParse .S w).1 = immS w := by
  have h25 := bits_lt w 25 7
  have h7 := bits_lt w 7 5
  show signExtendImm (bitRange w 25 32 * 32 + bitRange w 7 12) 11 = sx 12 (bits w 25 7 * 32 + bits w 7 5)
  simp only [bitRange_eq_bits, Nat.reduceLeDiff, Nat.reduceSub]
  exact signExtendImm_eq_sx (by omega)

theorem immParse_B (w : Nat) : (immParse .B w).1 = immB w := by
  have h31 := bits_lt w 31 1
  have h7 := bits_lt w 7 1
  have h25 := bits_lt w 25 6
  have h8 := bits_lt w 8 4
  show signExtendImm (bitRange w 8 12 * 2 + bitRange w 25 31 * 32 + bitRange w 7 8 * 2048
    + bitRange w 31 32 * 4096) 12 = sx 13 _
  simp only [bitRange_eq_bits, Nat.reduceLeDiff, Nat.reduceSub]
  rw [signExtendImm_eq_sx (by omega)]
  exact congrArg (sx 13) (by omega)

theorem immParse_U (w : Nat) : (immParse .U w).1 = immU w := by
  have h12 := bits_lt w 12 20
  show toInt32 (bitRange w 12 32 * 4096) = sx 32 _
  simp only [bitRange_eq_bits, Nat.reduceLeDiff, Nat.reduceSub]
  rw [sx_eq (by omega)]
  rfl

theorem immParse_J (w : Nat) : (immParse .J w).1 = immJ w := by
  have h31 := bits_lt w 31 1
  have h12 := bits_lt w 12 8
  have h20 := bits_lt w 20 1
  have h21 := bits_lt w 21 10
  show signExtendImm (bitRange w 21 31 * 2 + bitRange w 20 21 * 2048 + bitRange w 12 20 * 4096
    + bitRange w 31 32 * 1048576) 20 = sx 21 _
  simp only [bitRange_eq_bits, Nat.reduceLeDiff, Nat.reduceSub]
  rw [signExtendImm_eq_sx (by omega)]
  exact congrArg (sx 21) (by omega)

theorem immParse_shamt {w : Nat} (_hw : w < 2 ^ 32) : (immParse .shamt w).1 = (bits w 20 6 : Nat) := by
  show ((bitRange w 20 26 : Nat) : Int) = _
  rw [bitRange_eq_bits (by decide)]

/-- the ranges of the immediates; `sx_wrap` asks for them at `immI` (`slti`) and `immU` (`lui`) -/
theorem immI_bounds (w : Nat) : -2048 ≤ immI w ∧ immI w < 2048 :=
  sx_bounds (n := 12) (by decide) _
theorem immS_bounds (w : Nat) : -2048 ≤ immS w ∧ immS w < 2048 :=
  sx_bounds (n := 12) (by decide) _
theorem immB_bounds (w : Nat) : -4096 ≤ immB w ∧ immB w < 4096 :=
  sx_bounds (n := 13) (by decide) _
theorem immU_bounds (w : Nat) : -2147483648 ≤ immU w ∧ immU w < 2147483648 :=
  sx_bounds (n := 32) (by decide) _
theorem immJ_bounds (w : Nat) : -1048576 ≤ immJ w ∧ immJ w < 1048576 :=
  sx_bounds (n := 21) (by decide) _

theorem immI_emod {w k : Nat} (hk : k ≤ 12) :
    immI w % ((2 ^ k : Nat) : Int) = ((bits w 20 k : Nat) : Int) := by
  rw [← natCast_wrap]
  show ((wrap k (sx 12 (bits w 20 12)) : Nat) : Int) = _
  rw [← wrap_mod_of_le hk, wrap_sx]
  unfold bits
  rw [Nat.mod_mod, Nat.mod_mod_of_dvd _ (Nat.pow_dvd_pow 2 hk)]

/-- `shamt` is bits 20–25 of the word, the I-immediate the sign extension of bits 20–31 -/
theorem shamt_low (v k : Nat) (hk : k ≤ 6) :
    (immParse .I v).1 % ((2 ^ k : Nat) : Int) = (immParse .shamt v).1 % ((2 ^ k : Nat) : Int) := by
  rw [immParse_I, immI_emod (by omega)]
  show _ = ((bitRange v 20 26 : Nat) : Int) % _
  rw [bitRange_eq_bits (by decide), ← Int.natCast_emod]
  unfold bits
  rw [Nat.mod_mod_of_dvd _ (Nat.pow_dvd_pow 2 hk)]

end Mltwist.Lemmas.RiscvLift

namespace Mltwist.Lemmas.RiscvTextArgs
open Mltwist Mltwist.Riscv

/-- a field of the instruction word as the lifting reads it and the text shows it: a register number, the immediate -/
inductive Field where
  | reg (r : Reg) | imm
  deriving DecidableEq

/-- two words agree in the field; `t`: the format in which the immediate is parsed -/
def Field.Same (t : ImmType) (w1 w2 : Nat) : Field → Prop
  | .reg r => regNum r w1 = regNum r w2
  | .imm => (immParse t w1).1 = (immParse t w2).1

end Mltwist.Lemmas.RiscvTextArgs
