import Mltwist.Lemmas.EmulatorStep
/-
Emulator (C03, C04): runs.  Along a run no state is requested twice and everything requested stays known: the log of a
step, successful or stopped, leads from what the state knew to what the next one knows (`Steps.asks`, `StepEnds`), and
logs compose, so one induction `run_asks` serves runs with and without the domain hypothesis.  At the end: the state
the tool starts from (`toolState`), its invariant and its byte maps.
-/
namespace Mltwist.Lemmas.Emulator
open Mltwist Mltwist.State Mltwist.Overlay Mltwist.Emulator Mltwist.Spec.Overlay Mltwist.Interval

/-- the log of a successful step: knowledge only grows along fills, writes and the fall-through -/
theorem Steps.asks {p : Provider} {code : CodeView} {s s1 s2 : State} {ins : Ins} {log : List Req} {rep : Report}
    (h : Steps p code s ins s1 s2 log rep) (hi : Inv s) : Asks s log (finish ins (ins.effects.any isJump) s2) :=
  (h.fill.asks hi).mono_right ((h.applied.stores.trans (finish_stores ..)).knowsMore h.inv1)

/-- all memory accesses of the first `n` steps from `s` lie in the domain of C14 -/
def RunDom (p : Provider) (code : CodeView) : Nat → State → Prop
  | 0, _ => True
  | n + 1, s =>
    (∀ c ins, assocGet ipKey s.regs = some (.const c) → code.lookup (leToNat c % 2 ^ 64) = some ins →
      StepDom p code s ins) ∧
    ∀ s' rep log, step p code s = .ok s' rep log → RunDom p code n s'

/-- how a step from `s` ends: with the error (nothing asked, nothing changed), or — successfully or with
the access error — in a state `s'` that stores of constants and the log of the step lead to -/
inductive StepEnds (p : Provider) (code : CodeView) (s : State) : Prop where
  | err : step p code s = .err → StepEnds p code s
  | ok {s' : State} {rep : Report} {log : List Req} : step p code s = .ok s' rep log → Stores s s' → Asks s log s' →
      StepEnds p code s
  | accessErr {s' : State} {log : List Req} {a w : Nat} : step p code s = .accessErr s' log a w → Stores s s' →
      Asks s log s' → StepEnds p code s

/-- … given the widths of the stores of the instruction at the instruction pointer (from `CodeSW`, or from the domain
condition: `StepDom.sw`) -/
theorem StepEnds.of_ready (p : Provider) (code : CodeView) {s : State} (hr : Ready s) (hw : CodeWF code)
    (hs : ∀ c ins, assocGet ipKey s.regs = some (.const c) → code.lookup (leToNat c % 2 ^ 64) = some ins → InsSW ins) :
    StepEnds p code s := by
  obtain ⟨c, hc⟩ := hr.ipConst
  cases hl : code.lookup (leToNat c % 2 ^ 64) with
  | none => exact .err (step_none p code (mustIP_spec hc) hl)
  | some ins =>
    cases step_total p code hr.inv (mustIP_spec hc) hl (hw ins (lookup_mem hl)) (hs c ins hc hl) with
    | steps h => exact .ok h.eq h.stores (h.asks hr.inv)
    | stops _ h => exact .accessErr h.eq h.fill.stores (h.fill.asks hr.inv)

/-- the induction over a run, under any condition `G` on the remaining steps that makes every step end well: the
run ends in a ready state, without a panic, and its whole log leads from the first state to the last -/
theorem run_asks (p : Provider) (code : CodeView) (G : Nat → State → Prop)
    (hG : ∀ n s, Ready s → G (n + 1) s →
      StepEnds p code s ∧ ∀ s' rep log, step p code s = .ok s' rep log → G n s') :
    ∀ (n : Nat) (s : State), Ready s → G n s →
      Ready (run p code n s).2 ∧
      (∀ o ∈ (run p code n s).1, match o with | .panic _ => False | _ => True) ∧
      Asks s (logOf (run p code n s).1) (run p code n s).2
  | 0, s, hr, _ => ⟨hr, (fun _ h => nomatch h), Asks.refl s⟩
  | n + 1, s, hr, hg => by
    obtain ⟨hstep, hnext⟩ := hG n s hr hg
    cases hstep with
    | err h =>
      have hrun : run p code (n + 1) s = ([.err], s) := by simp only [run, h]
      rw [hrun]
      exact ⟨hr, fun o ho => by cases List.mem_singleton.1 ho; trivial, Asks.refl s⟩
    | @ok s' rep log h hst ha =>
      obtain ⟨g1, g2, g3⟩ := run_asks p code G hG n s' (hst.ready hr) (hnext s' rep log h)
      have hrun : run p code (n + 1) s = (.ok s' rep log :: (run p code n s').1, (run p code n s').2) := by
        simp only [run, h]
      rw [hrun]
      refine ⟨g1, fun o ho => ?_, ha.trans g3⟩
      rcases List.mem_cons.1 ho with rfl | ho
      · trivial
      · exact g2 o ho
    | @accessErr s' log a w h hst ha =>
      -- the run ends with the access error: the provider calls of the failed step are the rest of the log
      have hrun : run p code (n + 1) s = ([.accessErr s' log a w], s') := by simp only [run, h]
      rw [hrun]
      refine ⟨hst.ready hr, fun o ho => by cases List.mem_singleton.1 ho; trivial, ?_⟩
      show Asks s (log ++ []) s'
      rw [List.append_nil]
      exact ha

/-- the state `cmd/mltwist` starts an emulation from: pre-set constant registers, the program image
as a byte memory under an empty sparse memory -/
def toolState (pre : List (String × List UInt8)) (bs : List BytesMem.Block) : State :=
  { regs := pre.foldl (fun (m : RegMap) p => m.store p.1 (.const p.2) p.2.length) RegMap.empty
    mems := [(Riscv.memoryKey, .overlay (.bytes bs) (.sparse []))] }

theorem regsConst_foldl (pre : List (String × List UInt8)) : ∀ m : RegMap, RegsConst m →
    RegsConst (pre.foldl (fun (m : RegMap) p => m.store p.1 (.const p.2) p.2.length) m) := by
  induction pre with
  | nil => intro m h; exact h
  | cons x xs ih => intro m h; exact ih _ (regsConst_store h x.1 x.2 x.2.length)

theorem mems_toolState {pre : List (String × List UInt8)} {bs : List BytesMem.Block} {key : String} {mem : Mem}
    (h : assocGet key (toolState pre bs).mems = some mem) :
    key = Riscv.memoryKey ∧ mem = .overlay (.bytes bs) (.sparse []) := by
  simp only [toolState, assocGet] at h
  split at h
  · next hk => cases h; exact ⟨hk.symm, rfl⟩
  · cases h

theorem inv_toolState (pre : List (String × List UInt8)) {image bs : List BytesMem.Block}
    (h : BytesMem.newBytes image = .ok bs) : Inv (toolState pre bs) := by
  have hb : BytesSpec.Inv bs := (Lemmas.BytesMem.newBytes_ok h).2.1
  refine ⟨⟨fun key mem hk => ?_, fun key e => ?_⟩,
    regsConst_foldl pre _ (fun _ _ h => by simp [RegMap.empty, assocGet] at h), fun key mem hk => ?_⟩
  · obtain ⟨_, rfl⟩ := mems_toolState hk
    exact ⟨hb, List.Pairwise.nil, fun _ h => (nomatch h)⟩
  · cases hk : assocGet key (toolState pre bs).mems with
    | none => exact Lemmas.Overlay.memmap_storable_of_none hk e
    | some mem =>
      obtain ⟨_, rfl⟩ := mems_toolState hk
      exact (Lemmas.Overlay.memmap_storable_of_get hk e).2 trivial
  · obtain ⟨_, rfl⟩ := mems_toolState hk
    exact ⟨trivial, fun _ h => (nomatch h)⟩

theorem abs_toolState (pre : List (String × List UInt8)) (bs : List BytesMem.Block) (key : String) (x : Nat) :
    (toolState pre bs).mems.abs key x =
      if key = Riscv.memoryKey then
        match BytesSpec.ofBlocks bs x with
        | some b => some (fun (_ : Env) => b.toNat)
        | none => none
      else none := by
  cases hk : assocGet key (toolState pre bs).mems with
  | none =>
    rw [Lemmas.Overlay.memmap_abs_of_none hk, if_neg]
    · rfl
    · rintro rfl
      simp [toolState, assocGet] at hk
  | some mem =>
    obtain ⟨rfl, rfl⟩ := mems_toolState hk
    rw [Lemmas.Overlay.memmap_abs_of_get hk, if_pos rfl]
    simp only [Mem.abs, layer, ofSparse, ofBytes, Sparse.abs, List.find?_nil]
    cases BytesSpec.ofBlocks bs x <;> rfl

end Mltwist.Lemmas.Emulator
