import Mltwist.Lemmas.ComposeDeps
import Mltwist.Props.C26
/-
COMPOSITION: start-up (C26, `Model/Startup.lean`) over the REAL dependency model.

`Startup.runLoaded` composes C21 `parseRv64`, C15 `newBytes` and, for `deps.NewCode`, C08's `BasicBlock.newCode`
(`basicblock.Parse` + the empty-block panic of `newBlock`), not `Deps.newCode` (C07's model of the same Go function,
which additionally builds the block objects and runs the dependency finders).  On the parser's instructions of a tidy
image the two fail together, with the same error (`newCode_agree`), so start-up with `Deps.newCode`
in its place (`runReal`) has the same outcome as C26's `run` on every view `debug/elf` can produce, and
reaching the UI means that every stage produced its result (`Started`).
-/
namespace Mltwist.Lemmas.Compose
open Mltwist Mltwist.Elf Mltwist.Parse Mltwist.Startup Mltwist.Lemmas.Deps

theorem newCode_agree {δ : Type} (entry : Nat) (is : List (Parse.Ins δ)) (hwf : Props.C07.WF (rawOf is)) :
    (∀ e, Deps.newCode entry (rawOf is) = .error e ↔ BasicBlock.newCode entry (codeInput is) = .error e) ∧
    ((∃ c, Deps.newCode entry (rawOf is) = .ok c) ↔ ∃ s, BasicBlock.newCode entry (codeInput is) = .ok s) := by
  have hnp := newCode_nopanic entry (rawOf is) hwf
  -- C07's model is C08's `parse` followed by the construction of the block objects, which cannot fail here
  rw [Props.C08.newCode_eq, ← toBB_rawOf_codeInput]
  rw [newCode_unfold] at hnp ⊢
  generalize BasicBlock.parse entry (toBB (rawOf is)) = r at hnp ⊢
  cases r with
  | error e =>
    simp only [Except.bind] at hnp ⊢
    exact ⟨fun _ => ⟨fun h => by cases h; rfl, fun h => by cases h; rfl⟩, ⟨nofun, nofun⟩⟩
  | ok seqs =>
    simp only [Except.bind] at hnp ⊢
    generalize Deps.newBlocks 0 (seqs.map fun s => s.filterMap (Deps.findRaw (rawIns (rawOf is)))) = bs at hnp ⊢
    cases bs with
    | none => exact absurd rfl hnp
    | some bs => exact ⟨fun _ => ⟨nofun, nofun⟩, ⟨fun _ => ⟨_, rfl⟩, fun _ => ⟨_, rfl⟩⟩⟩

/-- `run()` after the argument check and `parseElf`, over the real dependency model: `Startup.runLoaded` with
`Deps.newCode` (C07) in place of `BasicBlock.newCode` (C08) -/
def runLoadedReal (entry : Nat) (code mem : List Elf.Block) : Outcome :=
  match Opcode.newMatcher (Riscv.patsOf rv64Table) with
  | .error _ => .panic
  | .ok _ =>
    match parseRv64 code with
    | .error (.parse _ _) => .exit1 .parse
    | .error (.invalid _) => .exit1 .parse
    | .error _ => .panic
    | .ok is =>
      match Deps.newCode entry (rawOf is) with
      | .error .panic => .panic
      | .error _ => .exit1 .model
      | .ok _ => runIU mem

/-- `Startup.run` over the real dependency model -/
def runReal (lim : Nat) (nargs : Nat) (v : Option View) : Outcome :=
  if nargs + 1 ≠ 2 then .exit1 .args
  else match load lim v with
    | .error _ => .exit1 .elf
    | .ok l =>
      match l.code with
      | .error .panic => .panic
      | .error .alloc => .panic
      | .error _ => .exit1 .code
      | .ok code =>
        match l.mem with
        | .error .panic => .panic
        | .error .alloc => .panic
        | .error _ => .exit1 .memory
        | .ok mem => runLoadedReal l.entry code mem

theorem runLoadedReal_eq (entry : Nat) (code mem : List Elf.Block) (ht : Elf.Spec.Tidy code) :
    runLoadedReal entry code mem = runLoaded entry code mem := by
  obtain ⟨M, hM⟩ := Lemmas.Parse.rv64Facts.newMatcher_ok
  -- `runLoadedReal` is unfolded as a function, like `runLoaded` in `Lemmas.Startup.runLoaded_eq`: unfolding the
  -- application makes the kernel evaluate `newMatcher` on the whole RV64 table
  rw [(by delta runLoadedReal; rfl : runLoadedReal = _), hM, Lemmas.Startup.runLoaded_eq]
  cases hp : parseRv64 code with
  | error f => cases f <;> rfl
  | ok is =>
    simp only
    obtain ⟨h1, h2⟩ := newCode_agree entry is (wf_of_parse ht hp).1
    cases hd : Deps.newCode entry (rawOf is) with
    | error e =>
      rw [(h1 e).1 hd]
      cases e <;> rfl
    | ok c =>
      obtain ⟨s, hs⟩ := h2.1 ⟨c, hd⟩
      rw [hs]

/-- the entry point of a code that could be built is the address of an instruction, in particular a 64-bit value -/
theorem entry_lt {δ : Type} (entry : Nat) (is : List (Parse.Ins δ)) (hwf : Props.C07.WF (rawOf is)) (c : Deps.Code)
    (h : Deps.newCode entry (rawOf is) = .ok c) : entry < 2 ^ 64 := by
  obtain ⟨seqs, _, hp, _⟩ := newCode_ok h
  have hF := ((Lemmas.BasicBlock.parse_ok_iff entry _ hwf seqs).1 hp).1
  obtain ⟨i, hi, rfl⟩ := List.mem_map.1 (Decidable.not_not.1 fun hn => hF (.inl hn))
  have := hwf.1 i hi
  omega

/-- the argument check and `parseElf` passed: `run` and `runReal` go on to their last stage -/
structure ElfParsed (lim nargs : Nat) (v : Option View) (w : View) (code mem : List Elf.Block) : Prop where
  args : nargs = 1
  view : v = some w
  code_ok : machineCode w = .ok code
  mem_ok : memory lim w = .ok mem
  run_eq : run lim nargs v = runLoaded w.entry code mem
  real_eq : runReal lim nargs v = runLoadedReal w.entry code mem

/-- `run` and `runReal` differ in their last stage only -/
theorem run_stage (lim nargs : Nat) (v : Option View) :
    (runReal lim nargs v = run lim nargs v ∧ run lim nargs v ≠ .ui) ∨
    ∃ w code mem, ElfParsed lim nargs v w code mem := by
  unfold runReal run
  by_cases hn : nargs + 1 ≠ 2
  · rw [if_pos hn, if_pos hn]
    exact Or.inl ⟨rfl, nofun⟩
  · rw [if_neg hn, if_neg hn]
    cases hl : load lim v with
    | error e => exact Or.inl ⟨rfl, nofun⟩
    | ok l =>
      cases v with
      | none => cases hl
      | some w =>
        cases Lemmas.Elf.load_some hl
        simp only
        cases hc : machineCode w with
        | error e => cases e <;> exact Or.inl ⟨rfl, nofun⟩
        | ok code =>
          cases hm : memory lim w with
          | error e => cases e <;> exact Or.inl ⟨rfl, nofun⟩
          | ok mem =>
            obtain rfl : nargs = 1 := by omega
            exact Or.inr ⟨w, code, mem, rfl, rfl, hc, hm, by rw [Lemmas.Startup.run_loaded hl hc hm],
              by unfold runReal; rw [if_neg hn]; simp only [hl, hc, hm]⟩

/-- what reaching the UI means -/
structure Started (lim : Nat) (w : View) (code mem : List Elf.Block)
    (is : List (Parse.Ins (Riscv.Entry × Riscv.Ins))) (c : Deps.Code) (bs : List BytesMem.Block) : Prop where
  code_ok : machineCode w = .ok code
  mem_ok : memory lim w = .ok mem
  code_tidy : Elf.Spec.Tidy code
  mem_tidy : Elf.Spec.Tidy mem
  parsed : parseRv64 code = .ok is
  built : Deps.newCode w.entry (rawOf is) = .ok c
  bytes : BytesMem.newBytes mem = .ok bs

end Mltwist.Lemmas.Compose
