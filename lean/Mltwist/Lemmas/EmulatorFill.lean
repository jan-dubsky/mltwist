import Mltwist.Lemmas.EmulatorState
/-
Emulator (C03, C04): how the provider fills the state.  `Fill` says that a state evolves by provider fills only, each for
state that is absent at that moment.  `Fill` preserves the invariant and everything known before with its value, makes
the requested state known with the supplied value, and requests no state twice: a log of requests leads from what one
state knows to what a later one knows (`Asks`; logs compose, `Asks.trans`), and a fill sequence is such a log
(`Fill.asks`).  `Fills` is `Fill` between two contexts of an evaluation, with the log and the kind of the requests.
-/
namespace Mltwist.Lemmas.Emulator
open Mltwist Mltwist.State Mltwist.Overlay Mltwist.Emulator Mltwist.Spec.Overlay
open Mltwist.Lemmas.State (Good)

/-- the state after the provider answered the request for the register `key` at width `w` -/
def fillReg (p : Provider) (s : State) (key : String) (w : Nat) : State :=
  { s with regs := s.regs.store key (.const (Const.withWidth (p.reg key w) w)) w }

/-- `Fill p s l s'`: `s'` results from `s` by the provider requests `l`, in order; each request is
for state the emulator does not know at that moment (a register absent from the register map; a
non-empty range of bytes in the domain of C14 none of which is present in any memory layer), and
stores the (width-adjusted) answer -/
inductive Fill (p : Provider) : State → List Req → State → Prop where
  | nil (s : State) : Fill p s [] s
  | reg {s s' : State} {l : List Req} (key : String) (w : Nat) :
      assocGet key s.regs = none → Fill p (fillReg p s key w) l s' → Fill p s (.reg key w :: l) s'
  | mem {s s' : State} {l : List Req} (key : String) (a w : Nat) (mems' : MemMap) :
      InDom a w → (∀ i, i < w → s.mems.abs key (a + i) = none) →
      s.mems.store key a (.const (Const.withWidth (p.mem key a w) w)) w = .ok mems' →
      Fill p { s with mems := mems' } l s' → Fill p s (.mem key a w :: l) s'

theorem Fill.append {p : Provider} {s1 s2 s3 : State} {l1 l2 : List Req}
    (h1 : Fill p s1 l1 s2) (h2 : Fill p s2 l2 s3) : Fill p s1 (l1 ++ l2) s3 := by
  induction h1 with
  | nil s => exact h2
  | reg key w hn _ ih => exact Fill.reg key w hn (ih h2)
  | mem key a w mems' hd ha hs _ ih => exact Fill.mem key a w mems' hd ha hs (ih h2)

theorem Fill.append_inv {p : Provider} {s s' : State} {l1 l2 : List Req} (h : Fill p s (l1 ++ l2) s') :
    ∃ sm, Fill p s l1 sm ∧ Fill p sm l2 s' := by
  induction l1 generalizing s with
  | nil => exact ⟨s, Fill.nil s, h⟩
  | cons r l1 ih =>
    cases h with
    | reg key w hn h' => let ⟨sm, g1, g2⟩ := ih h'; exact ⟨sm, Fill.reg key w hn g1, g2⟩
    | mem key a w mems' hd ha hs h' => let ⟨sm, g1, g2⟩ := ih h'; exact ⟨sm, Fill.mem key a w mems' hd ha hs g1, g2⟩

theorem Fill.single_reg {p : Provider} {s : State} {key : String} {w : Nat}
    (h : assocGet key s.regs = none) : Fill p s [.reg key w] (fillReg p s key w) :=
  Fill.reg key w h (Fill.nil _)

/-- an answered memory request by its effect (`abs`: in a good state, where a store is known by its byte map) -/
structure MemFilled (p : Provider) (s : State) (key : String) (a w : Nat) (s1 : State) : Prop where
  dom : InDom a w
  absent : ∀ i, i < w → s.mems.abs key (a + i) = none
  fill : Fill p s [.mem key a w] s1
  stores : Stores s s1
  regs : s1.regs = s.regs
  abs : Good s → ∀ key' x, s1.mems.abs key' x = if key' = key ∧ a ≤ x ∧ x < a + w
    then some (fun _ => leToNat (Const.withWidth (p.mem key a w) w) / 256 ^ (x - a) % 256) else s.mems.abs key' x

theorem memFilled_of_store {p : Provider} {s : State} {key : String} {a w : Nat} {mems' : MemMap} (hd : InDom a w)
    (ha : ∀ i, i < w → s.mems.abs key (a + i) = none)
    (hs : s.mems.store key a (.const (Const.withWidth (p.mem key a w) w)) w = .ok mems') :
    MemFilled p s key a w { s with mems := mems' } := by
  refine ⟨hd, ha, Fill.mem key a w mems' hd ha hs (Fill.nil _), Stores.mem hd (withWidth_byteConst _ hd) hs, rfl,
    fun hg key' x => ?_⟩
  have hlt := Lemmas.Bytes.leToNat_lt (Const.withWidth (p.mem key a w) w)
  rw [Lemmas.Const.withWidth_length] at hlt
  show mems'.abs key' x = _
  rw [abs_store_const hg hd hs, Lemmas.Bytes.trunc_of_lt hlt]

/-- induction over `Fill` that sees a memory fill as `MemFilled`.  (The motive takes `s s' l` in the order of the users'
contexts: `induction … using` abstracts the targets in that order.) -/
theorem Fill.byEffect {p : Provider} {motive : ∀ s s' l, Fill p s l s' → Prop} (nil : ∀ s, motive s s [] (.nil s))
    (reg : ∀ {s s' l} key w (hn : assocGet key s.regs = none) (hf : Fill p (fillReg p s key w) l s'),
      motive _ s' l hf → motive s s' (.reg key w :: l) (.reg key w hn hf))
    (mem : ∀ {s s1 s' l key a w} (hm : MemFilled p s key a w s1) (hf : Fill p s1 l s'),
      motive s1 s' l hf → motive s s' (.mem key a w :: l) (hm.fill.append hf))
    {s s' : State} {l : List Req} (hf : Fill p s l s') : motive s s' l hf := by
  induction hf with
  | nil s => exact nil s
  | reg key w hn hf' ih => exact reg key w hn hf' ih
  | mem key a w mems' hd ha hs hf' ih => exact mem (memFilled_of_store hd ha hs) hf' ih

/-- the request `r` is for state that `s` does not know -/
def Unknown (s : State) : Req → Prop
  | .reg key _ => assocGet key s.regs = none
  | .mem key a w => InDom a w ∧ ∀ i, i < w → s.mems.abs key (a + i) = none

/-- the emulator knows what the request is about -/
def KnownReq (s : State) : Req → Prop
  | .reg key _ => assocGet key s.regs ≠ none
  | .mem key a w => ∀ i, i < w → s.mems.abs key (a + i) ≠ none

/-- after the request `r` was answered by `p`, the state holds the supplied value -/
def Supplied (p : Provider) (s : State) : Req → Prop
  | .reg key w => assocGet key s.regs = some (.const (Const.withWidth (p.reg key w) w))
  | .mem key a w => ∀ i, i < w → ∃ b, s.mems.abs key (a + i) = some b ∧
      ∀ ρ, b ρ = leToNat (Const.withWidth (p.mem key a w) w) / 256 ^ i % 256

theorem KnownReq.mono {s s' : State} {r : Req} (h : KnownReq s r) (hk : KnowsMore s s') : KnownReq s' r := by
  cases r with
  | reg key w => exact hk.1 key h
  | mem key a w => exact fun i hi => hk.2 key _ (h i hi)

theorem Unknown.anti {s s' : State} {r : Req} (h : Unknown s' r) (hk : KnowsMore s s') : Unknown s r := by
  cases r with
  | reg key w => exact Classical.not_not.1 fun hn => hk.1 key hn h
  | mem key a w => exact ⟨h.1, fun i hi => Classical.not_not.1 fun hn => hk.2 key _ hn (h.2 i hi)⟩

theorem known_of_supplied {p : Provider} {s : State} {r : Req} (h : Supplied p s r) : KnownReq s r := by
  cases r with
  | reg key w => exact fun hn => nomatch h.symm.trans hn
  | mem key a w =>
    intro i hi hn
    obtain ⟨b, hb, _⟩ := h i hi
    exact nomatch hb.symm.trans hn

theorem Supplied.ext {p : Provider} {s s' : State} {r : Req} (h : Supplied p s r)
    (hr : RExt s.regs s'.regs) (hm : AExt (absOf s) (absOf s')) : Supplied p s' r := by
  cases r with
  | reg key w => exact hr _ _ h
  | mem key a w =>
    intro i hi
    obtain ⟨b, hb, hv⟩ := h i hi
    exact ⟨b, hm _ _ _ hb, hv⟩

theorem supplied_fillReg (p : Provider) (s : State) (key : String) (w : Nat) :
    Supplied p (fillReg p s key w) (.reg key w) := by
  show assocGet key (RegMap.store _ _ _ _) = _
  rw [get_store_const, if_pos rfl, cw_of_length (Lemmas.Const.withWidth_length _ _)]

theorem MemFilled.supplied {p : Provider} {s s1 : State} {key : String} {a w : Nat} (h : MemFilled p s key a w s1)
    (hg : Good s) : Supplied p s1 (.mem key a w) := fun i hi =>
  ⟨_, by rw [h.abs hg, if_pos ⟨rfl, by omega, by omega⟩, Nat.add_sub_cancel_left], fun _ => rfl⟩

theorem MemFilled.aext {p : Provider} {s s1 : State} {key : String} {a w : Nat} (h : MemFilled p s key a w s1)
    (hg : Good s) : AExt (absOf s) (absOf s1) := by
  intro key' x b (hx : s.mems.abs key' x = some b)
  show s1.mems.abs key' x = some b
  rw [h.abs hg, if_neg]
  · exact hx
  · rintro ⟨rfl, h1, h2⟩
    have := h.absent (x - a) (by omega)
    rw [Nat.add_sub_cancel' h1, hx] at this
    cases this

/-- two requests do not concern the same state -/
def Req.Disjoint : Req → Req → Prop
  | .reg k _, .reg k' _ => k ≠ k'
  | .mem k a w, .mem k' a' w' => k ≠ k' ∨ a + w ≤ a' ∨ a' + w' ≤ a
  | _, _ => True

theorem common_address {a w a' w' : Nat} (h1 : 1 ≤ w) (h2 : 1 ≤ w') (h : ¬ (a + w ≤ a' ∨ a' + w' ≤ a)) :
    ∃ i j, i < w ∧ j < w' ∧ a + i = a' + j := by
  rcases Nat.le_total a a' with hle | hle
  · exact ⟨a' - a, 0, Nat.sub_lt_left_of_lt_add hle (Nat.lt_of_not_le fun h' => h (Or.inl h')), h2,
      Nat.add_sub_cancel' hle⟩
  · exact ⟨0, a - a', h1, Nat.sub_lt_left_of_lt_add hle (Nat.lt_of_not_le fun h' => h (Or.inr h')),
      (Nat.add_sub_cancel' hle).symm⟩

/-- what is known cannot be asked for.  (`h0`: `r` was a request once, so if it is for memory its range is not empty) -/
theorem disjoint_of_known_unknown {s0 s : State} {r r' : Req} (h0 : Unknown s0 r) (h1 : KnownReq s r)
    (h2 : Unknown s r') : Req.Disjoint r r' := by
  cases r with
  | reg k w =>
    cases r' with
    | reg k' w' => exact fun hk => h1 (hk ▸ h2)
    | mem k' a' w' => trivial
  | mem k a w =>
    cases r' with
    | reg k' w' => trivial
    | mem k' a' w' =>
      show k ≠ k' ∨ a + w ≤ a' ∨ a' + w' ≤ a
      by_cases hk : k = k'
      · subst hk
        refine Or.inr (Classical.not_not.1 fun hc => ?_)
        obtain ⟨i, j, hi, hj, hij⟩ := common_address h0.1.1 h2.1.1 hc
        exact h1 i hi (hij ▸ h2.2 j hj)
      · exact Or.inl hk

theorem Fill.stores {p : Provider} {s s' : State} {l : List Req} (hf : Fill p s l s') : Stores s s' := by
  induction hf using Fill.byEffect with
  | nil s => exact .refl s
  | reg key w _ _ ih => exact (Stores.reg _ key _ w).trans ih
  | mem hm _ ih => exact hm.stores.trans ih

theorem Fill.rext {p : Provider} {s s' : State} {l : List Req} (hf : Fill p s l s') : RExt s.regs s'.regs := by
  induction hf using Fill.byEffect with
  | nil s => exact RExt.refl _
  | reg key w hn _ ih => exact RExt.trans (rext_store hn _ w) ih
  | mem hm _ ih => exact hm.regs ▸ ih

theorem Fill.aext {p : Provider} {s s' : State} {l : List Req} (hf : Fill p s l s') (h : Inv s) :
    AExt (absOf s) (absOf s') := by
  induction hf using Fill.byEffect with
  | nil s => exact AExt.refl _
  | reg key w _ _ ih => exact ih (inv_regStore h _ key w)
  | mem hm _ ih => exact (hm.aext h.good).trans (ih (hm.stores.inv h))

theorem Fill.cons_inv {p : Provider} {s s' : State} {r : Req} {l : List Req} (hf : Fill p s (r :: l) s')
    (h : Inv s) :
    ∃ s1, Unknown s r ∧ Fill p s [r] s1 ∧ Supplied p s1 r ∧ Fill p s1 l s' := by
  generalize e : r :: l = l0 at hf
  induction hf using Fill.byEffect with
  | nil s => cases e
  | reg key w hn hf' _ => cases e; exact ⟨_, hn, Fill.single_reg hn, supplied_fillReg p _ key w, hf'⟩
  | mem hm hf' _ => cases e; exact ⟨_, ⟨hm.dom, hm.absent⟩, hm.fill, hm.supplied h.good, hf'⟩

/-- the log `l` leads from what `s` knows to what `s'` knows -/
structure Asks (s : State) (l : List Req) (s' : State) : Prop where
  pairwise : l.Pairwise Req.Disjoint
  asked : ∀ r ∈ l, Unknown s r ∧ KnownReq s' r
  more : KnowsMore s s'

theorem Asks.refl (s : State) : Asks s [] s := ⟨List.Pairwise.nil, (fun _ h => nomatch h), KnowsMore.refl s⟩

theorem Asks.mono_right {s s1 s2 : State} {l : List Req} (h : Asks s l s1) (hk : KnowsMore s1 s2) : Asks s l s2 :=
  ⟨h.pairwise, fun r hr => ⟨(h.asked r hr).1, (h.asked r hr).2.mono hk⟩, h.more.trans hk⟩

/-- logs compose: what the first log made known, the second cannot ask for -/
theorem Asks.trans {s s1 s2 : State} {l1 l2 : List Req} (h1 : Asks s l1 s1) (h2 : Asks s1 l2 s2) :
    Asks s (l1 ++ l2) s2 := by
  refine ⟨List.pairwise_append.2 ⟨h1.pairwise, h2.pairwise, fun r hr r' hr' => ?_⟩, fun r hr => ?_,
    h1.more.trans h2.more⟩
  · exact disjoint_of_known_unknown (h1.asked r hr).1 (h1.asked r hr).2 (h2.asked r' hr').1
  · rcases List.mem_append.1 hr with h | h
    · exact ⟨(h1.asked r h).1, (h1.asked r h).2.mono h2.more⟩
    · exact ⟨(h2.asked r h).1.anti h1.more, (h2.asked r h).2⟩

/-- C04 for the requests of a fill sequence; every request was for state unknown in the INITIAL state.  The first request
alone is such a log (`Fill.cons_inv`); logs compose. -/
theorem Fill.asks {p : Provider} {s s' : State} {l : List Req} (hf : Fill p s l s') (h : Inv s) : Asks s l s' := by
  induction l generalizing s with
  | nil => cases hf; exact Asks.refl _
  | cons r l ih =>
    obtain ⟨s1, hun, h1, hsup, hf'⟩ := hf.cons_inv h
    exact Asks.trans ⟨List.pairwise_singleton _ _, fun _ hr => List.mem_singleton.1 hr ▸ ⟨hun, known_of_supplied hsup⟩,
      h1.stores.knowsMore h⟩ (ih hf' (h1.stores.inv h))

/-- C04 `asked ⊆ known`, with values: what was supplied is not asked for again, so it is still there at the end -/
theorem Fill.supplied {p : Provider} {s s' : State} {l : List Req} (hf : Fill p s l s') (h : Inv s) :
    ∀ r ∈ l, Supplied p s' r := by
  induction l generalizing s with
  | nil => exact fun _ hr => nomatch hr
  | cons r0 l ih =>
    obtain ⟨s1, _, h1, hsup, hf'⟩ := hf.cons_inv h
    have hi1 := h1.stores.inv h
    intro r hr
    rcases List.mem_cons.1 hr with rfl | hr
    · exact hsup.ext hf'.rext (hf'.aext hi1)
    · exact ih hf' hi1 r hr

theorem Fill.unknown {p : Provider} {s s' : State} {l : List Req} (hf : Fill p s l s') (h : Inv s) :
    ∀ r ∈ l, Unknown s r :=
  fun r hr => ((hf.asks h).asked r hr).1

/-- C04 `no state is requested twice` inside a fill sequence -/
theorem Fill.pairwise {p : Provider} {s s' : State} {l : List Req} (hf : Fill p s l s') (h : Inv s) :
    l.Pairwise Req.Disjoint :=
  (hf.asks h).pairwise

/-- the context `c'` results from `c` by provider requests only, each of the kind `Q`, each logged (the fields `log` of
`MemValOut`, `EvalOut`, `EvalsOut` are this, written out) -/
def Fills (p : Provider) (Q : Req → Prop) (c c' : Ctx) : Prop :=
  ∃ l, c'.log = c.log ++ l ∧ Fill p c.st l c'.st ∧ ∀ r ∈ l, Q r

theorem Fills.refl (p : Provider) (Q : Req → Prop) (c : Ctx) : Fills p Q c c :=
  ⟨[], (List.append_nil _).symm, Fill.nil _, fun _ h => nomatch h⟩

theorem Fills.trans {p : Provider} {Q1 Q2 Q : Req → Prop} {c c1 c2 : Ctx} (h1 : Fills p Q1 c c1)
    (h2 : Fills p Q2 c1 c2) (m1 : ∀ r, Q1 r → Q r) (m2 : ∀ r, Q2 r → Q r) : Fills p Q c c2 := by
  obtain ⟨l1, e1, f1, q1⟩ := h1
  obtain ⟨l2, e2, f2, q2⟩ := h2
  refine ⟨l1 ++ l2, by rw [e2, e1, List.append_assoc], f1.append f2, fun r hr => ?_⟩
  rcases List.mem_append.1 hr with h | h
  · exact m1 r (q1 r h)
  · exact m2 r (q2 r h)

theorem Fills.start {p : Provider} {Q : Req → Prop} {s : State} {c' : Ctx} (h : Fills p Q { st := s } c') :
    Fill p s c'.log c'.st ∧ ∀ r ∈ c'.log, Q r := by
  obtain ⟨l, hl, hf, hq⟩ := h
  rw [hl.trans (List.nil_append l)]
  exact ⟨hf, hq⟩

theorem Fills.mono {p : Provider} {Q Q' : Req → Prop} {c c' : Ctx} (h : Fills p Q c c') (m : ∀ r, Q r → Q' r) :
    Fills p Q' c c' :=
  (Fills.refl p Q' c).trans h (fun _ h => h) m

theorem Fills.inv {p : Provider} {Q : Req → Prop} {c c' : Ctx} (h : Fills p Q c c') (hi : Inv c.st) : Inv c'.st :=
  let ⟨_, _, hf, _⟩ := h; hf.stores.inv hi

theorem Fills.rext {p : Provider} {Q : Req → Prop} {c c' : Ctx} (h : Fills p Q c c') :
    RExt c.st.regs c'.st.regs :=
  let ⟨_, _, hf, _⟩ := h; hf.rext

theorem Fills.aext {p : Provider} {Q : Req → Prop} {c c' : Ctx} (h : Fills p Q c c') (hi : Inv c.st) :
    AExt (absOf c.st) (absOf c'.st) :=
  let ⟨_, _, hf, _⟩ := h; hf.aext hi

inductive MemReq : Req → Prop where
  | mk (k : String) (a w : Nat) : MemReq (.mem k a w)

theorem Fill.regs_of_mem {p : Provider} {s s' : State} {l : List Req} (hf : Fill p s l s') :
    (∀ r ∈ l, MemReq r) → s'.regs = s.regs := by
  induction hf using Fill.byEffect with
  | nil s => exact fun _ => rfl
  | reg key w _ _ _ => exact fun hq => nomatch hq _ (List.mem_cons_self ..)
  | mem hm _ ih => exact fun hq => (ih fun r hr => hq r (List.mem_cons_of_mem _ hr)).trans hm.regs

theorem Fills.regs_of_mem {p : Provider} {c c' : Ctx} (h : Fills p MemReq c c') : c'.st.regs = c.st.regs :=
  let ⟨_, _, hf, hq⟩ := h; hf.regs_of_mem hq

end Mltwist.Lemmas.Emulator
