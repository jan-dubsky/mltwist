import Mltwist.Props.C07
import Mltwist.Lemmas.ListingRun
import Mltwist.Lemmas.ListingRef
import Mltwist.Lemmas.ListingEntry
import Mltwist.Lemmas.ComposeDeps
/-
COMPOSITION: the disassembler listing (C23/C31, `Model/Listing.lean`) over the REAL dependency model
(C05/C06/C07, `Model/Deps.lean`).

The listing slice sees the code through an abstract state `Listing.Code` (what `Blocks()`, `Instructions()`,
`String()`, `Bytes()`, `Idx()`, `Begin()`, `End()`, `LowerBound`, `UpperBound` return) and two abstract operations
`Listing.CodeOps` on that state, assumed `Listing.Spec.Lawful`.  `listingOf info c` is the `Listing.Code` a real
`Deps.Code` shows (`info`: text and bytes of the instruction with a given ORIGINAL address; `Instruction.String()` and
`Bytes()` never change); every clause of `Lawful` holds for `code.Index(k).Move(s, d)` and `code.Move(s, d)` between the
views of states satisfying C07's invariant.

Why not one fixed `CodeOps` for the real model: `CodeOps` are functions of the VIEW, and the view does not
determine the `Deps.Code` (two instructions of a block with the same text and bytes are indistinguishable in the
view but carry different dependency edges), so "the real move" is not a function of `Listing.Code`.  The
composition therefore threads the real state: at `Deps.Code` `c` the operations are `opsAt info c`, which agree
with the real ones on the only argument the listing ever passes (`st.code = listingOf info c`) and are the reference
transcription `refOps` elsewhere (so that they are lawful on all inputs), and the next real state is `nextDeps c st cmd`:
`move f t` performs the real operation with the block and instruction numbers the listing reads off the rows `f`, `t`
(the case analysis of `Lines.Move`), every other command leaves the code alone.  The listing slice writes that case
analysis once, for any pair of move operations (`Lemmas.Listing.afterCmd`): `nextDeps` is it at the real operations,
the code the listing holds after a command is it at the abstract ones (`nextCode`); with the operations at
`c` on the view of `c` the latter is the view of `nextDeps c st cmd`, hence `step_tracks`: a listing
state that shows `c` shows `nextDeps c st cmd` after the command.  The successor is the code after a history of the
dependency model in the sense of C07 (`nextDeps_run`: of at most one move), so C07's invariant is kept.  Then the
disassembler mode alone over the real code (`RSt`, `realStep`, `RInv`; `realStep_spec`), and `AddrWF` of the view (`NoTop`).
-/
namespace Mltwist.Lemmas.Compose
open Mltwist Mltwist.Deps Mltwist.Lemmas.Deps
open Mltwist.Listing.Spec (Lawful WF sameBlock content)
open Mltwist.Lemmas.Listing (InsMoved BlockMoved)

variable (info : Info)

/-- `curBlocks` is the dependency model's own `Code.current` (`Lemmas/DepsView.lean`); its lemmas are `CInv.current_*` -/
theorem curBlocks_eq (c : Deps.Code) : curBlocks c = c.current := rfl

theorem lInsList_get (b : Deps.Block) (i : Nat) :
    (lInsList info b)[i]? = (b.seq[i]?).map (lIns info b i) := by
  simp [lInsList, List.getElem?_mapIdx]

theorem lInsList_length (b : Deps.Block) : (lInsList info b).length = b.seq.length := by
  simp [lInsList]

theorem mem_listingOf {c : Deps.Code} (hc : CInv c) {lb : Listing.Block}
    (h : lb ∈ (listingOf info c).blocks) : ∃ b ∈ c.store, BInv b ∧ lb = lBlock info b := by
  obtain ⟨b, hb, rfl⟩ := List.mem_map.1 h
  have hs := hc.current_perm.mem_iff.1 hb
  exact ⟨b, hs, hc.blocks b hs, rfl⟩

theorem lBlock_ins_get (b : Deps.Block) {i : Nat} {x : Listing.Ins}
    (h : (lBlock info b).ins[i]? = some x) : ∃ (hi : i < b.seq.length), x = lIns info b i b.seq[i] := by
  rw [show (lBlock info b).ins = lInsList info b from rfl, lInsList_get] at h
  obtain ⟨y, hy, rfl⟩ := Option.map_eq_some_iff.1 h
  obtain ⟨hi, rfl⟩ := List.getElem?_eq_some_iff.1 hy
  exact ⟨hi, rfl⟩

theorem listingOf_wf {c : Deps.Code} (hc : CInv c) : WF (listingOf info c) where
  blockIdx := by
    intro i lb h
    obtain ⟨b, hb, rfl⟩ := Option.map_eq_some_iff.1 ((List.getElem?_map ..).symm.trans h)
    have hi : i < c.blocks.length := hc.current_length ▸ (List.getElem?_eq_some_iff.1 hb).1
    rw [curBlocks_eq, hc.current_getElem i hi] at hb
    cases hb
    exact hc.idx i hi (hc.ptr_lt i hi)
  insIdx := by
    intro lb hlb i x h
    obtain ⟨b, _, hbi, rfl⟩ := mem_listingOf info hc hlb
    obtain ⟨hi, rfl⟩ := lBlock_ins_get info b h
    exact (Props.C07.addresses_contiguous b hbi i hi).2
  bounds := by
    intro lb hlb x hx
    obtain ⟨b, _, hbi, rfl⟩ := mem_listingOf info hc hlb
    obtain ⟨i, hi⟩ := List.getElem?_of_mem hx
    obtain ⟨hlt, rfl⟩ := lBlock_ins_get info b hi
    obtain ⟨lo, hlo, hL⟩ := hbi.lowerBound_spec i hlt
    obtain ⟨up, hup, hU⟩ := hbi.upperBound_spec i hlt
    have hle := hL.le
    have hul := hU.lt
    simp only [lBlock, lIns, lInsList_length, hlo, hup, boundNat, Option.getD_some, Int.toNat_natCast]
    omega

theorem put_entry (c : Deps.Code) (b : Deps.Block) : (c.put b).entry = c.entry := rfl

theorem content_lIns (info : Info) (b : Deps.Block) (pos : Nat) (i : Deps.Ins) :
    content (lIns info b pos i) = info i.origAddr := rfl

theorem lInsList_content (b : Deps.Block) :
    (lInsList info b).map content = b.seq.map fun i => info i.origAddr := by
  apply List.ext_getElem?
  intro j
  simp only [List.getElem?_map, lInsList_get]
  cases b.seq[j]? <;> rfl

theorem lBlock_sameBlock {b b' : Deps.Block} (h : SameBlock b b') : sameBlock (lBlock info b) (lBlock info b') := by
  refine ⟨h.begin, h.end_, ?_⟩
  show ((lInsList info b').map content).Perm ((lInsList info b).map content)
  rw [lInsList_content, lInsList_content]
  have := h.static.map (fun (_, _, orig, _, _, _) => info orig)
  rwa [List.map_map, List.map_map] at this

/-- in the current order block `k` is replaced by the result of its `Move`, which is the same block in the sense
of C07 (`BInv.move_ok`: `SameBlock`, same `Idx()`) -/
theorem realMoveIns_moved {c c' : Deps.Code} (hc : CInv c) {k s d : Nat} (h : realMoveIns c k s d = some c') :
    InsMoved (listingOf info c) k (listingOf info c') := by
  unfold realMoveIns at h
  cases hi : c.index k with
  | none => rw [hi] at h; cases h
  | some b =>
    rw [hi] at h
    cases hm : b.move s d with
    | error e => simp only [hm] at h; cases h
    | ok b' =>
      simp only [hm] at h
      cases h
      obtain ⟨k', hk, hkk, rfl⟩ := hc.index_eq hi
      obtain rfl : k = k' := Int.ofNat_inj.1 hkk
      have hM := (hc.blocks _ (List.getElem_mem _)).move_ok hm
      have hc' := hc.put_moved (hc.ptr_lt k hk) hM
      refine ⟨rfl, ⟨lBlock info _, lBlock info b', ?_, ?_, hM.idx, lBlock_sameBlock info hM.same⟩,
        fun _ => listingOf_wf info hc'⟩
      · exact (List.getElem?_map ..).trans (congrArg _ (hc.current_getElem k hk))
      · simp only [listingOf, curBlocks_eq, hc.current_put k hk hM, List.map_set]

/-- what the listing shows of a block apart from its index depends on the frozen part only -/
theorem lBlock_frozen (b b' : Deps.Block) (h : frozen b = frozen b') :
    ((lBlock info b).begin, (lBlock info b).stop, (lBlock info b).ins) =
      ((lBlock info b').begin, (lBlock info b').stop, (lBlock info b').ins) := by
  rw [frozen_eq h]
  rfl

theorem map_eq_of_map_eq {α β γ : Type} {f : α → β} {g : α → γ} (hfg : ∀ a b, f a = f b → g a = g b) :
    ∀ {l l' : List α}, l.map f = l'.map f → l.map g = l'.map g
  | [], [], _ => rfl
  | a :: l, b :: l', h => by
    rw [List.map_cons, List.map_cons, List.cons.injEq] at h
    rw [List.map_cons, List.map_cons, hfg a b h.1, map_eq_of_map_eq hfg h.2]

theorem realMoveBlock_moved {c c' : Deps.Code} (hc : CInv c) {s d : Nat} (h : realMoveBlock c s d = some c') :
    BlockMoved (listingOf info c) (listingOf info c') := by
  unfold realMoveBlock at h
  cases hm : c.move s d with
  | error e => rw [hm] at h; cases h
  | ok c'' =>
    rw [hm] at h
    cases h
    have hM := hc.move_ok s d hm
    refine ⟨hM.same.entry, ?_, fun _ => listingOf_wf info hM.inv⟩
    -- the block objects keep what the listing shows of them, and either current order is a permutation of them
    simp only [listingOf, curBlocks_eq, List.map_map]
    have hst := map_eq_of_map_eq (lBlock_frozen info) hM.frozen
    exact (hM.inv.current_perm.map _).trans (hst ▸ (hc.current_perm.map _).symm)

theorem opsAt_moveIns (c : Deps.Code) (k s d : Nat) :
    (opsAt info c).moveIns (listingOf info c) k s d = (realMoveIns c k s d).map (listingOf info) := by
  simp [opsAt]

theorem opsAt_moveBlock (c : Deps.Code) (s d : Nat) :
    (opsAt info c).moveBlock (listingOf info c) s d = (realMoveBlock c s d).map (listingOf info) := by
  simp [opsAt]

/-- both operations of `opsAt info c` have this form: what holds of the reference result `ref` and of the real result
`real` between the views of `c` and of its successor holds of the operation -/
theorem opsAt_some (c : Deps.Code) {P : Listing.Code → Listing.Code → Prop} {real : Option Deps.Code}
    {ref : Option Listing.Code} {lc lc' : Listing.Code} (href : ref = some lc' → P lc lc')
    (hreal : ∀ c', real = some c' → P (listingOf info c) (listingOf info c'))
    (h : (if lc = listingOf info c then real.map (listingOf info) else ref) = some lc') : P lc lc' := by
  split at h
  · next he =>
    obtain ⟨c', hm, rfl⟩ := Option.map_eq_some_iff.1 h
    exact he ▸ hreal c' hm
  · exact href h

theorem opsAt_lawful {c : Deps.Code} (hc : CInv c) : Lawful (opsAt info c) :=
  Lemmas.Listing.lawful_of_moved
    (fun lc k s d lc' h => opsAt_some info c (P := fun a b => InsMoved a k b)
      (Lemmas.Listing.refMoveIns_moved lc k s d lc') (fun _ hm => realMoveIns_moved info hc hm) h)
    (fun lc s d lc' h => opsAt_some info c (P := BlockMoved)
      (Lemmas.Listing.refMoveBlock_moved lc s d lc') (fun _ hm => realMoveBlock_moved info hc hm) h)

section
open Mltwist.Listing Mltwist.Listing.Spec Mltwist.Lemmas.Listing

theorem realMoveIns_getD (c : Deps.Code) (k s d : Nat) : (realMoveIns c k s d).getD c = (c.step (.mv k s d)).1 := by
  rw [step_mv_code]
  unfold realMoveIns
  cases c.index k with
  | none => rfl
  | some b =>
    simp only [Option.bind_some]
    cases b.move s d <;> rfl

theorem realMoveBlock_getD (c : Deps.Code) (s d : Nat) : (realMoveBlock c s d).getD c = (c.step (.bmv s d)).1 := by
  rw [step_bmv_code]
  unfold realMoveBlock
  cases c.move s d <;> rfl

theorem nextDeps_eq (c : Deps.Code) (st : St) (cmd : Cmd) :
    nextDeps c st cmd = afterCmd (realMoveBlock c) (realMoveIns c) c st.lines cmd := by
  cases cmd <;> rfl

theorem nextDeps_run (c : Deps.Code) (st : St) (cmd : Cmd) : ∃ ops, nextDeps c st cmd = c.run ops := by
  rw [nextDeps_eq]
  exact afterCmd_rel (R := fun x _ => ∃ ops, x = c.run ops) (mvB' := realMoveBlock c) (mvI' := realMoveIns c) (keep' := c)
    ⟨[], rfl⟩ (fun s d => ⟨[.bmv s d], realMoveBlock_getD c s d⟩) (fun k s d => ⟨[.mv k s d], realMoveIns_getD c k s d⟩)
    st.lines cmd

theorem nextDeps_inv {c : Deps.Code} (hc : CInv c) (st : St) (cmd : Cmd) :
    CInv (nextDeps c st cmd) ∧ SameCode c (nextDeps c st cmd) := by
  obtain ⟨ops, h⟩ := nextDeps_run c st cmd
  exact h ▸ hc.run ops

/-- both are `afterCmd`, and `opsAt info c` on the view of `c` is the real operation seen through the view -/
theorem nextCode_opsAt (c : Deps.Code) (st : St) (hcode : st.code = listingOf info c) (cmd : Cmd) :
    nextCode (opsAt info c) st cmd = listingOf info (nextDeps c st cmd) := by
  rw [nextDeps_eq, nextCode, hcode]
  exact afterCmd_rel (R := fun x y => x = listingOf info y) rfl
    (fun s d => by rw [opsAt_moveBlock, Option.getD_map]) (fun k s d => by rw [opsAt_moveIns, Option.getD_map]) st.lines cmd

theorem step_tracks {c : Deps.Code} (hc : CInv c) (st : St) (hinv : Inv st)
    (hcode : st.code = listingOf info c) (cmd : Cmd) (hv : ValidCmd st.lines.lines.length cmd) :
    ∃ s st', step (opsAt info c) st cmd = some (s, st') ∧ Did st (listingOf info (nextDeps c st cmd)) s st' := by
  obtain ⟨s, st', h, d⟩ := step_does (opsAt info c) (opsAt_lawful info hc) st hinv cmd hv
  exact ⟨s, st', h, d.keeps, d.unchanged, d.code.trans (nextCode_opsAt info c st hcode cmd)⟩

/-- the real code and the listing state that shows it -/
structure RSt where
  deps : Deps.Code
  st : St

/-- `disassemble.New(code, _)` -/
def RSt.init (info : Info) (c : Deps.Code) : RSt := ⟨c, St.init (listingOf info c)⟩

/-- one command of the disassembler mode on the real model; `none` = the program panics -/
def realStep (info : Info) (r : RSt) (cmd : Cmd) : Option (Status × RSt) :=
  match step (opsAt info r.deps) r.st cmd with
  | none => none
  | some (s, st') => some (s, ⟨nextDeps r.deps r.st cmd, st'⟩)

/-- a history of commands on the real model -/
def realRun (info : Info) : RSt → List Cmd → Option RSt
  | r, [] => some r
  | r, c :: cs =>
    match realStep info r c with
    | none => none
    | some (_, r') => realRun info r' cs

/-- the invariant of the composed state -/
structure RInv (info : Info) (r : RSt) : Prop where
  deps : CInv r.deps
  listing : Inv r.st
  coupled : r.st.code = listingOf info r.deps

theorem rinv_init {c : Deps.Code} (hc : CInv c) : RInv info (RSt.init info c) :=
  ⟨hc, inv_init _ (listingOf_wf info hc), rfl⟩

/-- what one command on the real model has done -/
structure RDid (info : Info) (r : RSt) (cmd : Cmd) (s : Status) (r' : RSt) : Prop where
  inv : RInv info r'
  same : SameCode r.deps r'.deps
  did : Did r.st (listingOf info r'.deps) s r'.st
  deps : r'.deps = nextDeps r.deps r.st cmd

theorem realStep_spec (r : RSt) (hr : RInv info r) (cmd : Cmd)
    (hv : ValidCmd r.st.lines.lines.length cmd) :
    ∃ s r', realStep info r cmd = some (s, r') ∧ RDid info r cmd s r' := by
  obtain ⟨s, st', h, d⟩ := step_tracks info hr.deps r.st hr.listing hr.coupled cmd hv
  obtain ⟨hc', hsame⟩ := nextDeps_inv hr.deps r.st cmd
  exact ⟨s, ⟨nextDeps r.deps r.st cmd, st'⟩, by simp only [realStep, h], ⟨hc', d.keeps.inv, d.code⟩, hsame, d, rfl⟩

theorem realRun_spec (r : RSt) (hr : RInv info r) (cmds : List Cmd)
    (hv : ∀ c ∈ cmds, ValidCmd r.st.lines.lines.length c) :
    ∃ r', realRun info r cmds = some r' ∧ RInv info r' ∧ SameCode r.deps r'.deps ∧ Keeps r.st r'.st := by
  induction cmds generalizing r with
  | nil => exact ⟨r, rfl, hr, SameCode.refl _, .refl hr.listing⟩
  | cons c cs ih =>
    obtain ⟨s, r1, h1, d1⟩ := realStep_spec info r hr c (hv c (by simp))
    have k1 := d1.did.keeps
    obtain ⟨r2, h2, i2, s2, k2⟩ := ih r1 d1.inv (fun c' hc' => by rw [k1.length]; exact hv c' (by simp [hc']))
    exact ⟨r2, by simp only [realRun, h1, h2], i2, d1.same.trans s2, k1.trans k2⟩

end

/- `Props.C31.entrypoint_lands` assumes of the code the listing sees (`Spec.AddrWF`): current addresses ascend strictly
inside every block and lie inside the block, the address ranges of the blocks are pairwise disjoint.  For the view of a
real `Deps.Code` this follows from C07's invariant (instructions tile their block, block objects are sorted and
disjoint), provided no block ends exactly at `2^64` (`NoTop`): the listing compares with the exclusive end `End()`,
which is 0 for such a block.  Images loaded from a file never reach `2^64` (C20 `Fits`). -/

section
open Mltwist.Listing.Spec (AddrWF)

/-- no block of the code ends at the very top of the address space -/
def NoTop (c : Deps.Code) : Prop := ∀ b ∈ c.store, b.begin + bytesI b.seq < Deps.M

theorem end_of_noTop {c : Deps.Code} (hc : CInv c) (hn : NoTop c) {b : Deps.Block} (hb : b ∈ c.store) :
    b.end_ = b.begin + bytesI b.seq := by
  rw [(hc.blocks b hb).end_]
  exact Nat.mod_eq_of_lt (hn b hb)

theorem addrWF_listingOf {c : Deps.Code} (hc : CInv c) (hn : NoTop c) : AddrWF (listingOf info c) where
  inside := by
    intro lb hlb x hx
    obtain ⟨b, hbs, hbi, rfl⟩ := mem_listingOf info hc hlb
    obtain ⟨i, hi⟩ := List.getElem?_of_mem hx
    obtain ⟨hlt, rfl⟩ := lBlock_ins_get info b hi
    obtain ⟨g1, g2, g3⟩ := tilesI_mem _ _ hbi.tiles _ (List.getElem_mem hlt)
    simp only [lBlock, lIns, end_of_noTop hc hn hbs]
    omega
  ascending := by
    intro lb hlb
    obtain ⟨b, _, hbi, rfl⟩ := mem_listingOf info hc hlb
    show (lInsList info b).Pairwise _
    rw [List.pairwise_iff_getElem]
    intro i j hi hj hij
    simp only [lInsList, List.getElem_mapIdx, lIns]
    rw [lInsList_length] at hi hj
    have := tilesI_lt _ _ hbi.tiles i j hij hj
    have := (tilesI_mem _ _ hbi.tiles _ (List.getElem_mem hi)).2.2
    omega
  disjoint := by
    -- in store order the block objects are sorted; the current order is a permutation of it
    show ((curBlocks c).map (lBlock info)).Pairwise _
    rw [curBlocks_eq, List.pairwise_map, hc.current_perm.pairwise_iff Or.symm]
    refine hc.sorted.imp_of_mem fun {a b} ha _ h => Or.inl ?_
    simp only [lBlock, end_of_noTop hc hn ha]
    exact h

/-- blocks keep their `Begin()` and their bytes in every history of moves -/
theorem noTop_sameCode {c0 c : Deps.Code} (hs : SameCode c0 c) (hn : NoTop c0) : NoTop c := by
  intro b hb
  obtain ⟨p, hp, rfl⟩ := List.mem_iff_getElem.1 hb
  have hp0 : p < c0.store.length := hs.len ▸ hp
  have sb := hs.blocks p hp0 hp
  rw [sb.begin, sameBlock_bytes sb]
  exact hn _ (List.getElem_mem hp0)

/-- a block ends where its last instruction ends, and the instructions of the code `deps.NewCode` builds are the
parser's (`codeViewOf_newCode`), none of which reaches `2^64` -/
theorem noTop_of_parse {bs : List Elf.Block} (ht : Elf.Spec.Tidy bs)
    {is : List (Parse.Ins (Riscv.Entry × Riscv.Ins))} (h : Parse.parseRv64 bs = .ok is) (entry : Nat) (c : Deps.Code)
    (hc : newCode entry (rawOf is) = .ok c) : NoTop c := by
  intro b hb
  have hbi := (inv_of_parse ht h entry c hc).blocks b hb
  obtain ⟨z, hz, e⟩ := tilesI_last _ _ hbi.tiles hbi.ne
  have hm : emuOf z ∈ codeViewOf c := List.mem_map_of_mem (List.mem_flatMap.2 ⟨b, hb, hz⟩)
  rw [(codeViewOf_newCode ht h entry c hc).1] at hm
  obtain ⟨i, hi, hie⟩ := List.mem_map.1 hm
  have g := ((parse_layout _ (Props.C21.rv_honest _) ht h).1 i hi).2
  have h1 : i.addr = z.currAddr := congrArg Emulator.Ins.addr hie
  have h2 : i.bytes.length = z.len := congrArg Emulator.Ins.len hie
  rw [e, ← h1, ← h2]
  exact g

end

end Mltwist.Lemmas.Compose
