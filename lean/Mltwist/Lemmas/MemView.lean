import Mltwist.Model.MemView
import Mltwist.Spec.MemView
import Mltwist.Lemmas.SortSearch
-- The Mathlib imports also fix how the statements of this module read `2 ^ 64`: with them it is
-- Mathlib's `Monoid.npow`, without them core's `instPowNat` (another term in `Bounded`, `rowTextF`, C32).
import Mathlib.Tactic.Ring
import Mathlib.Tactic.Linarith
import Mathlib.Tactic.SplitIfs
import Mathlib.Tactic.NormNum
/-
C32: the memory view of the console UI on normal block lists.  `block2Lines`, the merge loop and
`addEmptyLines` are shown equal to functional forms; the rows are characterised through the flat list
of `(window, range)` pairs (the intersections of the blocks with the windows of `bytesPerLine` bytes), which the
merge leaves unchanged.  On these rows, for a memory that is coherent (`Coh`) with a byte map: the
scan of `formatMemLine`, the `address` command (and its reading by window, observation F81) and `Print`;
that none of them panics is the `= some …` of each equation.
-/
namespace Mltwist.Lemmas.MemView
open Mltwist Mltwist.MemView

/-- blocks as `interval.Map` delivers them: non-empty, ascending, not adjacent -/
def NormalR : List Range → Prop
  | [] => True
  | [b] => b.1 < b.2
  | b :: c :: r => b.1 < b.2 ∧ b.2 < c.1 ∧ NormalR (c :: r)

/-- the address is stored -/
def MemR (a : Nat) (bl : List Range) : Prop := ∃ b ∈ bl, b.1 ≤ a ∧ a < b.2

instance (a : Nat) (bl : List Range) : Decidable (MemR a bl) := by
  unfold MemR; infer_instance

theorem normalR_iff : ∀ {bl : List Range},
    NormalR bl ↔ (∀ b ∈ bl, b.1 < b.2) ∧ bl.Pairwise fun b c => b.2 < c.1
  | [] => by simp [NormalR]
  | [b] => by simp [NormalR]
  | b :: c :: r => by
    simp only [NormalR, normalR_iff (bl := c :: r), List.pairwise_cons, List.mem_cons, forall_eq_or_imp]
    constructor
    · rintro ⟨h1, h2, ⟨h3, h4⟩, h5, h6⟩
      exact ⟨⟨h1, h3, h4⟩, ⟨h2, fun k hk => by have := h5 k hk; omega⟩, h5, h6⟩
    · rintro ⟨⟨h1, h3, h4⟩, ⟨h2, _⟩, h5, h6⟩
      exact ⟨h1, h2, ⟨h3, h4⟩, h5, h6⟩

def toLine (x : Nat × Range) : Line := ⟨x.1, [x.2]⟩

/-- the part of a block shown in window number `w`, with the window -/
def piece (blk : Range) (w : Nat) : Nat × Range :=
  (w * bytesPerLine, (if w * bytesPerLine < blk.1 then blk.1 else w * bytesPerLine,
    if w < (blk.2 - 1) / bytesPerLine then (w + 1) * bytesPerLine else blk.2))

/-- the pairs of one block -/
def pieces (blk : Range) : List (Nat × Range) :=
  (List.range' (blk.1 / 16) ((blk.2 - 1) / 16 + 1 - blk.1 / 16)).map fun w =>
    (w * 16, (if w * 16 < blk.1 then blk.1 else w * 16,
      if w < (blk.2 - 1) / 16 then (w + 1) * 16 else blk.2))

/-- `pieces` has the row width typed in: here it meets `bytesPerLine` -/
theorem pieces_eq_map (blk : Range) :
    pieces blk = (List.range' (blk.1 / bytesPerLine)
      ((blk.2 - 1) / bytesPerLine + 1 - blk.1 / bytesPerLine)).map (piece blk) :=
  rfl

theorem piece_eq {blk : Range} {w : Nat} (h : w ≤ (blk.2 - 1) / bytesPerLine) :
    piece blk w = (w * bytesPerLine,
      (max blk.1 (w * bytesPerLine), min blk.2 ((w + 1) * bytesPerLine))) := by
  unfold piece
  unfold bytesPerLine at *
  refine Prod.ext rfl (Prod.ext ?_ ?_) <;> simp only <;> split_ifs <;> omega

theorem mem_pieces {blk : Range} {x : Nat × Range} :
    x ∈ pieces blk ↔ ∃ w, blk.1 / bytesPerLine ≤ w ∧ w ≤ (blk.2 - 1) / bytesPerLine ∧
      x = (w * bytesPerLine, (max blk.1 (w * bytesPerLine), min blk.2 ((w + 1) * bytesPerLine))) := by
  simp only [pieces_eq_map, List.mem_map, List.mem_range'_1]
  constructor
  · rintro ⟨w, ⟨h1, h2⟩, rfl⟩
    have hw : w ≤ (blk.2 - 1) / bytesPerLine := by omega
    exact ⟨w, h1, hw, piece_eq hw⟩
  · rintro ⟨w, h1, h2, rfl⟩
    exact ⟨w, ⟨h1, by omega⟩, piece_eq h2⟩

/-- order of the pairs: windows ascend, ranges of one window ascend and are not adjacent -/
def PairLt (x y : Nat × Range) : Prop :=
  x.1 < y.1 ∨ (x.1 = y.1 ∧ x.2.2 < y.2.1)

/-- the range lies in the window at `w` and is not empty -/
structure InWindow (w : Nat) (r : Range) : Prop where
  aligned : w % bytesPerLine = 0
  lo : w ≤ r.1
  pos : r.1 < r.2
  hi : r.2 ≤ w + bytesPerLine

theorem pieces_elt {blk : Range} (hb : blk.1 < blk.2) {x : Nat × Range} (h : x ∈ pieces blk) :
    InWindow x.1 x.2 ∧ blk.1 ≤ x.2.1 ∧ x.2.2 ≤ blk.2 := by
  obtain ⟨w, h1, h2, rfl⟩ := mem_pieces.mp h
  refine ⟨⟨Nat.mul_mod_left .., Nat.le_max_right .., ?_, ?_⟩, Nat.le_max_left .., Nat.min_le_left ..⟩ <;>
    simp only [bytesPerLine] at * <;> omega

theorem pieces_cover {blk : Range} (a : Nat) :
    (blk.1 ≤ a ∧ a < blk.2) ↔ ∃ x ∈ pieces blk, x.2.1 ≤ a ∧ a < x.2.2 := by
  constructor
  · rintro ⟨h1, h2⟩
    refine ⟨_, mem_pieces.mpr ⟨a / bytesPerLine, Nat.div_le_div_right h1, Nat.div_le_div_right (by omega),
      rfl⟩, ?_, ?_⟩ <;> simp only [bytesPerLine] <;> omega
  · rintro ⟨x, hx, h1, h2⟩
    obtain ⟨w, _, _, rfl⟩ := mem_pieces.mp hx
    simp only [bytesPerLine] at *
    omega

theorem pieces_pairwise (blk : Range) : (pieces blk).Pairwise PairLt := by
  rw [pieces_eq_map, List.pairwise_map]
  exact (List.pairwise_lt_range' ..).imp fun hlt => Or.inl (Nat.mul_lt_mul_of_pos_right hlt (by decide))

/-- all pairs of the view -/
def piecesOf (bl : List Range) : List (Nat × Range) := bl.flatMap pieces

theorem mem_piecesOf {bl : List Range} {x : Nat × Range} :
    x ∈ piecesOf bl ↔ ∃ b ∈ bl, x ∈ pieces b := by
  simp [piecesOf, List.mem_flatMap]

theorem piecesOf_elt {bl : List Range} (h : NormalR bl) {x : Nat × Range} (hx : x ∈ piecesOf bl) :
    InWindow x.1 x.2 := by
  obtain ⟨b, hb, hxb⟩ := mem_piecesOf.mp hx
  exact (pieces_elt ((normalR_iff.mp h).1 b hb) hxb).1

theorem piecesOf_cover {bl : List Range} (a : Nat) :
    MemR a bl ↔ ∃ x ∈ piecesOf bl, x.2.1 ≤ a ∧ a < x.2.2 := by
  constructor
  · rintro ⟨b, hb, h1, h2⟩
    obtain ⟨x, hx, h3⟩ := (pieces_cover a).mp ⟨h1, h2⟩
    exact ⟨x, mem_piecesOf.mpr ⟨b, hb, hx⟩, h3⟩
  · rintro ⟨x, hx, h3⟩
    obtain ⟨b, hb, hxb⟩ := mem_piecesOf.mp hx
    exact ⟨b, hb, (pieces_cover a).mpr ⟨x, hxb, h3⟩⟩

theorem piecesOf_pairwise {bl : List Range} (h : NormalR bl) : (piecesOf bl).Pairwise PairLt := by
  obtain ⟨hpos, hpw⟩ := normalR_iff.mp h
  refine List.pairwise_flatMap.mpr ⟨fun b _ => pieces_pairwise b,
    hpw.imp_of_mem fun {b c} hb hc hbc x hx y hy => ?_⟩
  obtain ⟨⟨_, _, _, _⟩, _, hx2⟩ := pieces_elt (hpos b hb) hx
  obtain ⟨⟨_, _, _, _⟩, hy1, _⟩ := pieces_elt (hpos c hc) hy
  simp only [PairLt, bytesPerLine] at *
  omega

theorem windowLine_eq (blk : Range) (hb : blk.1 < blk.2) (w : Nat) (h1 : blk.1 / bytesPerLine ≤ w)
    (h2 : w ≤ (blk.2 - 1) / bytesPerLine) :
    windowLine blk ((blk.2 - 1) / bytesPerLine) w = some (toLine (piece blk w)) := by
  -- `interval.New` is never called with `begin > end`
  have : ¬ (piece blk w).2.1 > (piece blk w).2.2 := by
    rw [piece_eq h2]; simp only [bytesPerLine] at *; omega
  show (match newRange (piece blk w).2.1 (piece blk w).2.2 with
    | none => none
    | some r => some (Line.mk (w * bytesPerLine) [r])) = _
  rw [newRange, if_neg this]
  rfl

theorem b2lLoop_eq (blk : Range) (hb : blk.1 < blk.2) (f w : Nat) (h1 : blk.1 / bytesPerLine ≤ w)
    (h2 : w + f = (blk.2 - 1) / bytesPerLine + 1) :
    b2lLoop blk ((blk.2 - 1) / bytesPerLine) f w =
      some ((List.range' w f).map fun w => toLine (piece blk w)) := by
  induction f generalizing w with
  | zero => simp [b2lLoop]
  | succ f ih =>
    have hw : w ≤ (blk.2 - 1) / bytesPerLine := by omega
    simp only [b2lLoop, hw, if_true, windowLine_eq blk hb w h1 hw,
      ih (w + 1) (by omega) (by omega), List.range'_succ, List.map_cons]

theorem block2Lines_eq (blk : Range) (hb : blk.1 < blk.2) :
    block2Lines blk = some ((pieces blk).map toLine) := by
  have : blk.1 / bytesPerLine ≤ (blk.2 - 1) / bytesPerLine := Nat.div_le_div_right (by omega)
  unfold block2Lines
  rw [pieces_eq_map, List.map_map]
  exact b2lLoop_eq blk hb _ _ (Nat.le_refl _) (by omega)

theorem allLines_eq (bl : List Range) (h : ∀ b ∈ bl, b.1 < b.2) :
    allLines bl = some ((piecesOf bl).map toLine) := by
  induction bl with
  | nil => rfl
  | cons b r ih =>
    simp only [allLines, block2Lines_eq b (h b (List.mem_cons_self ..)),
      ih (fun c hc => h c (List.mem_cons_of_mem _ hc)), piecesOf, List.flatMap_cons, List.map_append]

/-- functional form of the merge: `p` is `lines[j-1]`, the list is `lines[i:]` -/
def mergeF : Line → List Line → List Line
  | p, [] => [p]
  | p, c :: rest =>
    if p.addr = c.addr then mergeF ⟨p.addr, p.ranges ++ c.ranges⟩ rest else p :: mergeF c rest

def mergeAll : List Line → List Line
  | [] => []
  | l :: ls => mergeF l ls

/-- The loop at `i` and `j + 1` (the Go `j`): `p = lines[j]` is the last line written, `lines[:j]` is
final, `lines[i:]` is still to be read; the lines between are stale and never read again. -/
theorem mergeLoop_spec : ∀ (f : Nat) (ls : List Line) (i j : Nat) (p : Line), j < i →
    i + f = ls.length → ls[j]? = some p →
    ∃ arr k, mergeLoop f ls i (j + 1) = some (arr, k) ∧ arr.take k = ls.take j ++ mergeF p (ls.drop i)
  | 0, ls, i, j, p, _, hi, hp => by
    refine ⟨ls, j + 1, rfl, ?_⟩
    rw [List.drop_eq_nil_of_le (by omega), List.take_add_one, hp]
    rfl
  | f + 1, ls, i, j, p, hji, hi, hp => by
    obtain ⟨c, hc⟩ : ∃ c, ls[i]? = some c := ⟨ls[i]'(by omega), List.getElem?_eq_getElem _⟩
    have hd : ls.drop i = c :: ls.drop (i + 1) := by
      rw [List.drop_eq_getElem?_toList_append, hc]; rfl
    simp only [mergeLoop, hc, Nat.add_sub_cancel, hp, Nat.succ_pos, gt_iff_lt, if_true, hd, mergeF]
    split_ifs
    · obtain ⟨arr, k, h1, h2⟩ := mergeLoop_spec f (ls.set j ⟨p.addr, p.ranges ++ c.ranges⟩) (i + 1) j _
        (by omega) (by rw [List.length_set]; omega) (List.getElem?_set_self (by omega))
      rw [List.take_set_of_le (Nat.le_refl _), List.drop_set_of_lt (by omega)] at h2
      exact ⟨arr, k, h1, h2⟩
    · -- `lines[j+1] = lines[i]` overwrites the first stale line, or `c` itself if there is none
      obtain ⟨arr, k, h1, h2⟩ := mergeLoop_spec f (ls.set (j + 1) c) (i + 1) (j + 1) c
        (by omega) (by rw [List.length_set]; omega) (List.getElem?_set_self (by omega))
      rw [List.take_set_of_le (Nat.le_refl _), List.drop_set_of_lt (by omega), List.take_add_one, hp] at h2
      exact ⟨arr, k, h1, by rw [h2]; simp⟩

theorem mergeLoop_eq (ls : List Line) :
    ∃ arr j, mergeLoop ls.length ls 0 0 = some (arr, j) ∧ arr.take j = mergeAll ls := by
  cases ls with
  | nil => exact ⟨[], 0, rfl, rfl⟩
  | cons l rest =>
    obtain ⟨arr, j, h, ht⟩ := mergeLoop_spec rest.length (l :: rest) 1 0 l Nat.one_pos (Nat.add_comm ..) rfl
    refine ⟨arr, j, ?_, ht⟩
    simp only [List.length_cons, mergeLoop, List.getElem?_cons_zero, Nat.lt_irrefl, if_false,
      gt_iff_lt, List.set_cons_zero]
    exact h

def flat (L : List Line) : List (Nat × Range) :=
  L.flatMap fun l => l.ranges.map fun r => (l.addr, r)

theorem flat_cons (l : Line) (L : List Line) :
    flat (l :: L) = (l.ranges.map fun r => (l.addr, r)) ++ flat L := by
  simp [flat]

theorem flat_mergeF (rest : List Line) : ∀ p : Line, flat (mergeF p rest) = flat (p :: rest) := by
  induction rest with
  | nil => intro p; rfl
  | cons c rest ih =>
    intro p
    simp only [mergeF]
    by_cases h : p.addr = c.addr
    · simp only [h, if_true, ih, flat_cons, List.map_append, List.append_assoc]
    · simp only [h, if_false, flat_cons, ih]

theorem flat_mergeAll (L : List Line) : flat (mergeAll L) = flat L := by
  cases L with
  | nil => rfl
  | cons l ls => exact flat_mergeF ls l

theorem mem_flat {L : List Line} {x : Nat × Range} :
    x ∈ flat L ↔ ∃ l ∈ L, x.1 = l.addr ∧ x.2 ∈ l.ranges := by
  simp only [flat, List.mem_flatMap, List.mem_map]
  constructor
  · rintro ⟨l, hl, r, hr, rfl⟩; exact ⟨l, hl, rfl, hr⟩
  · rintro ⟨l, hl, h1, h2⟩; exact ⟨l, hl, x.2, h2, by rw [← h1]⟩

theorem flat_map_toLine (F : List (Nat × Range)) : flat (F.map toLine) = F := by
  induction F with
  | nil => rfl
  | cons x F ih => simp [flat_cons, toLine, ih]

theorem mergeF_forall {P : Line → Prop}
    (join : ∀ p c : Line, P p → P c → P ⟨p.addr, p.ranges ++ c.ranges⟩) (rest : List Line) :
    ∀ p : Line, (∀ l ∈ p :: rest, P l) → ∀ l ∈ mergeF p rest, P l := by
  induction rest with
  | nil => intro p hp l hl; exact hp l hl
  | cons c rest ih =>
    intro p hp l hl
    obtain ⟨hp1, hp2⟩ := List.forall_mem_cons.mp hp
    obtain ⟨hc1, hc2⟩ := List.forall_mem_cons.mp hp2
    simp only [mergeF] at hl
    split_ifs at hl
    · exact ih _ (List.forall_mem_cons.mpr ⟨join p c hp1 hc1, hc2⟩) l hl
    · rcases List.mem_cons.mp hl with rfl | hl
      · exact hp1
      · exact ih c hp2 l hl

theorem mergeF_sorted (rest : List Line) : ∀ p : Line,
    (p :: rest).Pairwise (fun a b => a.addr ≤ b.addr) →
    (mergeF p rest).Pairwise (fun a b => a.addr < b.addr) := by
  induction rest with
  | nil => intro p _; simp [mergeF]
  | cons c rest ih =>
    intro p hp
    obtain ⟨hp1, hp2⟩ := List.pairwise_cons.mp hp
    obtain ⟨hc1, hc2⟩ := List.pairwise_cons.mp hp2
    simp only [mergeF]
    split_ifs with h
    · exact ih _ (List.pairwise_cons.mpr ⟨fun l hl => hp1 l (List.mem_cons_of_mem _ hl), hc2⟩)
    · have hpc : p.addr < c.addr := Nat.lt_of_le_of_ne (hp1 c (List.mem_cons_self ..)) h
      exact List.pairwise_cons.mpr ⟨mergeF_forall (P := fun l => p.addr < l.addr)
        (fun _ _ hq _ => hq) rest c (List.forall_mem_cons.mpr
          ⟨hpc, fun l hl => Nat.lt_of_lt_of_le hpc (hc1 l hl)⟩), ih c hp2⟩

/-- the rows of the view (before the ellipsis rows are added) -/
def rowsOf (bl : List Range) : List Line := mergeAll ((piecesOf bl).map toLine)

theorem rowsOf_flat (bl : List Range) : flat (rowsOf bl) = piecesOf bl := by
  rw [rowsOf, flat_mergeAll, flat_map_toLine]

theorem mem_piecesOf_rows {bl : List Range} {x : Nat × Range} :
    x ∈ piecesOf bl ↔ ∃ l ∈ rowsOf bl, x.1 = l.addr ∧ x.2 ∈ l.ranges := by
  rw [← rowsOf_flat]
  exact mem_flat

theorem row_piece {bl : List Range} {l : Line} {r : Range} (hl : l ∈ rowsOf bl) (hr : r ∈ l.ranges) :
    (l.addr, r) ∈ piecesOf bl :=
  mem_piecesOf_rows.mpr ⟨l, hl, rfl, hr⟩

theorem rowsOf_sorted {bl : List Range} (h : NormalR bl) :
    (rowsOf bl).Pairwise (fun a b => a.addr < b.addr) := by
  unfold rowsOf
  have hp := piecesOf_pairwise h
  generalize piecesOf bl = F at hp
  cases F with
  | nil => simp [mergeAll]
  | cons x F =>
    apply mergeF_sorted
    have : (List.map toLine (x :: F)).Pairwise (fun a b => a.addr ≤ b.addr) := by
      rw [List.pairwise_map]
      exact hp.imp fun h => h.elim Nat.le_of_lt fun e => Nat.le_of_eq e.1
    exact this

theorem rowsOf_nonempty (bl : List Range) : ∀ l ∈ rowsOf bl, l.ranges ≠ [] := by
  unfold rowsOf
  generalize piecesOf bl = F
  cases F with
  | nil => intro l hl; cases hl
  | cons x F =>
    refine mergeF_forall (P := fun l => l.ranges ≠ [])
      (fun _ _ hp _ => List.append_ne_nil_of_left_ne_nil hp _) _ _ ?_
    intro l hl
    simp only [← List.map_cons, List.mem_map] at hl
    obtain ⟨y, _, rfl⟩ := hl
    simp [toLine]

/-- What a row of the view of `bl` is: its ranges are non-empty, ascending and not adjacent, lie in the
window at `l.addr` and hold exactly the stored addresses of that window (so they are the
maximal runs of stored addresses in the window). -/
structure Row (bl : List Range) (l : Line) : Prop where
  ne : l.ranges ≠ []
  asc : l.ranges.Pairwise fun r r' => r.2 < r'.1
  inside : ∀ r ∈ l.ranges, InWindow l.addr r
  stored : ∀ a, (∃ r ∈ l.ranges, r.1 ≤ a ∧ a < r.2) ↔ MemR a bl ∧ l.addr ≤ a ∧ a < l.addr + bytesPerLine

theorem Row.aligned {bl : List Range} {l : Line} (row : Row bl l) : l.addr % bytesPerLine = 0 :=
  let ⟨r, hr⟩ := List.exists_mem_of_ne_nil _ row.ne
  (row.inside r hr).aligned

theorem Row.stored_iff {bl : List Range} {l : Line} (row : Row bl l) {a : Nat} (h1 : l.addr ≤ a)
    (h2 : a < l.addr + bytesPerLine) : (∃ r ∈ l.ranges, r.1 ≤ a ∧ a < r.2) ↔ MemR a bl :=
  (row.stored a).trans (and_iff_left ⟨h1, h2⟩)

theorem rowsOf_row {bl : List Range} (h : NormalR bl) {l : Line} (hl : l ∈ rowsOf bl) : Row bl l := by
  have hin : ∀ r ∈ l.ranges, InWindow l.addr r := fun r hr => piecesOf_elt h (row_piece hl hr)
  have hne := rowsOf_nonempty bl l hl
  obtain ⟨r0, hr0⟩ := List.exists_mem_of_ne_nil _ hne
  refine ⟨hne, ?_, hin, fun a => ⟨?_, ?_⟩⟩
  · -- the pairs of the row are a sublist of all pairs, which are in order
    have hsub : (l.ranges.map fun r => (l.addr, r)).Sublist (flat (rowsOf bl)) := by
      unfold flat
      rw [List.flatMap_def]
      exact List.sublist_flatten_of_mem (List.mem_map.mpr ⟨l, hl, rfl⟩)
    rw [rowsOf_flat] at hsub
    have hp := (piecesOf_pairwise h).sublist hsub
    rw [List.pairwise_map] at hp
    exact hp.imp fun hxy => hxy.elim (fun hlt => absurd hlt (Nat.lt_irrefl _)) (·.2)
  · rintro ⟨r, hr, h3⟩
    obtain ⟨_, e2, _, e4⟩ := hin r hr
    exact ⟨(piecesOf_cover a).mpr ⟨_, row_piece hl hr, h3⟩, by omega, by omega⟩
  · -- the pair that covers `a` sits in a row of the same window, and there is one row per window
    rintro ⟨ha, h1, h2⟩
    obtain ⟨x, hx, h3, h4⟩ := (piecesOf_cover a).mp ha
    obtain ⟨e1, e2, e3, e4⟩ := piecesOf_elt h hx
    obtain ⟨l', hl', e, hr⟩ := mem_piecesOf_rows.mp hx
    have hl1 := (hin r0 hr0).aligned
    simp only [bytesPerLine] at *
    have : l' = l := eq_of_pairwise (rowsOf_sorted h) hl' hl (by omega) (by omega)
    subst this
    exact ⟨x.2, hr, h3, h4⟩

theorem rowsOf_mem {bl : List Range} (h : NormalR bl) (w : Nat) :
    w ∈ (rowsOf bl).map (·.addr) ↔
      (w % bytesPerLine = 0 ∧ ∃ a, MemR a bl ∧ w ≤ a ∧ a < w + bytesPerLine) := by
  constructor
  · intro hw
    obtain ⟨l, hl, rfl⟩ := List.mem_map.mp hw
    have row := rowsOf_row h hl
    obtain ⟨r, hr⟩ := List.exists_mem_of_ne_nil _ row.ne
    exact ⟨row.aligned, r.1, (row.stored r.1).mp ⟨r, hr, Nat.le_refl _, (row.inside r hr).pos⟩⟩
  · rintro ⟨hw, a, ha, h1, h2⟩
    obtain ⟨x, hx, h3, h4⟩ := (piecesOf_cover a).mp ha
    obtain ⟨e1, e2, e3, e4⟩ := piecesOf_elt h hx
    obtain ⟨l, hl, e, _⟩ := mem_piecesOf_rows.mp hx
    refine List.mem_map.mpr ⟨l, hl, ?_⟩
    simp only [bytesPerLine] at *
    rw [← e]; omega

/-- what a line shows: `none` for the ellipsis row, the window otherwise -/
def key (l : Line) : Option Nat := if l.isEllipsis then none else some l.addr

theorem key_empty : key Line.empty = none := rfl

theorem key_row {l : Line} (h : l.ranges ≠ []) : key l = some l.addr := by
  unfold key Line.isEllipsis
  cases hr : l.ranges with
  | nil => exact absurd hr h
  | cons _ _ => rfl

theorem addEmptyLoop_some (rows : List Line) (hr : ∀ l ∈ rows, l.ranges ≠ []) : ∀ p : Line,
    (addEmptyLoop (some p) rows).map key = Spec.MemView.layoutFrom p.addr (rows.map (·.addr)) := by
  induction rows with
  | nil => intro p; rfl
  | cons l rows ih =>
    intro p
    have h1 := key_row (hr l (List.mem_cons_self ..))
    have h2 := ih (fun x hx => hr x (List.mem_cons_of_mem _ hx)) l
    simp only [addEmptyLoop, bytesPerLine, List.map_cons, Spec.MemView.layoutFrom, List.map_append, h1, h2]
    split_ifs with hc <;> simp [hc, key_empty]

theorem addEmptyLoop_cons (p : Option Line) (x : Line) (rows : List Line) :
    ∃ pre, (∀ l ∈ pre, l = Line.empty) ∧
      addEmptyLoop p (x :: rows) = pre ++ x :: addEmptyLoop (some x) rows := by
  cases p <;> simp only [addEmptyLoop] <;> split_ifs <;> exact ⟨_, by simp, rfl⟩

theorem addEmptyLoop_mem (rows : List Line) : ∀ (p : Option Line) (l : Line),
    l ∈ addEmptyLoop p rows → l = Line.empty ∨ l ∈ rows := by
  induction rows with
  | nil => intro p l hl; cases p <;> simp [addEmptyLoop] at hl
  | cons x rows ih =>
    intro p l hl
    obtain ⟨pre, hpre, e⟩ := addEmptyLoop_cons p x rows
    rw [e, List.mem_append, List.mem_cons] at hl
    rcases hl with hl | rfl | hl
    · exact Or.inl (hpre l hl)
    · exact Or.inr (List.mem_cons_self ..)
    · exact (ih _ l hl).imp_right (List.mem_cons_of_mem _)

theorem addEmptyLines_mem {rows : List Line} {l : Line} (hl : l ∈ addEmptyLines rows) :
    l = Line.empty ∨ l ∈ rows := by
  unfold addEmptyLines at hl
  simp only at hl
  split at hl
  · split at hl
    · rcases List.mem_append.mp hl with h | h
      · exact addEmptyLoop_mem _ _ _ h
      · exact Or.inl (List.mem_singleton.mp h)
    · exact addEmptyLoop_mem _ _ _ hl
  · exact addEmptyLoop_mem _ _ _ hl

theorem addEmptyLines_eq (rows : List Line) (hne : rows ≠ []) (ha : ∀ l ∈ rows, l.addr % bytesPerLine = 0) :
    addEmptyLines rows = addEmptyLoop none rows ++ [Line.empty] := by
  simp only [addEmptyLines]
  split
  · next x hx =>
    have hm : x ∈ addEmptyLoop none rows := List.mem_of_getLast? hx
    have hal : x.addr % bytesPerLine = 0 := by
      rcases addEmptyLoop_mem _ _ _ hm with rfl | h
      · rfl
      · exact ha x h
    -- a multiple of the width plus the width is a multiple of it (the width divides `2^64`), never `2^64 - 1`
    have : (x.addr + bytesPerLine) % 2 ^ 64 ≠ 2 ^ 64 - 1 := by
      unfold bytesPerLine at *; omega
    rw [if_pos this]
  · next hx =>
    exfalso
    have : addEmptyLoop none rows = [] := List.getLast?_eq_none_iff.mp hx
    cases rows with
    | nil => exact hne rfl
    | cons l rows => simp [addEmptyLoop] at this

theorem addEmptyLines_layout (rows : List Line) (hr : ∀ l ∈ rows, l.ranges ≠ [])
    (ha : ∀ l ∈ rows, l.addr % bytesPerLine = 0) :
    (addEmptyLines rows).map key = Spec.MemView.layout (rows.map (·.addr)) := by
  cases rows with
  | nil => rfl
  | cons l rows =>
    rw [addEmptyLines_eq _ (by simp) ha]
    have h1 := key_row (hr l (List.mem_cons_self ..))
    have h2 := addEmptyLoop_some rows (fun x hx => hr x (List.mem_cons_of_mem _ hx)) l
    simp only [addEmptyLoop, List.map_append, List.map_cons, List.map_nil, h1, h2, key_empty,
      Spec.MemView.layout, List.append_assoc, List.cons_append]
    by_cases hc : l.addr = 0 <;> simp [hc, key_empty]

/-- the lines of the view of normal blocks -/
def viewLines (bl : List Range) : List Line := addEmptyLines (rowsOf bl)

theorem memoryLines_eq {bl : List Range} (h : NormalR bl) :
    memoryLines bl = some (viewLines bl) := by
  unfold memoryLines
  rw [allLines_eq bl (normalR_iff.mp h).1]
  obtain ⟨arr, j, h1, h2⟩ := mergeLoop_eq ((piecesOf bl).map toLine)
  simp only [h1, h2]
  rfl

theorem newMemoryView_eq {mem : Mem} {bl : List Range} (hb : mem.blocks = some bl) (h : NormalR bl) :
    newMemoryView (some mem) = some ⟨viewLines bl, 0⟩ := by
  simp only [newMemoryView, hb, memoryLines_eq h]

theorem viewLines_layout {bl : List Range} (h : NormalR bl) :
    (viewLines bl).map key = Spec.MemView.layout ((rowsOf bl).map (·.addr)) :=
  addEmptyLines_layout _ (rowsOf_nonempty bl) fun _ hl => (rowsOf_row h hl).aligned

/-- F28: the pinned loop keeps the stale tail; blocks `[0,4)` and `[8,12)` give window 0 twice -/
theorem f28_witness :
    memoryLinesPinned [(0, 4), (8, 12)] =
      some [⟨0, [(0, 4), (8, 12)]⟩, ⟨0, [(8, 12)]⟩, Line.empty] ∧
    memoryLines [(0, 4), (8, 12)] = some [⟨0, [(0, 4), (8, 12)]⟩, Line.empty] := by
  decide

/-- the memory answers every stored address with a constant whose first byte is `σ a`;
`σ` is undefined elsewhere -/
structure Coh (mem : Mem) (bl : List Range) (σ : Nat → Option UInt8) : Prop where
  blocks : mem.blocks = some bl
  stored : ∀ a, MemR a bl → ∃ b rest, mem.load1 a = some (b :: rest) ∧ σ a = some b
  absent : ∀ a, ¬ MemR a bl → σ a = none

/-- State of the scan of `formatMemLine` at address `a`: `done` are the ranges left behind
(`i = |done|`), they end at or before `a`; the others ascend, are not empty and not adjacent, and the
next one ends at `b` or later, where `b = a` before the conditional increment and `b = a + 1` after it. -/
structure Scan (rs : List Range) (a b : Nat) (done todo : List Range) : Prop where
  split : rs = done ++ todo
  behind : ∀ r ∈ done, r.2 ≤ a
  ahead : ∀ r, todo.head? = some r → b ≤ r.2
  asc : todo.Pairwise (fun r r' => r.2 < r'.1)
  pos : ∀ r ∈ todo, r.1 < r.2

namespace Scan
variable {rs done todo : List Range} {a b : Nat}

theorem idx (h : Scan rs a b done todo) : rs[done.length]? = todo.head? := by
  rw [h.split, List.getElem?_append_right (Nat.le_refl _), Nat.sub_self]
  cases todo <;> rfl

/-- the conditional increment: afterwards the next range ends beyond `a` -/
theorem step (h : Scan rs a a done todo) :
    ∃ done' todo', advance rs done.length a = done'.length ∧ Scan rs a (a + 1) done' todo' := by
  unfold MemView.advance
  rw [h.idx]
  cases todo with
  | nil => exact ⟨done, [], rfl, h.split, h.behind, (fun _ hr => nomatch hr), h.asc, h.pos⟩
  | cons r t =>
    obtain ⟨hrt, ht⟩ := List.pairwise_cons.mp h.asc
    by_cases hge : a ≥ r.2
    · refine ⟨done ++ [r], t, by simp [hge], by simp [h.split], ?_, ?_, ht,
        fun x hx => h.pos x (List.mem_cons_of_mem _ hx)⟩
      · intro x hx
        rcases List.mem_append.mp hx with hx | hx
        · exact h.behind x hx
        · rw [List.mem_singleton.mp hx]; exact hge
      · -- the range after `r` begins beyond the end of `r` and is not empty
        intro x hx
        have hm := List.mem_of_mem_head? hx
        have := hrt x hm
        have := h.pos x (List.mem_cons_of_mem _ hm)
        have := h.ahead r rfl
        omega
    · exact ⟨done, r :: t, by simp [hge], h.split, h.behind, fun x hx => by cases hx; omega, h.asc, h.pos⟩

theorem succ (h : Scan rs a (a + 1) done todo) : Scan rs (a + 1) (a + 1) done todo :=
  ⟨h.split, fun r hr => Nat.le_succ_of_le (h.behind r hr), h.ahead, h.asc, h.pos⟩

theorem stored_iff (h : Scan rs a (a + 1) done todo) :
    (∃ r ∈ rs, r.1 ≤ a ∧ a < r.2) ↔ ∃ r, todo.head? = some r ∧ r.1 ≤ a := by
  constructor
  · rintro ⟨x, hx, h1, h2⟩
    rw [h.split] at hx
    rcases List.mem_append.mp hx with hd | ht
    · have := h.behind x hd; omega
    · cases todo with
      | nil => cases ht
      | cons r t =>
        rcases List.mem_cons.mp ht with rfl | ht'
        · exact ⟨x, rfl, h1⟩
        · have := (List.pairwise_cons.mp h.asc).1 x ht'
          have := h.ahead r rfl
          omega
  · rintro ⟨r, hr, h1⟩
    exact ⟨r, by rw [h.split]; exact List.mem_append_right _ (List.mem_of_mem_head? hr), h1, h.ahead r hr⟩

theorem cell {mem : Mem} {bl : List Range} {σ : Nat → Option UInt8} (h : Scan rs a (a + 1) done todo)
    (hc : Coh mem bl σ) (hm : (∃ r ∈ rs, r.1 ≤ a ∧ a < r.2) ↔ MemR a bl) :
    cellAt mem rs done.length a = some (Spec.MemView.cellText (σ a)) := by
  have hiff := hm.symm.trans h.stored_iff
  unfold MemView.cellAt
  rw [h.idx]
  cases todo with
  | nil => rw [hc.absent a (by simp [hiff])]; rfl
  | cons r t =>
    simp only [List.head?_cons, Option.some.injEq, exists_eq_left'] at hiff ⊢
    by_cases hgt : r.1 > a
    · rw [hc.absent a (by rw [hiff]; omega), if_pos hgt]; rfl
    · obtain ⟨b, rest, hl, hs⟩ := hc.stored a (hiff.mpr (by omega))
      simp only [hgt, if_false, hl, hs]
      rfl

end Scan

theorem fmtLoop_eq {mem : Mem} {bl : List Range} {σ : Nat → Option UInt8} (hc : Coh mem bl σ)
    {l : Line} (row : Row bl l) (f : Nat) : ∀ (off : Nat) (done todo : List Range), f + off = bytesPerLine →
      Scan l.ranges (l.addr + off) (l.addr + off) done todo →
      fmtLoop mem l f off done.length = some (Spec.MemView.cellsText σ l.addr f off) := by
  induction f with
  | zero => intros; rfl
  | succ f ih =>
    intro off done todo hoff hscan
    obtain ⟨done', todo', hi, hs⟩ := hscan.step
    have hcell := hs.cell hc (row.stored_iff (by omega) (by omega))
    have hrec := ih (off + 1) done' todo' (by omega) hs.succ
    simp only [fmtLoop, hi, hcell, hrec, Spec.MemView.cellsText, sepAt, bytesSpace,
      List.append_assoc]
    rfl

theorem formatMemLine_eq {mem : Mem} {bl : List Range} {σ : Nat → Option UInt8} (hc : Coh mem bl σ)
    {l : Line} (row : Row bl l) :
    formatMemLine mem l = some (Spec.MemView.rowCells σ l.addr) := by
  refine fmtLoop_eq hc row _ 0 [] l.ranges rfl
    ⟨rfl, (fun _ hr => nomatch hr), ?_, row.asc, fun r hr => (row.inside r hr).pos⟩
  intro r hr
  have hw := row.inside r (List.mem_of_mem_head? hr)
  have := hw.lo; have := hw.pos
  omega

theorem cursorSet_spec (v : View) (x : Int) :
    cursorSet v x = if 0 ≤ x ∧ x < v.lines.length then some ⟨v.lines, x.toNat⟩ else none := by
  unfold cursorSet
  split_ifs <;> first | rfl | omega

theorem cursorSet_nil (c : Nat) (x : Int) : cursorSet ⟨[], c⟩ x = none := by
  rw [cursorSet_spec, if_neg]
  simp only [List.length_nil, Int.natCast_zero]
  omega

theorem cursorSet_index (v : View) {i : Nat} (h : i < v.lines.length) :
    cursorSet v (i : Int) = some ⟨v.lines, i⟩ := by
  rw [cursorSet_spec, if_pos ⟨by omega, by omega⟩, Int.toNat_natCast]

/-- The search loops of the view and of the specification (`findLine`, `findLineWindow`, `Spec.MemView.addrIndex`) are
written "`findIdx`, and none if it is the length": that is `List.findIdx?`. -/
theorem findIdx?_eq_ite {α : Type} (p : α → Bool) (l : List α) :
    (if l.findIdx p < l.length then some (l.findIdx p) else none) = l.findIdx? p := by
  simp only [List.findIdx?_eq_guard_findIdx_lt, Option.guard, decide_eq_true_eq]

theorem findLine_def (a : Nat) (L : List Line) :
    findLine a L = L.findIdx? fun l => l.ranges.any fun r => contains r a :=
  findIdx?_eq_ite _ L

theorem findLineWindow_def (a : Nat) (L : List Line) : findLineWindow a L = L.findIdx? (lineHasAddr a) :=
  findIdx?_eq_ite _ L

theorem addrIndex_def (rows : List (Option Nat)) (a : Nat) :
    Spec.MemView.addrIndex rows a = rows.findIdx? (· == some (Spec.MemView.windowOf a)) :=
  findIdx?_eq_ite _ rows

theorem findLine_lt {a i : Nat} {L : List Line} (h : findLine a L = some i) : i < L.length :=
  (List.findIdx?_eq_some_iff_findIdx_eq.mp (findLine_def a L ▸ h)).1

/-- `Cursor.Set` takes the index a search returns, which is a row index -/
theorem cursorSet_found (v : View) {o : Option Nat} (h : ∀ i, o = some i → i < v.lines.length) :
    (match o with
      | none => none
      | some idx => cursorSet v idx) = o.map fun i => ⟨v.lines, i⟩ := by
  cases o with
  | none => rfl
  | some i => exact cursorSet_index v (h i rfl)

theorem cmdAddress_eq (v : View) (a : Nat) :
    cmdAddress v a = (findLine a v.lines).map fun i => ⟨v.lines, i⟩ :=
  cursorSet_found v fun _ => findLine_lt

theorem cmdAddressWindow_eq (v : View) (a : Nat) :
    cmdAddressWindow v a = (findLineWindow a v.lines).map fun i => ⟨v.lines, i⟩ :=
  cursorSet_found v fun _ h => (List.findIdx?_eq_some_iff_findIdx_eq.mp (findLineWindow_def a _ ▸ h)).1

theorem cursorSet_some {v v' : View} {x : Int} (h : cursorSet v x = some v') :
    ∃ i, i < v.lines.length ∧ v' = ⟨v.lines, i⟩ := by
  rw [cursorSet_spec] at h
  split_ifs at h with hx
  exact ⟨x.toNat, by omega, (Option.some.inj h).symm⟩

theorem cmdAddress_some {v v' : View} {a : Nat} (h : cmdAddress v a = some v') :
    ∃ i, i < v.lines.length ∧ v' = ⟨v.lines, i⟩ := by
  rw [cmdAddress_eq, Option.map_eq_some_iff] at h
  obtain ⟨i, hi, rfl⟩ := h
  exact ⟨i, findLine_lt hi, rfl⟩

/-- all block ends are addresses -/
def Bounded (bl : List Range) : Prop := ∀ b ∈ bl, b.2 < 2 ^ 64

/-- the last window of a row is in the address space: its first range begins at a stored address -/
theorem Row.bounded {bl : List Range} {l : Line} (row : Row bl l) (hb : Bounded bl) :
    l.addr + bytesPerLine ≤ 2 ^ 64 := by
  obtain ⟨r, hr⟩ := List.exists_mem_of_ne_nil _ row.ne
  obtain ⟨⟨b, hbm, _, h2⟩, h3, _⟩ :=
    (row.stored r.1).mp ⟨r, hr, Nat.le_refl _, (row.inside r hr).pos⟩
  have := hb b hbm
  have := row.aligned
  unfold bytesPerLine at *
  omega

theorem eq_windowOf_iff {w a : Nat} (hal : w % bytesPerLine = 0) :
    w = Spec.MemView.windowOf a ↔ w ≤ a ∧ a < w + bytesPerLine := by
  unfold Spec.MemView.windowOf bytesPerLine at *
  omega

/-- the `uint64` difference `a - w` is below `k` exactly when `a` lies in the `k` bytes from `w` -/
theorem wrap_sub_lt {M a w k : Nat} (ha : a < M) (hw : w + k ≤ M) :
    (a + M - w) % M < k ↔ w ≤ a ∧ a < w + k := by
  by_cases h : w ≤ a
  · rw [show a + M - w = a - w + M by omega, Nat.add_mod_right, Nat.mod_eq_of_lt (by omega)]
    omega
  · rw [Nat.mod_eq_of_lt (by omega)]
    omega

theorem lineHasAddr_key {l : Line}
    (hal : l.ranges ≠ [] → l.addr % bytesPerLine = 0 ∧ l.addr + bytesPerLine ≤ 2 ^ 64)
    {a : Nat} (ha : a < 2 ^ 64) :
    lineHasAddr a l = (key l == some (Spec.MemView.windowOf a)) := by
  unfold lineHasAddr key Line.isEllipsis
  cases hr : l.ranges with
  | nil => simp
  | cons r rs =>
    obtain ⟨h1, h2⟩ := hal (by rw [hr]; simp)
    simp only [List.isEmpty_cons, Bool.not_false, Bool.true_and, Bool.false_eq_true, if_false,
      wrap_sub_lt ha h2, ← eq_windowOf_iff h1]
    by_cases e : l.addr = Spec.MemView.windowOf a <;> simp [e]

/-- observation F81 (wider reading, not the code): searching by window = the row of the window of `a` -/
theorem findLineWindow_eq {bl : List Range} (h : NormalR bl) (hb : Bounded bl) {a : Nat} (ha : a < 2 ^ 64) :
    findLineWindow a (viewLines bl) = Spec.MemView.addrIndex ((viewLines bl).map key) a := by
  rw [findLineWindow_def, addrIndex_def, List.findIdx?_map]
  exact findIdx?_congr fun l hl => lineHasAddr_key (fun hne => by
    rcases addEmptyLines_mem hl with rfl | hr
    · exact absurd rfl hne
    · exact ⟨(rowsOf_row h hr).aligned, (rowsOf_row h hr).bounded hb⟩) ha

theorem addrIndex_none {rows : List (Option Nat)} {a : Nat}
    (h : Spec.MemView.addrIndex rows a = none) : some (Spec.MemView.windowOf a) ∉ rows := fun hm => by
  rw [addrIndex_def, List.findIdx?_eq_none_iff] at h
  simpa using h _ hm

theorem mem_layout {ws : List Nat} {w : Nat} (hw : w ∈ ws) : some w ∈ Spec.MemView.layout ws := by
  have : ∀ (ws : List Nat) (p w : Nat), w ∈ ws → some w ∈ Spec.MemView.layoutFrom p ws := by
    intro ws
    induction ws with
    | nil => intro p w hw; cases hw
    | cons x ws ih =>
      intro p w hw
      rcases List.mem_cons.mp hw with rfl | hw <;> simp [Spec.MemView.layoutFrom, *]
  cases ws with
  | nil => cases hw
  | cons x ws => rcases List.mem_cons.mp hw with rfl | hw <;> simp [Spec.MemView.layout, *]

theorem addrIndex_none_window {bl : List Range} (h : NormalR bl) {a : Nat}
    (he : Spec.MemView.addrIndex ((viewLines bl).map key) a = none) :
    ¬ ∃ x, MemR x bl ∧ Spec.MemView.windowOf a ≤ x ∧ x < Spec.MemView.windowOf a + bytesPerLine := by
  intro hx
  have hnot := addrIndex_none he
  rw [viewLines_layout h] at hnot
  exact hnot (mem_layout ((rowsOf_mem h _).mpr ⟨Nat.mul_mod_left .., hx⟩))

theorem any_contains {rs : List Range} {a : Nat} :
    (rs.any fun r => contains r a) = true ↔ ∃ r ∈ rs, r.1 ≤ a ∧ a < r.2 := by
  simp [contains]

theorem storedTest_key {bl : List Range} (h : NormalR bl) {a : Nat} {l : Line}
    (hl : l ∈ viewLines bl) :
    (l.ranges.any fun r => contains r a) =
      (decide (MemR a bl) && (key l == some (Spec.MemView.windowOf a))) := by
  rcases addEmptyLines_mem hl with rfl | hr
  · simp [Line.empty, key, Line.isEllipsis]
  · have row := rowsOf_row h hr
    rw [key_row row.ne, Bool.eq_iff_iff, any_contains, row.stored]
    simp only [Bool.and_eq_true, decide_eq_true_eq, beq_iff_eq, Option.some.injEq,
      eq_windowOf_iff row.aligned]

theorem findLine_eq {bl : List Range} (h : NormalR bl) (a : Nat) :
    findLine a (viewLines bl) =
      Spec.MemView.addrIndexStored (decide (MemR a bl)) ((viewLines bl).map key) a := by
  rw [findLine_def, findIdx?_congr fun l hl => storedTest_key h hl, Spec.MemView.addrIndexStored,
    addrIndex_def, List.findIdx?_map]
  by_cases hm : MemR a bl
  · simp only [hm, decide_true, Bool.true_and, if_true]; rfl
  · simp [hm]

/-- Text of row `i` of the view when it shows `k` (`none` = ellipsis row, `some w` = window `w`).  The head (cursor
mark, index, separator) and the window addresses are those of `Model.printRow`, byte for byte; what is specified
independently of the model is the cells, `Spec.MemView.rowCells`. -/
def rowTextF (σ : Nat → Option UInt8) (idw cursor i : Nat) (k : Option Nat) : List UInt8 :=
  let head := pad 1 (if i = cursor then [0x3e] else []) ++ [0x20] ++ pad idw (dec i) ++
    [0x20, 0x20, 0x7c, 0x20]
  match k with
  | none => head ++ [0x2e, 0x2e, 0x2e, 0x0a]
  | some w =>
    head ++ [0x30, 0x78] ++ hex16 w ++ [0x20, 0x2d, 0x20, 0x30, 0x78] ++
      hex16 ((w + 16) % 2 ^ 64) ++ [0x20, 0x7c, 0x20] ++ Spec.MemView.rowCells σ w ++ [0x0a]

def rowsTextF (σ : Nat → Option UInt8) (idw cursor : Nat) : Nat → List (Option Nat) → List UInt8
  | _, [] => []
  | i, k :: ks => rowTextF σ idw cursor i k ++ rowsTextF σ idw cursor (i + 1) ks

theorem printRow_eq {mem : Mem} {bl : List Range} {σ : Nat → Option UInt8} (hc : Coh mem bl σ)
    (h : NormalR bl) (idw c i : Nat) {l : Line} (hl : l ∈ viewLines bl) :
    printRow (some mem) idw c i l = some (rowTextF σ idw c i (key l)) := by
  rcases addEmptyLines_mem hl with rfl | hr
  · rfl
  · have hne := rowsOf_nonempty bl l hr
    have hk := key_row hne
    have he : l.isEllipsis = false := List.isEmpty_eq_false_iff.mpr hne
    simp only [printRow, he, Bool.false_eq_true, if_false, formatMemLine_eq hc (rowsOf_row h hr), hk]
    rfl

theorem printRows_eq {mem : Mem} {bl : List Range} {σ : Nat → Option UInt8} (hc : Coh mem bl σ)
    (h : NormalR bl) (idw c : Nat) (L : List Line) : ∀ i, (∀ l ∈ L, l ∈ viewLines bl) →
    printRows (some mem) idw c i L = some (rowsTextF σ idw c i (L.map key)) := by
  induction L with
  | nil => intro i _; rfl
  | cons l L ih =>
    intro i hL
    simp only [printRows, printRow_eq hc h idw c i (hL l (List.mem_cons_self ..)),
      ih (i + 1) (fun x hx => hL x (List.mem_cons_of_mem _ hx)), List.map_cons, rowsTextF]

theorem print_nil (mem : Option Mem) {v : View} (h : v.lines = []) (n : Nat) : print mem v n = some noMemory := by
  unfold print
  rw [h]
  rfl

theorem print_eq {mem : Mem} {bl : List Range} {σ : Nat → Option UInt8} (hc : Coh mem bl σ)
    (h : NormalR bl) (c n : Nat) :
    print (some mem) ⟨viewLines bl, c⟩ n =
      some (if (viewLines bl).isEmpty then noMemory
        else
          let w := window ⟨viewLines bl, c⟩ n
          rowsTextF σ (numDigits (viewLines bl).length) c w.1
            ((((viewLines bl).map key).drop w.1).take (w.2 - w.1))) := by
  unfold print
  by_cases he : (viewLines bl).isEmpty
  · simp [he]
  · simp only [he, Bool.false_eq_true, if_false]
    rw [printRows_eq hc h]
    · simp [List.map_take, List.map_drop]
    · intro l hl
      exact List.mem_of_mem_drop (List.mem_of_mem_take hl)

end Mltwist.Lemmas.MemView
