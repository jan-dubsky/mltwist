import Mltwist.Model.Deps
import Mltwist.Spec.Deps
import Mltwist.Lemmas.SortSearch
/-
Moving one element of a list.  The loops of `moves.go` (`Model/Deps.lean`: `moveFwd`, `moveBack`,
`move`) in closed form: the list is `P ++ seg ++ S`, where `seg` reaches from the smaller to the larger
of the two positions; the element at `from` goes to the other end of `seg`, and the elements of the
segment get fresh indices and addresses (`readdr`); `P` and `S` are untouched; no index is ever out of
range.  The specification's `rotate` does the same to a list without the refresh.  Last, what such a move
does to dependencies: "every edge points forward" for a duplicate-free list of ids, read as an order
condition (`fwd_iff_pairwise`: no edge goes from a later to an earlier element), is kept when an element is
taken out and put back behind all its dependencies and before all its dependents (`fwd_rotate`).
-/
namespace Mltwist.Lemmas.Deps
open Mltwist Mltwist.Deps

/-- fresh indices `k, k+1, …` and addresses `a, End(), …` for a segment: what both loops assign -/
def readdr {α : Type} (o : Movable α) : Nat → Nat → List α → List α
  | _, _, [] => []
  | k, a, x :: xs =>
    let y := o.setAddr (o.setIndex x k) a
    y :: readdr o (k + 1) (o.end_ y) xs

/-- the running address after `readdr o k a l` -/
def readdrEnd {α : Type} (o : Movable α) : Nat → Nat → List α → Nat
  | _, a, [] => a
  | k, a, x :: xs => readdrEnd o (k + 1) (o.end_ (o.setAddr (o.setIndex x k) a)) xs

/-- fresh indices only -/
def reidx {α : Type} (o : Movable α) : Nat → List α → List α
  | _, [] => []
  | k, x :: xs => o.setIndex x k :: reidx o (k + 1) xs

/-- fresh addresses only -/
def addrs {α : Type} (o : Movable α) : Nat → List α → List α
  | _, [] => []
  | a, x :: xs => o.setAddr x a :: addrs o (o.end_ (o.setAddr x a)) xs

theorem readdr_length {α : Type} (o : Movable α) (k a : Nat) (l : List α) :
    (readdr o k a l).length = l.length := by
  induction l generalizing k a with
  | nil => rfl
  | cons x xs ih => simp [readdr, ih]

theorem reidx_length {α : Type} (o : Movable α) (k : Nat) (l : List α) :
    (reidx o k l).length = l.length := by
  induction l generalizing k with
  | nil => rfl
  | cons x xs ih => simp [reidx, ih]

theorem addrs_length {α : Type} (o : Movable α) (a : Nat) (l : List α) :
    (addrs o a l).length = l.length := by
  induction l generalizing a with
  | nil => rfl
  | cons x xs ih => simp [addrs, ih]

theorem readdr_append {α : Type} (o : Movable α) (k a : Nat) (l₁ l₂ : List α) :
    readdr o k a (l₁ ++ l₂) =
      readdr o k a l₁ ++ readdr o (k + l₁.length) (readdrEnd o k a l₁) l₂ := by
  induction l₁ generalizing k a with
  | nil => rfl
  | cons x xs ih =>
    simp only [List.cons_append, readdr, readdrEnd, ih, List.length_cons, Nat.add_assoc,
      Nat.add_comm 1]

theorem reidx_append {α : Type} (o : Movable α) (k : Nat) (l₁ l₂ : List α) :
    reidx o k (l₁ ++ l₂) = reidx o k l₁ ++ reidx o (k + l₁.length) l₂ := by
  induction l₁ generalizing k with
  | nil => rfl
  | cons x xs ih =>
    simp only [List.cons_append, reidx, ih, List.length_cons, Nat.add_assoc, Nat.add_comm 1]

theorem readdr_eq_addrs_reidx {α : Type} (o : Movable α) (k a : Nat) (l : List α) :
    readdr o k a l = addrs o a (reidx o k l) := by
  induction l generalizing k a with
  | nil => rfl
  | cons x xs ih => simp [readdr, reidx, addrs, ih]

theorem readdr_map {α β : Type} (o : Movable α) (g : α → β) (hi : ∀ x k, g (o.setIndex x k) = g x)
    (ha : ∀ x a, g (o.setAddr x a) = g x) (k a : Nat) (l : List α) :
    (readdr o k a l).map g = l.map g := by
  induction l generalizing k a with
  | nil => rfl
  | cons x xs ih => simp [readdr, ih, hi, ha]

theorem getElem?_mid {α : Type} (P : List α) (x : α) (S : List α) {n : Nat} (h : n = P.length) :
    (P ++ x :: S)[n]? = some x := by
  rw [h, List.getElem?_append_right (Nat.le_refl _), Nat.sub_self]
  rfl

theorem set_mid {α : Type} (P : List α) (x y : α) (S : List α) {n : Nat} (h : n = P.length) :
    (P ++ x :: S).set n y = P ++ y :: S := by
  rw [h, List.set_append_right _ _ (Nat.le_refl _), Nat.sub_self]
  rfl

theorem eraseIdx_mid {α : Type} (P : List α) (x : α) (R : List α) {n : Nat} (h : n = P.length) :
    (P ++ x :: R).eraseIdx n = P ++ R := by
  rw [h, List.eraseIdx_append_of_length_le (Nat.le_refl _), Nat.sub_self]
  rfl

theorem insertIdx_mid {α : Type} (P R : List α) (x : α) {n : Nat} (h : n = P.length) :
    (P ++ R).insertIdx n x = P ++ x :: R := by
  subst h
  induction P with
  | nil => rfl
  | cons p P ih => simp [ih]

theorem moveFwdLoop_split {α : Type} (o : Movable α) (Q : List α) :
    ∀ (P : List α) (x0 : α) (S : List α) (a : Nat),
      ∃ z, moveFwdLoop o Q.length P.length a (P ++ x0 :: Q ++ S) =
        some (P ++ readdr o P.length a Q ++ z :: S, readdrEnd o P.length a Q) := by
  induction Q with
  | nil =>
    intro P x0 S a
    exact ⟨x0, by simp [moveFwdLoop, readdr, readdrEnd]⟩
  | cons y Q ih =>
    intro P x0 S a
    obtain ⟨z, hz⟩ := ih (P ++ [o.setAddr (o.setIndex y P.length) a]) y S
      (o.end_ (o.setAddr (o.setIndex y P.length) a))
    refine ⟨z, ?_⟩
    have h1 : (P ++ x0 :: y :: Q ++ S)[P.length + 1]? = some y := by
      simp
    have h2 : (P ++ x0 :: y :: Q ++ S).set P.length (o.setAddr (o.setIndex y P.length) a) =
        P ++ [o.setAddr (o.setIndex y P.length) a] ++ y :: Q ++ S := by
      rw [List.append_assoc, List.cons_append, set_mid P x0 _ _ rfl]
      simp
    rw [List.length_append, List.length_singleton] at hz
    simp only [List.length_cons, moveFwdLoop, h1, h2, hz]
    simp only [readdr, readdrEnd, List.append_assoc, List.cons_append, List.nil_append]

theorem moveFwd_split {α : Type} (o : Movable α) (P : List α) (x : α) (Q S : List α) :
    moveFwd o (P ++ x :: Q ++ S) P.length (P.length + Q.length) =
      some (P ++ readdr o P.length (o.begin x) (Q ++ [x]) ++ S) := by
  obtain ⟨z, hz⟩ := moveFwdLoop_split o Q P x S (o.begin x)
  have h0 : (P ++ x :: Q ++ S)[P.length]? = some x := by
    rw [List.append_assoc]; exact getElem?_mid P x _ rfl
  have hl : P.length + Q.length = (P ++ readdr o P.length (o.begin x) Q).length := by
    rw [List.length_append, readdr_length]
  simp only [moveFwd, h0, Nat.add_sub_cancel_left, hz]
  rw [if_pos (by rw [List.length_append, ← hl, List.length_cons]; omega), set_mid _ z _ S hl,
    readdr_append]
  simp only [readdr, List.append_assoc, List.cons_append, List.nil_append]

theorem moveBackShift_split_reverse {α : Type} (o : Movable α) (R : List α) :
    ∀ (P : List α) (z : α) (S : List α),
      ∃ hd, moveBackShift o R.length (P.length + R.length) (P ++ R.reverse ++ z :: S) =
        some (P ++ hd :: reidx o (P.length + 1) R.reverse ++ S) := by
  induction R with
  | nil =>
    intro P z S
    exact ⟨z, by simp [moveBackShift, reidx]⟩
  | cons q R ih =>
    intro P z S
    -- one step copies `q` (the last of the segment) over `z`; the rest is the same loop on
    -- `P ++ R.reverse ++ q :: _`
    obtain ⟨hd, hhd⟩ := ih P q (o.setIndex q (P.length + (R.length + 1)) :: S)
    refine ⟨hd, ?_⟩
    have e : P ++ (q :: R).reverse ++ z :: S = (P ++ R.reverse) ++ q :: z :: S := by simp
    have h1 : (P ++ (q :: R).reverse ++ z :: S)[P.length + (R.length + 1) - 1]? = some q := by
      rw [e]; exact getElem?_mid _ q _ (by simp)
    have h2 : P.length + (R.length + 1) < (P ++ (q :: R).reverse ++ z :: S).length := by
      simp
    have h3 : (P ++ (q :: R).reverse ++ z :: S).set (P.length + (R.length + 1))
          (o.setIndex q (P.length + (R.length + 1))) =
        P ++ R.reverse ++ q :: o.setIndex q (P.length + (R.length + 1)) :: S := by
      rw [show P ++ (q :: R).reverse ++ z :: S = (P ++ R.reverse ++ [q]) ++ z :: S by simp,
        set_mid _ z _ S (by simp)]
      simp
    simp only [List.length_cons, moveBackShift, h1, if_pos h2, h3]
    rw [show P.length + (R.length + 1) - 1 = P.length + R.length by omega, hhd]
    simp only [List.reverse_cons, reidx_append, reidx, List.length_reverse, List.append_assoc,
      List.cons_append, List.nil_append, Nat.add_assoc, Nat.add_comm 1]

theorem moveBackShift_split {α : Type} (o : Movable α) (P Q : List α) (z : α) (S : List α) :
    ∃ hd, moveBackShift o Q.length (P.length + Q.length) (P ++ Q ++ z :: S) =
      some (P ++ hd :: reidx o (P.length + 1) Q ++ S) := by
  simpa using moveBackShift_split_reverse o Q.reverse P z S

theorem moveBackAddr_split {α : Type} (o : Movable α) (L : List α) :
    ∀ (P S : List α) (a : Nat),
      moveBackAddr o L.length P.length a (P ++ L ++ S) = some (P ++ addrs o a L ++ S) := by
  induction L with
  | nil =>
    intro P S a
    simp [moveBackAddr, addrs]
  | cons y L ih =>
    intro P S a
    have h1 : (P ++ y :: L ++ S)[P.length]? = some y := by
      rw [List.append_assoc]; exact getElem?_mid P y _ rfl
    have h2 : (P ++ y :: L ++ S).set P.length (o.setAddr y a) = (P ++ [o.setAddr y a]) ++ L ++ S := by
      rw [List.append_assoc, List.cons_append, set_mid P y _ _ rfl]
      simp
    have := ih (P ++ [o.setAddr y a]) S (o.end_ (o.setAddr y a))
    rw [List.length_append, List.length_singleton] at this
    simp only [List.length_cons, moveBackAddr, h1, h2, this]
    simp only [addrs, List.append_assoc, List.cons_append, List.nil_append]

theorem moveBack_split {α : Type} (o : Movable α) (P Q : List α) (x : α) (S : List α) (y : α)
    (hy : (Q ++ [x]).head? = some y) :
    moveBack o (P ++ Q ++ x :: S) (P.length + Q.length) P.length =
      some (P ++ readdr o P.length (o.begin y) (x :: Q) ++ S) := by
  obtain ⟨hd, hhd⟩ := moveBackShift_split o P Q x S
  have h0 : (P ++ Q ++ x :: S)[P.length + Q.length]? = some x := getElem?_mid _ x S (by simp)
  have h1 : (P ++ Q ++ x :: S)[P.length]? = some y := by
    rw [List.append_assoc, List.getElem?_append_right (Nat.le_refl _), Nat.sub_self, ← hy]
    cases Q <;> rfl
  have h3 : (P ++ hd :: reidx o (P.length + 1) Q ++ S).set P.length (o.setIndex x P.length) =
      P ++ reidx o P.length (x :: Q) ++ S := by
    rw [List.append_assoc, List.cons_append, set_mid P hd _ _ rfl]
    simp [reidx]
  have h4 : Q.length + 1 = (reidx o P.length (x :: Q)).length := by simp [reidx_length]
  simp only [moveBack, h0, h1, Nat.add_sub_cancel_left, hhd, h3]
  rw [h4, moveBackAddr_split, readdr_eq_addrs_reidx]

theorem split_elem_seg {α : Type} (arr : List α) (i k : Nat) (h : i + k < arr.length) :
    ∃ P Q S, arr = P ++ arr[i] :: Q ++ S ∧ P.length = i ∧ Q.length = k := by
  refine ⟨arr.take i, (arr.drop (i + 1)).take k, arr.drop (i + k + 1), ?_, ?_, ?_⟩
  · rw [List.append_assoc, List.cons_append, show i + k + 1 = i + 1 + k by omega,
      ← List.drop_drop (i := k) (j := i + 1), List.take_append_drop, ← List.drop_eq_getElem_cons,
      List.take_append_drop]
  · exact List.length_take_of_le (by omega)
  · exact List.length_take_of_le (by rw [List.length_drop]; omega)

theorem split_seg_elem {α : Type} (arr : List α) (t f : Nat) (htf : t ≤ f) (hf : f < arr.length) :
    ∃ P Q S, arr = P ++ Q ++ arr[f] :: S ∧ P.length = t ∧ Q.length = f - t := by
  refine ⟨arr.take t, (arr.drop t).take (f - t), arr.drop (f + 1), ?_, ?_, ?_⟩
  · have : arr.drop f = (arr.drop t).drop (f - t) := by
      rw [List.drop_drop]; congr 1; omega
    rw [List.append_assoc, ← List.drop_eq_getElem_cons hf, this, List.take_append_drop,
      List.take_append_drop]
  · exact List.length_take_of_le (by omega)
  · exact List.length_take_of_le (by rw [List.length_drop]; omega)

theorem rotate_fwd_split {α : Type} (P Q S : List α) (m : α) :
    Mltwist.Deps.Spec.rotate (P ++ m :: Q ++ S) P.length (P.length + Q.length) = P ++ Q ++ m :: S := by
  have hg : (P ++ m :: Q ++ S)[P.length]? = some m := by
    rw [List.append_assoc]; exact getElem?_mid P m _ rfl
  simp only [Mltwist.Deps.Spec.rotate, hg]
  rw [List.append_assoc, List.cons_append, eraseIdx_mid P m _ rfl, ← List.append_assoc,
    insertIdx_mid _ S m (by simp)]

theorem rotate_back_split {α : Type} (P Q S : List α) (m : α) :
    Mltwist.Deps.Spec.rotate (P ++ Q ++ m :: S) (P.length + Q.length) P.length = P ++ m :: Q ++ S := by
  have hg : (P ++ Q ++ m :: S)[P.length + Q.length]? = some m := getElem?_mid _ m S (by simp)
  simp only [Mltwist.Deps.Spec.rotate, hg]
  rw [eraseIdx_mid _ m S (by simp), List.append_assoc, insertIdx_mid P _ m rfl, List.append_assoc,
    List.cons_append]

theorem map_eraseIdx {α β : Type} (g : α → β) (l : List α) (i : Nat) :
    (l.eraseIdx i).map g = (l.map g).eraseIdx i := by
  induction l generalizing i with
  | nil => rfl
  | cons a l ih =>
    cases i with
    | zero => rfl
    | succ i => simp only [List.eraseIdx_cons_succ, List.map_cons, ih]

theorem map_insertIdx {α β : Type} (g : α → β) (l : List α) (i : Nat) (x : α) :
    (l.insertIdx i x).map g = (l.map g).insertIdx i (g x) := by
  induction l generalizing i with
  | nil => cases i <;> rfl
  | cons a l ih =>
    cases i with
    | zero => rfl
    | succ i => simp only [List.insertIdx_succ_cons, List.map_cons, ih]

theorem rotate_map {α β : Type} (g : α → β) (l : List α) (f t : Nat) :
    (Mltwist.Deps.Spec.rotate l f t).map g = Mltwist.Deps.Spec.rotate (l.map g) f t := by
  unfold Mltwist.Deps.Spec.rotate
  rw [List.getElem?_map]
  cases l[f]? with
  | none => rfl
  | some x => simp only [Option.map_some, map_insertIdx, map_eraseIdx]

theorem rotate_self {α : Type} (l : List α) (i : Nat) : Mltwist.Deps.Spec.rotate l i i = l := by
  by_cases hi : i < l.length
  · obtain ⟨P, Q, S, harr, hP, hQ⟩ := split_elem_seg l i 0 (by omega)
    generalize l[i] = m at harr
    subst harr
    obtain rfl := List.eq_nil_of_length_eq_zero hQ
    have := rotate_fwd_split P [] S m
    rw [List.length_nil, Nat.add_zero, hP] at this
    simpa using this
  · rw [Mltwist.Deps.Spec.rotate, List.getElem?_eq_none (by omega)]

theorem rotate_perm {α : Type} (l : List α) (f t : Nat) (hf : f < l.length) (ht : t < l.length) :
    (Mltwist.Deps.Spec.rotate l f t).Perm l := by
  rw [Mltwist.Deps.Spec.rotate, List.getElem?_eq_getElem hf]
  refine (List.perm_insertIdx _ _ (by rw [List.length_eraseIdx_of_lt hf]; omega)).trans ?_
  rw [List.eraseIdx_eq_take_drop_succ]
  refine List.perm_middle.symm.trans ?_
  rw [← List.drop_eq_getElem_cons hf, List.take_append_drop]

theorem move_self {α : Type} (o : Movable α) (arr : List α) (f : Nat) : move o arr f f = some arr := by
  simp [move]

theorem move_split {α : Type} (o : Movable α) (arr : List α) (f t : Nat) (hf : f < arr.length)
    (ht : t < arr.length) (hne : f ≠ t) :
    ∃ P seg seg' S y, arr = P ++ seg ++ S ∧ seg.head? = some y ∧ seg'.Perm seg ∧
      move o arr f t = some (P ++ readdr o P.length (o.begin y) seg' ++ S) ∧
      Mltwist.Deps.Spec.rotate arr f t = P ++ seg' ++ S := by
  rcases Nat.lt_or_gt_of_ne hne with hft | htf
  · obtain ⟨P, Q, S, harr, hP, hQ⟩ := split_elem_seg arr f (t - f) (by omega)
    generalize arr[f] = m at harr
    subst harr hP
    obtain rfl : t = P.length + Q.length := by omega
    refine ⟨P, m :: Q, Q ++ [m], S, m, by simp, rfl, List.perm_append_singleton m Q, ?_, ?_⟩
    · rw [move, if_neg hne, if_pos hft, moveFwd_split]
    · rw [rotate_fwd_split]
      simp only [List.append_assoc, List.cons_append, List.nil_append]
  · obtain ⟨P, Q, S, harr, hP, hQ⟩ := split_seg_elem arr t f (by omega) hf
    generalize arr[f] = m at harr
    subst harr hP
    obtain rfl : f = P.length + Q.length := by omega
    have hy : (Q ++ [m]).head? = some ((Q ++ [m]).head (by simp)) := List.head?_eq_some_head _
    refine ⟨P, Q ++ [m], m :: Q, S, _, by simp, hy, (List.perm_append_singleton m Q).symm, ?_,
      rotate_back_split P Q S m⟩
    rw [move, if_neg hne, if_neg (by omega), moveBack_split o P Q m S _ hy]

open Mltwist.Deps.Spec

/-- every edge of `E` joins two members of `L`, the first standing before the second -/
def Fwd (L : List Nat) (E : Edges) : Prop :=
  ∀ e ∈ E, e.1 ∈ L ∧ e.2 ∈ L ∧ L.idxOf e.1 < L.idxOf e.2

theorem Fwd.mem_fst {L : List Nat} {E : Edges} (h : Fwd L E) {e : Nat × Nat} (he : e ∈ E) : e.1 ∈ L := (h e he).1

theorem Fwd.mem_snd {L : List Nat} {E : Edges} (h : Fwd L E) {e : Nat × Nat} (he : e ∈ E) : e.2 ∈ L := (h e he).2.1

theorem Fwd.lt {L : List Nat} {E : Edges} (h : Fwd L E) {e : Nat × Nat} (he : e ∈ E) :
    L.idxOf e.1 < L.idxOf e.2 := (h e he).2.2

theorem idxOf_lt_of_sublist {κ : Type} [BEq κ] [LawfulBEq κ] {L : List κ} {i j : κ}
    (h : [i, j].Sublist L) (hnd : L.Nodup) : L.idxOf i < L.idxOf j := by
  induction L with
  | nil => cases h
  | cons c L ih =>
    have hnd' := List.nodup_cons.1 hnd
    have hne : ∀ k ∈ L, (c == k) = false := fun k hk => beq_false_of_ne fun e => hnd'.1 (e ▸ hk)
    cases h with
    | cons _ h =>
      rw [List.idxOf_cons, List.idxOf_cons, hne i (h.subset (by simp)), hne j (h.subset (by simp))]
      exact Nat.succ_lt_succ (ih h hnd'.2)
    | cons_cons _ h =>
      rw [List.idxOf_cons_self, List.idxOf_cons, hne j (h.subset (by simp))]
      exact Nat.succ_pos _

theorem fwd_iff_pairwise {L : List Nat} {E : Edges} (hnd : L.Nodup) :
    Fwd L E ↔ (∀ e ∈ E, e.1 ∈ L ∧ e.2 ∈ L ∧ e.1 ≠ e.2) ∧ L.Pairwise fun a b => (b, a) ∉ E := by
  constructor
  · intro h
    refine ⟨fun e he => ⟨h.mem_fst he, h.mem_snd he, fun heq => ?_⟩, ?_⟩
    · have := h.lt he
      rw [heq] at this
      exact Nat.lt_irrefl _ this
    · rw [List.pairwise_iff_getElem]
      intro i j hi hj hij hE
      have := h.lt hE
      simp only [hnd.idxOf_getElem] at this
      omega
  · rintro ⟨hm, hp⟩ e he
    obtain ⟨h1, h2, hne⟩ := hm e he
    refine ⟨h1, h2, ?_⟩
    have i1 := List.idxOf_lt_length_of_mem h1
    have i2 := List.idxOf_lt_length_of_mem h2
    rcases Nat.lt_trichotomy (L.idxOf e.1) (L.idxOf e.2) with h | h | h
    · exact h
    · refine absurd ?_ hne
      rw [← List.getElem_idxOf i1, ← List.getElem_idxOf i2]
      simp only [h]
    · have := List.pairwise_iff_getElem.1 hp _ _ i2 i1 h
      rw [List.getElem_idxOf, List.getElem_idxOf] at this
      exact absurd he this

/-- The element may go to `t` if `t` lies before all ends of its outgoing and behind all starts of its
incoming edges: taking it out leaves the others in their order, and where it is put back, what then stands
before it stood at a position up to `t`, what stands behind it at a position from `t` on. -/
theorem fwd_rotate (L : List Nat) (E : Edges) (hnd : L.Nodup) (h : Fwd L E) (f t : Nat)
    (hf : f < L.length) (ht : t < L.length)
    (h1 : ∀ e ∈ E, e.1 = L[f] → t < L.idxOf e.2) (h2 : ∀ e ∈ E, e.2 = L[f] → L.idxOf e.1 < t) :
    Fwd (rotate L f t) E := by
  have hperm := rotate_perm L f t hf ht
  obtain ⟨hm, hpw⟩ := (fwd_iff_pairwise hnd).1 h
  refine (fwd_iff_pairwise (hperm.nodup_iff.2 hnd)).2 ⟨fun e he => ?_, ?_⟩
  · obtain ⟨m1, m2, hne⟩ := hm e he
    exact ⟨hperm.mem_iff.2 m1, hperm.mem_iff.2 m2, hne⟩
  rw [rotate, List.getElem?_eq_getElem hf]
  refine (pairwise_insertIdx _ t _ (by rw [List.length_eraseIdx_of_lt hf]; omega)).2
    ⟨hpw.sublist (List.eraseIdx_sublist L f), fun y hy he => ?_, fun y hy he => ?_⟩
  -- position `p` of the list without `L[f]` holds `L[p]` or `L[p + 1]`
  · obtain ⟨p, hp, rfl⟩ := List.mem_take_iff_getElem.1 hy
    have := h1 _ he rfl
    rw [List.getElem_eraseIdx] at this
    split at this <;> rw [hnd.idxOf_getElem] at this <;> omega
  · obtain ⟨p, hp, rfl⟩ := List.mem_drop_iff_getElem.1 hy
    have := h2 _ he rfl
    rw [List.getElem_eraseIdx] at this
    split at this <;> rw [hnd.idxOf_getElem] at this <;> omega

end Mltwist.Lemmas.Deps
