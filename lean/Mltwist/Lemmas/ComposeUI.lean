import Mltwist.Lemmas.ComposeEmu
import Mltwist.Lemmas.ComposeListing
import Mltwist.Lemmas.ComposeStartup
/-
COMPOSITION: the console UI (C22, `Model/UI.lean`) FULLY INSTANTIATED: the code operations are those of
the real dependency model (`opsAt`, `Lemmas/ComposeListing.lean`), the emulator is the real emulator model
(`emuOps`, `Lemmas/ComposeEmu.lean`).  What is left as a parameter is genuinely external: the answers of the
regular expression library (`rx`), the terminal height (argument of `renderTop`), and the input.

Because the code operations are functions of the view and the view does not determine the `Deps.Code`
(`Lemmas/ComposeListing.lean`), the session threads the real code: `RUI` = (real code, UI state); every call of
`processCommand` runs with the parameters AT the current real code (`paramsAt`), and the real code advances by
`uiNextDeps` (a `move` command of the disassembler mode performs `code.Move` / `code.Index(b).Move`).

Safety (`real_step_safe`, `realRunWith_safe`): C22 for the instantiated UI.  An emulator step whose access leaves the
address space (`addr + w ≥ 2^64`, F45) is an ordinary error of `Step`, so the session ends by `quit` in the first
mode, at the end of the input or in a starving value prompt, never by a panic.

Coupling (`Shaped`, kept by `Next.coupled`, `Opens.coupled`, `Eff.shaped` in the UI's namespace; `reach_inv`): throughout every session the mode stack is `[disassembler]`, `[emulator,
disassembler]` or `[memory view, emulator, disassembler]`; the listing state of the disassembler mode shows the
current real code (`st.code = listingOf info d`), so that the operations it calls are the real ones and, by C23's
invariant, its lines are the fresh rendering of the current real code; the emulator mode's own listing shows the
current real code and its emulator runs on it (`e.emu.code = codeViewOf d`): the code cannot change while an emulator
exists.
-/
namespace Mltwist.Lemmas.Compose
open Mltwist Mltwist.UI Mltwist.Lemmas.UI Mltwist.Lemmas.Deps Mltwist.Lemmas.Emulator
open Mltwist.Listing.Spec (Lawful WF ValidCmd)

/-- moves keep the instructions of every block up to their order and their current addresses, so the emulator sees the
same effects -/
theorem effects_sameCode {c0 c : Deps.Code} (hs : SameCode c0 c) {ins : Emulator.Ins} (hins : ins ∈ codeViewOf c) :
    ∃ ins0 ∈ codeViewOf c0, ins0.effects = ins.effects := by
  obtain ⟨i, hi, rfl⟩ := List.mem_map.1 hins
  obtain ⟨b, hb, hib⟩ := List.mem_flatMap.1 hi
  obtain ⟨p, hp, rfl⟩ := List.mem_iff_getElem.1 hb
  have hp0 : p < c0.store.length := hs.len ▸ hp
  have hmem : Deps.Ins.static i ∈ (c0.store[p]).seq.map Deps.Ins.static :=
    (hs.blocks p hp0 hp).static.mem_iff.1 (List.mem_map_of_mem hib)
  obtain ⟨i0, hi0, he⟩ := List.mem_map.1 hmem
  exact ⟨emuOf i0, List.mem_map_of_mem (List.mem_flatMap.2 ⟨c0.store[p], List.getElem_mem hp0, hi0⟩),
    by rw [static_eq he]; rfl⟩

theorem codeWF_sameCode {c0 c : Deps.Code} (hs : SameCode c0 c) (h : CodeWF (codeViewOf c0)) :
    CodeWF (codeViewOf c) := by
  intro ins hins ef hef
  obtain ⟨ins0, h0, he⟩ := effects_sameCode hs hins
  exact h ins0 h0 ef (he ▸ hef)

theorem codeSW_sameCode {c0 c : Deps.Code} (hs : SameCode c0 c) (h : CodeSW (codeViewOf c0)) :
    CodeSW (codeViewOf c) := by
  intro ins hins v k a w hm
  obtain ⟨ins0, h0, he⟩ := effects_sameCode hs hins
  exact h ins0 h0 v k a w (he ▸ hm)

variable (info : Info) {bs : List BytesMem.Block} (rx : Str → Option (String → Bool))

theorem uiNextDeps_eq (d : Deps.Code) (top : NamedMode ESt) (below : List (NamedMode ESt)) (line : Str)
    (rest : Input) (cmd : Command) (args : List ArgVal) (hp : parseCommand top.cmdMap line = .ok cmd args) :
    uiNextDeps d ⟨top :: below⟩ (line :: rest) = actDeps d top cmd.act args := by
  simp only [uiNextDeps, hp]

theorem uiNextDeps_err (d : Deps.Code) (top : NamedMode ESt) (below : List (NamedMode ESt)) (line : Str)
    (rest : Input) (hp : parseCommand top.cmdMap line = .err) : uiNextDeps d ⟨top :: below⟩ (line :: rest) = d := by
  simp only [uiNextDeps, hp]

theorem actDeps_cases (d : Deps.Code) (top : NamedMode ESt) (act : Act) (args : List ArgVal) :
    actDeps d top act args = d ∨ ∃ st f t, top.mode = .dis st ∧ (act = .dMove ∧ args = [.num f, .num t]) ∧
      actDeps d top act args = nextDeps d st (.move f t) := by
  unfold actDeps
  split
  · next st f t hm =>
    split
    · next ha => exact .inr ⟨st, f, t, hm, ⟨ha, rfl⟩, rfl⟩
    · exact .inl rfl
  · exact .inl rfl

theorem actDeps_of_not_move (d : Deps.Code) {top : NamedMode ESt} {act : Act} {args : List ArgVal}
    (hn : ∀ st f t, top.mode = .dis st → disCmd rx st act args ≠ some (.move f t)) : actDeps d top act args = d := by
  rcases actDeps_cases d top act args with h | ⟨st, f, t, hm, hc, _⟩
  · exact h
  · exact absurd ((disCmd_eq_move rx).2 hc) (hn st f t hm)

theorem actDeps_of_disCmd (d : Deps.Code) {top : NamedMode ESt} {st : Listing.St} (hm : top.mode = .dis st) {act : Act}
    {args : List ArgVal} {c : Listing.Cmd} (hc : disCmd rx st act args = some c) :
    actDeps d top act args = nextDeps d st c := by
  cases c with
  | move f t =>
    obtain ⟨rfl, rfl⟩ := (disCmd_eq_move rx).1 hc
    simp only [actDeps, hm, if_true]
  | _ =>
    -- any other command: `nextDeps` is `d`
    exact actDeps_of_not_move rx d fun st' f t hm' => by cases hm.symm.trans hm'; rw [hc]; nofun

theorem actDeps_run (d : Deps.Code) (top : NamedMode ESt) (act : Act) (args : List ArgVal) :
    ∃ ops, actDeps d top act args = d.run ops := by
  rcases actDeps_cases d top act args with h | ⟨st, _, _, _, _, h⟩
  · exact ⟨[], h⟩
  · exact h ▸ nextDeps_run d st _

theorem uiNextDeps_run (d : Deps.Code) (ui : UI ESt) (inp : Input) : ∃ ops, uiNextDeps d ui inp = d.run ops := by
  -- it is `d`, unless the line parses
  unfold uiNextDeps
  split
  · exact ⟨[], rfl⟩
  · split
    · exact ⟨[], rfl⟩
    · split
      · exact actDeps_run d _ _ _
      · exact ⟨[], rfl⟩

theorem uiNextDeps_inv {d : Deps.Code} (hd : CInv d) (ui : UI ESt) (inp : Input) :
    CInv (uiNextDeps d ui inp) ∧ SameCode d (uiNextDeps d ui inp) := by
  obtain ⟨ops, h⟩ := uiNextDeps_run d ui inp
  exact h ▸ hd.run ops

/-- the invariant of the composed state: C07's on the real code, which still has the instructions and edges of `d0`, and
the UI's (C22) -/
structure SInv (d0 : Deps.Code) (r : RUI) : Prop where
  deps : CInv r.deps
  same : SameCode d0 r.deps
  ui : UIInv EGood r.ui

/-- the hypotheses about the program that make the emulator parameter lawful: the byte memory comes from
`memory.NewBytes` of an image that does not reach the top of the address space (C20 `Tidy`), and the code view of
the start code is well formed (C03 `code_of_image_wellformed`: the widths of its expressions and of its stores) -/
structure EnvOK (bs : List BytesMem.Block) (d0 : Deps.Code) : Prop where
  bytes : ∃ image, BytesMem.newBytes image = .ok bs
  bounded : ∀ x, BytesSpec.ofBlocks bs x ≠ none → x + 1 < 2 ^ 64
  wf : CodeWF (codeViewOf d0)
  sw : CodeSW (codeViewOf d0)

theorem paramsAt_lawful {d0 d : Deps.Code} (henv : EnvOK bs d0) (hd : CInv d) (hs : SameCode d0 d) :
    Lawful (paramsAt info bs rx d).cops ∧ EmuLawful (paramsAt info bs rx d).eops EGood := by
  obtain ⟨image, hnb⟩ := henv.bytes
  exact ⟨opsAt_lawful info hd, emu_lawful hnb henv.bounded _ (codeWF_sameCode hs henv.wf) (codeSW_sameCode hs henv.sw)⟩

theorem real_step_safe {d0 : Deps.Code} (henv : EnvOK bs d0) (r : RUI) (hr : SInv d0 r) (inp : Input) :
    CallOK EGood inp (uiStep (paramsAt info bs rx r.deps) r.ui inp) ∧
    ∀ a ui' rest, uiStep (paramsAt info bs rx r.deps) r.ui inp = .cont a ui' rest →
      SInv d0 ⟨uiNextDeps r.deps r.ui inp, ui'⟩ := by
  obtain ⟨hl, he⟩ := paramsAt_lawful info rx henv hr.deps hr.same
  have hs := uiStep_safe (paramsAt info bs rx r.deps) hl he r.ui hr.ui inp
  refine ⟨hs, fun a ui' rest hc => ?_⟩
  obtain ⟨h1, h2⟩ := uiNextDeps_inv hr.deps r.ui inp
  exact ⟨h1, hr.same.trans h2, hs.inv hc⟩

theorem realRunWith_safe {d0 : Deps.Code} (henv : EnvOK bs d0) : ∀ (fuel : Nat) (r : RUI) (inp : Input), SInv d0 r → inp.length < fuel →
      realRunWith info bs rx fuel r inp = .exited ∨ (∃ a, realRunWith info bs rx fuel r inp = .eof a) ∨
        realRunWith info bs rx fuel r inp = .hang
  | 0, _, _, _, hf => by omega
  | fuel + 1, r, inp, hr, hf => by
    obtain ⟨hs, hnext⟩ := real_step_safe info rx henv r hr inp
    simp only [realRunWith]
    cases hc : uiStep (paramsAt info bs rx r.deps) r.ui inp with
    | cont a ui' rest =>
      exact realRunWith_safe henv fuel _ rest (hnext a ui' rest hc) (by have := hs.shorter hc; omega)
    | exited rest => exact Or.inl rfl
    | eof a => exact Or.inr (Or.inl ⟨a, rfl⟩)
    | hang => exact Or.inr (Or.inr rfl)
    | panic => exact absurd hc hs.no_panic

theorem sinv_init (d0 : Deps.Code) (hd : CInv d0) (ui : UI ESt)
    (h : UI.init (listingOf info d0) = some ui) : SInv d0 ⟨d0, ui⟩ :=
  ⟨hd, SameCode.refl d0, init_inv EGood _ (listingOf_wf info hd) h⟩

theorem bytes_bounded {mem : List Elf.Block} (ht : Elf.Spec.Tidy mem) {bs : List BytesMem.Block}
    (h : BytesMem.newBytes mem = .ok bs) : ∀ x, BytesSpec.ofBlocks bs x ≠ none → x + 1 < 2 ^ 64 := by
  intro x hx
  rw [(Lemmas.BytesMem.newBytes_ok h).2.2 x] at hx
  obtain ⟨b, hb, hc⟩ := (Lemmas.BytesMem.ofBlocks_ne_none_iff mem x).1 hx
  have := ht.1 b hb
  have := hc.2
  omega

theorem envOK_of_started {lim : Nat} {w : Elf.View} {code mem : List Elf.Block}
    {is : List (Parse.Ins (Riscv.Entry × Riscv.Ins))} {c : Deps.Code} {bs : List BytesMem.Block}
    (hs : Started lim w code mem is c bs) : EnvOK bs c ∧ CInv c :=
  ⟨⟨⟨mem, hs.bytes⟩, bytes_bounded hs.mem_tidy hs.bytes,
      codeWF_of_liftCode (codeViewOf_newCode hs.code_tidy hs.parsed _ c hs.built).2,
      codeSW_of_liftCode (codeViewOf_newCode hs.code_tidy hs.parsed _ c hs.built).2⟩,
    inv_of_parse hs.code_tidy hs.parsed _ c hs.built⟩

/-- what couples a mode with the real code `d`: a listing state shows `d`; the emulator mode's own listing shows `d` and its
emulator runs on the code view of `d`; a memory view has nothing to do with the code -/
def Coupled (info : Info) (d : Deps.Code) : Mode ESt → Prop
  | .dis st => st.code = listingOf info d
  | .emu e => e.view.code = listingOf info d ∧ e.emu.code = codeViewOf d
  | .mem _ _ => True

/-- the shape of the mode stack and its coupling with the real code `d` -/
structure Shaped (info : Info) (d : Deps.Code) (stack : List (NamedMode ESt)) : Prop where
  kinds : stack.map (·.mode.kind) ∈ [[.dis], [.emu, .dis], [.mem, .emu, .dis]]
  coupled : ∀ nm ∈ stack, Coupled info d nm.mode

namespace Shaped
variable {info : Info} {d : Deps.Code} {top : NamedMode ESt} {below : List (NamedMode ESt)}

theorem below_kinds (h : Shaped info d (top :: below)) :
    below.map (·.mode.kind) = match top.mode.kind with
      | .dis => []
      | .emu => [.dis]
      | .mem => [.emu, .dis] := by
  have := h.kinds
  simp only [List.map_cons, List.mem_cons, List.cons.injEq, List.not_mem_nil, or_false] at this
  rcases this with ⟨hk, hb⟩ | ⟨hk, hb⟩ | ⟨hk, hb⟩ <;> rw [hk] <;> exact hb

theorem of_dis {st : Listing.St} (h : Shaped info d (top :: below)) (hm : top.mode = .dis st) :
    below = [] ∧ st.code = listingOf info d := by
  have hb := h.below_kinds
  have hc := h.coupled top List.mem_cons_self
  rw [hm] at hb hc
  exact ⟨List.map_eq_nil_iff.1 hb, hc⟩

theorem of_emu {e : EmuMode ESt} (h : Shaped info d (top :: below)) (hm : top.mode = .emu e) :
    e.view.code = listingOf info d ∧ e.emu.code = codeViewOf d := by
  have hc := h.coupled top List.mem_cons_self
  rwa [hm] at hc

theorem set_top (h : Shaped info d (top :: below)) {m' : Mode ESt} (hk : m'.kind = top.mode.kind)
    (hc : Coupled info d m') : Shaped info d ({ top with mode := m' } :: below) :=
  ⟨by simpa only [List.map_cons, hk] using h.kinds,
    List.forall_mem_cons.2 ⟨hc, fun nm hnm => h.coupled nm (List.mem_cons_of_mem _ hnm)⟩⟩

theorem push (h : Shaped info d (top :: below)) {nm : NamedMode ESt} (hc : Coupled info d nm.mode)
    (hk : nm.mode.kind = .emu ∧ top.mode.kind = .dis ∨ nm.mode.kind = .mem ∧ top.mode.kind = .emu) :
    Shaped info d (nm :: top :: below) := by
  refine ⟨?_, List.forall_mem_cons.2 ⟨hc, h.coupled⟩⟩
  have hb := h.below_kinds
  rw [List.map_cons, List.map_cons]
  rcases hk with ⟨h1, h2⟩ | ⟨h1, h2⟩ <;> rw [h2] at hb <;> rw [h1, h2, hb]
  · exact List.mem_cons_of_mem _ List.mem_cons_self
  · exact List.mem_cons_of_mem _ (List.mem_cons_of_mem _ List.mem_cons_self)

theorem tail (h : Shaped info d (top :: below)) (hne : below ≠ []) : Shaped info d below := by
  refine ⟨?_, fun nm hnm => h.coupled nm (List.mem_cons_of_mem _ hnm)⟩
  have hb := h.below_kinds
  have hne' : below.map (·.mode.kind) ≠ [] := fun e => hne (List.map_eq_nil_iff.1 e)
  generalize top.mode.kind = k at hb
  rw [hb] at hne' ⊢
  cases k <;> simp at hne' ⊢

end Shaped

/-- a listing command of the disassembler mode, executed with the operations at `d`, is a step of the listing composition:
state and code afterwards are the two components of `realStep info ⟨d, st⟩ c` -/
theorem Shaped.listing_cmd {d : Deps.Code} (hd : CInv d) {top : NamedMode ESt} {below : List (NamedMode ESt)}
    (hs : Shaped info d (top :: below)) {st : Listing.St} (hm : top.mode = .dis st) (hinv : Lemmas.Listing.Inv st)
    {c : Listing.Cmd} (hv : ValidCmd st.lines.lines.length c) :
    ∃ s st', Listing.step (opsAt info d) st c = some (s, st') ∧
      Shaped info (nextDeps d st c) ({ top with mode := .dis st' } :: below) := by
  -- nothing is below a disassembler mode, so no other mode has to follow the code
  obtain ⟨rfl, hcode⟩ := hs.of_dis hm
  obtain ⟨s, st', h, did⟩ := step_tracks info hd st hinv hcode c hv
  refine ⟨s, st', h, ?_, fun nm hnm => ?_⟩
  · have := hs.kinds
    rwa [List.map_cons, hm] at this
  · cases List.mem_singleton.1 hnm
    exact did.code

/-- an emulator stays on its code and its listing on its view of the code -/
theorem _root_.Mltwist.Lemmas.UI.Next.coupled {d : Deps.Code} {act : Act} {args : List ArgVal} {m m' : Mode ESt}
    (hn : ∀ st, m = .dis st → disCmd rx st act args = none) (hmi : ModeInv EGood m)
    (h : Next (paramsAt info bs rx d) act args m m') (hc : Coupled info d m) : Coupled info d m' := by
  cases h with
  | dis hc' => cases (hn _ rfl).symm.trans hc'
  | @step e s view hq hview =>
    exact ⟨hview.code.trans hc.1, (hq.good (stepTree_safe_same_code e.emu hmi.good stepFuel [])).2.trans hc.2⟩
  | @regmod e key c => exact ⟨hc.1, (regStore_code bs (codeViewOf d) e.emu key c).trans hc.2⟩
  | cursor => trivial

/-- a new emulator is created on the code view of `d`, its listing on the code of the listing below it -/
theorem _root_.Mltwist.Lemmas.UI.Opens.coupled {d : Deps.Code} {m m' : Mode ESt} (h : Opens (paramsAt info bs rx d) m m')
    (hc : Coupled info d m) : Coupled info d m' := by
  cases h with
  | emulate hview => exact ⟨hview.code.trans hc, rfl⟩
  | memory => trivial

theorem _root_.Mltwist.Lemmas.UI.Eff.shaped {d : Deps.Code} {top : NamedMode ESt} {below : List (NamedMode ESt)} {act : Act}
    {args : List ArgVal} (hs : Shaped info d (top :: below)) (hmi : ModeInv EGood top.mode)
    (hn : ∀ st, top.mode = .dis st → disCmd rx st act args = none) {ui' : UI ESt}
    (e : Eff (paramsAt info bs rx d) top below act args ui') : Shaped info d ui'.stack := by
  have hc := hs.coupled top List.mem_cons_self
  cases e with
  | stay => exact hs
  | next hnx => exact hs.set_top hnx.kind (hnx.coupled info rx hn hmi hc)
  | push ho => exact hs.push (ho.coupled info rx hc) ho.kinds

theorem uiStep_shaped {d0 : Deps.Code} (henv : EnvOK bs d0) (r : RUI) (hr : SInv d0 r)
    (hs : Shaped info r.deps r.ui.stack) (inp : Input) (a : Answer) (ui' : UI ESt) (rest : Input)
    (h : uiStep (paramsAt info bs rx r.deps) r.ui inp = .cont a ui' rest) :
    Shaped info (uiNextDeps r.deps r.ui inp) ui'.stack := by
  obtain ⟨d, ⟨stack⟩⟩ := r
  have hd : CInv d := hr.deps
  have hui : UIInv EGood ⟨stack⟩ := hr.ui
  have hp := paramsAt_lawful info rx henv hr.deps hr.same
  cases uiStep_call (paramsAt info bs rx d) ⟨stack⟩ hui.stack_ne inp with
  | eof _ ho => cases h.symm.trans ho
  | skipped hi ho =>
    cases h.symm.trans ho
    cases hi
    cases stack <;> exact hs
  | @rejected top below line r0 hst hi _ hpa ho =>
    cases hst
    cases hi
    rw [uiNextDeps_err d top below line r0 hpa]
    cases r0 <;> cases h.symm.trans ho
    exact hs
  | @acted top below line r0 cmd args hst hi _ hpa ho =>
    cases hst
    cases hi
    replace ho := h.symm.trans ho
    rw [uiNextDeps_eq d top below line r0 cmd args hpa]
    -- no listing command: the code stays and the effect keeps the shape; a listing command: a step of the listing composition
    by_cases hn : ∀ st, top.mode = .dis st → disCmd rx st cmd.act args = none
    · rw [actDeps_of_not_move rx d fun st _ _ hm => by rw [hn st hm]; nofun]
      have hans := afterAct_spec (parsed_act_does (paramsAt info bs rx d) hp.1 hp.2 hui hpa r0)
      rcases hans.eff ho.symm with e | ⟨_, hb, rfl⟩
      · exact e.shaped info rx hs hui.top.mode hn
      · -- `quit` in a mode above the first
        exact hs.tail hb
    · simp only [not_forall] at hn
      obtain ⟨st, hm, hc⟩ := hn
      obtain ⟨c, hc⟩ := Option.ne_none_iff_exists'.1 hc
      obtain ⟨s, st', hstep, hsh⟩ := Shaped.listing_cmd info hd hs hm (top_inv hui hm) (disCmd_valid rx hc)
      rw [runAct_dis _ below hm hc, show (paramsAt info bs rx d).cops = opsAt info d from rfl, hstep] at ho
      rw [actDeps_of_disCmd rx d hm hc, afterAct_disAnswer ho.symm]
      exact hsh

theorem shaped_init (d0 : Deps.Code) (ui : UI ESt) (h : UI.init (listingOf info d0) = some ui) :
    Shaped info d0 ui.stack := by
  cases (init_eq _).symm.trans h
  exact ⟨List.mem_cons_self, fun nm hnm => by cases List.mem_singleton.1 hnm; rfl⟩

/-- the states a session of the instantiated UI runs through -/
inductive RReach (info : Info) (bs : List BytesMem.Block) (rx : Str → Option (String → Bool)) (d0 : Deps.Code) :
    RUI → Prop where
  | init {ui : UI ESt} : UI.init (listingOf info d0) = some ui → RReach info bs rx d0 ⟨d0, ui⟩
  | step {r : RUI} {inp rest : Input} {a : Answer} {ui' : UI ESt} : RReach info bs rx d0 r →
      uiStep (paramsAt info bs rx r.deps) r.ui inp = .cont a ui' rest →
      RReach info bs rx d0 ⟨uiNextDeps r.deps r.ui inp, ui'⟩

theorem reach_inv {d0 : Deps.Code} (henv : EnvOK bs d0) (hd : CInv d0) (r : RUI) (h : RReach info bs rx d0 r) :
    SInv d0 r ∧ Shaped info r.deps r.ui.stack := by
  induction h with
  | init hi => exact ⟨sinv_init info d0 hd _ hi, shaped_init info d0 _ hi⟩
  | @step r inp rest a ui' _ hstep ih =>
    obtain ⟨hsi, hsh⟩ := ih
    exact ⟨(real_step_safe info rx henv r hsi inp).2 a ui' rest hstep,
      uiStep_shaped info rx henv r hsi hsh inp a ui' rest hstep⟩

/-- the composition of the disassembler mode alone with the real code (`RSt`, invariant `RInv`) and the session (`RUI`)
meet: what is proved of `realStep` from `RInv` holds of the disassembler mode inside every session, whose listing commands
are `realStep` on this state (`Shaped.listing_cmd`) -/
theorem reach_rinv {d0 : Deps.Code} (henv : EnvOK bs d0) (hd : CInv d0) (r : RUI) (h : RReach info bs rx d0 r)
    {top : NamedMode ESt} {below : List (NamedMode ESt)} {st : Listing.St} (hst : r.ui.stack = top :: below)
    (hm : top.mode = .dis st) : RInv info ⟨r.deps, st⟩ := by
  obtain ⟨hsi, hsh⟩ := reach_inv info rx henv hd r h
  exact ⟨hsi.deps, top_inv (uiinv_of_stack hsi.ui hst) hm, ((hst ▸ hsh).of_dis hm).2⟩

end Mltwist.Lemmas.Compose
