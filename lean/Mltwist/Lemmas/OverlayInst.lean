import Mltwist.Lemmas.Overlay
import Mltwist.Lemmas.SparseMissing
import Mltwist.Lemmas.BytesMemOps
/-
C16, the memories of the package: `Sparse` (C14) and `Bytes` (C15) satisfy the memory laws; hence every
stack of memories does; `Store` on a stack; `MemMap`, with the two laws of a Go map kept as an
association list.
-/
namespace Mltwist.Lemmas.State
open Mltwist.Overlay

/- The two laws of a Go map kept as an association list.  They carry the names of the other facts about the
maps of a `State` (`Lemmas.State`, continued in `Lemmas/State.lean`) and stand here because `MemMap` needs
them first. -/

theorem assocGet_set_same {α : Type} (k : String) (v : α) :
    ∀ m : List (String × α), assocGet k (assocSet k v m) = some v
  | [] => by simp [assocSet, assocGet]
  | (k', v') :: rest => by
    unfold assocSet
    by_cases h : k' = k
    · rw [if_pos h]; simp [assocGet]
    · rw [if_neg h]; simp only [assocGet, if_neg h]; exact assocGet_set_same k v rest

theorem assocGet_set_other {α : Type} (k k2 : String) (v : α) (hne : k2 ≠ k) :
    ∀ m : List (String × α), assocGet k2 (assocSet k v m) = assocGet k2 m
  | [] => by simp [assocSet, assocGet, Ne.symm hne]
  | (k', v') :: rest => by
    unfold assocSet
    by_cases h : k' = k
    · rw [if_pos h]
      have h1 : ¬ k = k2 := fun e => hne e.symm
      have h2 : ¬ k' = k2 := fun e => hne (e.symm.trans h)
      simp [assocGet, h1, h2]
    · rw [if_neg h]
      by_cases h2 : k' = k2
      · simp [assocGet, h2]
      · simp only [assocGet, if_neg h2]; exact assocGet_set_other k k2 v hne rest

end Mltwist.Lemmas.State

namespace Mltwist.Lemmas.Overlay
open Mltwist Mltwist.Overlay Mltwist.Interval Mltwist.Spec.Overlay
open Mltwist.Spec.Sparse (sumBytes SpecMem byteAt)
open Mltwist.Lemmas.Sparse (sumBytes_congr sumBytes_add)
open Mltwist.Lemmas.RiscvLift (WOK)

theorem ofSparse_none (s : SpecMem) (x : Nat) : ofSparse s x = none ↔ s x = none := by
  unfold ofSparse
  cases s x <;> simp

theorem byteOf_ofSparse (ρ : Env) (s : SpecMem) (x : Nat) : byteOf ρ (ofSparse s x) = byteAt ρ (s x) := by
  unfold ofSparse
  cases s x <;> rfl

theorem bytewise_ofSparse (s : SpecMem) : Bytewise (ofSparse s) := by
  intro x v hv ρ
  unfold ofSparse at hv
  cases hs : s x with
  | none => rw [hs] at hv; cases hv
  | some c =>
    rw [hs] at hv
    simp only [Option.some.injEq] at hv
    subst hv
    exact Nat.mod_lt _ (by decide)

theorem liftS_ok {α : Type} {x : Except Sparse.Panic α} {r : α} : liftS x = .ok r ↔ x = .ok r := by
  cases x <;> simp [liftS]

theorem sparse_laws (t : Sparse.Tree) (hinv : Sparse.Inv t) :
    MemLaws (sparseView t) (ofSparse (Sparse.abs t)) where
  bytewise := bytewise_ofSparse _
  load := by
    intro a w hd
    obtain ⟨r, h1, h2⟩ := Lemmas.Sparse.load_ok t hinv a w hd
    exact ⟨r, liftS_ok.2 h1, (h2.map (fun _ _ => ofSparse_none _ _) fun ρ _ _ => byteOf_ofSparse ρ _ _).law⟩
  missing := by
    intro a w hd
    obtain ⟨l, h1, h2⟩ := Lemmas.Sparse.missing_ok t hinv a w hd
    refine ⟨l, liftS_ok.2 h1, h2.normal, fun x => ?_⟩
    rw [h2.mem x, ofSparse_none]
  blocks := by
    obtain ⟨l, h1, h2⟩ := Lemmas.Sparse.blocks_ok t hinv
    refine ⟨l, liftS_ok.2 h1, h2.normal, fun x => ?_⟩
    rw [h2.mem x, Ne, Ne, ofSparse_none]

theorem ofSparse_congr {s s' : SpecMem} (h : Sparse.SpecEq s s') : ofSparse s = ofSparse s' := by
  funext x
  have hn := Lemmas.Sparse.cellEq_none_iff (h x)
  have hb := Lemmas.Sparse.cellEq_byteAt (h x)
  unfold ofSparse
  cases hs : s x with
  | none => rw [hn.1 hs]
  | some c =>
    cases hs' : s' x with
    | none => exact absurd (hn.2 hs') (by rw [hs]; nofun)
    | some d =>
      rw [hs, hs'] at hb
      exact congrArg some (funext hb)

theorem ofSparse_store (s : SpecMem) (a : Nat) (e : Expr) (w : Nat) :
    ofSparse (s.store a e w) = (ofSparse s).store a e w := by
  funext x
  unfold ofSparse Spec.Sparse.SpecMem.store AbsMem.store
  by_cases hx : a ≤ x ∧ x < a + w
  · simp only [if_pos hx]; rfl
  · simp only [if_neg hx]

theorem ofBytes_none (m : BytesSpec.ByteMap) (x : Nat) : ofBytes m x = none ↔ m x = none := by
  unfold ofBytes
  cases m x <;> simp

theorem byteOf_ofBytes (ρ : Env) (m : BytesSpec.ByteMap) (x : Nat) :
    byteOf ρ (ofBytes m x) = match m x with | some b => b.toNat | none => 0 := by
  unfold ofBytes
  cases m x <;> rfl

theorem bytewise_ofBytes (m : BytesSpec.ByteMap) : Bytewise (ofBytes m) := by
  intro x v hv ρ
  unfold ofBytes at hv
  cases hs : m x with
  | none => rw [hs] at hv; cases hv
  | some c =>
    rw [hs] at hv
    simp only [Option.some.injEq] at hv
    subst hv
    exact c.toNat_lt

theorem leToNat_eq_sum : ∀ v : List UInt8,
    leToNat v = sumBytes (fun i => match v[i]? with | some b => b.toNat | none => 0) v.length
  | [] => rfl
  | b :: bs => by
    rw [List.length_cons, Nat.add_comm, sumBytes_add _ 1 bs.length, leToNat, leToNat_eq_sum bs]
    simp [sumBytes]
    congr 1
    apply sumBytes_congr
    intro i _
    rw [Nat.add_comm 1 i]
    simp

theorem bytes_laws (bs : List BytesMem.Block) (hinv : BytesSpec.Inv bs) :
    MemLaws (bytesView bs) (ofBytes (BytesSpec.ofBlocks bs)) where
  bytewise := bytewise_ofBytes _
  load := by
    intro a w hd
    obtain ⟨r, h1, h2, h3⟩ := Lemmas.BytesMem.load_spec bs hinv a w hd.1
    refine ⟨r.map Expr.const, by simp [bytesView, bytesLoad, h1], ?_, ?_⟩
    · have : (r.map Expr.const ≠ none) ↔ r.isSome = true := by cases r <;> simp
      rw [this, h2]
      exact forall_congr' fun i => imp_congr_right fun _ => not_congr (ofBytes_none _ _).symm
    · intro e he
      cases r with
      | none => simp at he
      | some v =>
        simp only [Option.map_some, Option.some.injEq] at he
        subst he
        obtain ⟨q1, q2⟩ := h3 v rfl
        refine ⟨q1, fun ρ => ?_⟩
        show leToNat v = _
        rw [leToNat_eq_sum, q1]
        exact sumBytes_congr w fun i hi => by rw [q2 i hi, byteOf_ofBytes]
  missing := by
    intro a w hd
    obtain ⟨h2, h3⟩ := Lemmas.Interval.cuts_toNat.1 (Lemmas.BytesMem.missing_spec bs hinv a w hd.1)
    refine ⟨BytesMem.missing bs a w, rfl, h2, fun x => ?_⟩
    rw [h3 x, ofBytes_none]
  blocks := by
    obtain ⟨h2, h3⟩ := Lemmas.BytesMem.blocks_spec bs hinv
    refine ⟨BytesMem.blocks bs, rfl, h2, fun x => ?_⟩
    rw [h3 x, Ne, Ne, ofBytes_none]

theorem sparse_loads {t : Sparse.Tree} (hinv : Sparse.Inv t)
    (hex : ∀ kv ∈ t, Lemmas.Sparse.ClosedWf kv.val.ex) :
    Loads Lemmas.Sparse.ClosedWf (sparseView t) :=
  fun _ _ _ hd h => Lemmas.Sparse.load_closedWf t hinv hex hd (liftS_ok.1 h)

theorem bytes_loads {P : Expr → Prop} (hP : ∀ c : List UInt8, WOK c.length → P (.const c))
    (bs : List BytesMem.Block) (hinv : BytesSpec.Inv bs) : Loads P (bytesView bs) := by
  intro a w e hd h
  obtain ⟨r, h1, _, h3⟩ := Lemmas.BytesMem.load_spec bs hinv a w hd.1
  change bytesLoad bs a w = .ok (some e) at h
  rw [bytesLoad, h1] at h
  cases r with
  | none => cases h
  | some v =>
    cases h
    exact hP v ((h3 v rfl).1.symm ▸ hd.wok)

theorem ofBytes_write (m : BytesSpec.ByteMap) (a w : Nat) (c : List UInt8) :
    ofBytes (BytesSpec.write m a (BytesSpec.storeBytes c w)) = (ofBytes m).store a (.const c) w := by
  funext x
  unfold ofBytes BytesSpec.write AbsMem.store BytesSpec.storeBytes
  rw [Lemmas.Bytes.natToLE_length]
  by_cases hx : a ≤ x ∧ x < a + w
  · simp only [if_pos hx]
    rw [Lemmas.Bytes.natToLE_getElem? w _ (x - a) (by omega)]
    simp only [Option.some.injEq]
    funext ρ
    have h1 : (UInt8.ofNat (leToNat c / 256 ^ (x - a) % 256)).toNat = leToNat c / 256 ^ (x - a) % 256 := by
      rw [UInt8.toNat_ofNat']
      exact Nat.mod_eq_of_lt (Nat.mod_lt _ (by decide))
    rw [h1]
    exact (Lemmas.Sparse.byteOf_trunc (w := w) (i := x - a) (by omega) (leToNat c)).symm
  · simp only [if_neg hx]

theorem mem_laws : ∀ m : Mem, m.Inv → MemLaws m.view m.abs
  | .bytes bs, h => bytes_laws bs h
  | .sparse t, h => sparse_laws t h
  | .overlay b o, h => overlay_laws (mem_laws b h.1) (mem_laws o h.2)

theorem store_bytes_ok {bs : List BytesMem.Block} {a w : Nat} {e : Expr} {m' : Mem}
    (h : (Mem.bytes bs).store a e w = .ok m') : ∃ bs', BytesMem.storeExpr bs a w e = .ok bs' ∧ m' = .bytes bs' := by
  unfold Mem.store at h
  cases hs : BytesMem.storeExpr bs a w e with
  | ok bs' => rw [hs] at h; cases h; exact ⟨bs', rfl, rfl⟩
  | error f => rw [hs] at h; cases h

theorem store_sparse_ok {t : Sparse.Tree} {a w : Nat} {e : Expr} {m' : Mem}
    (h : (Mem.sparse t).store a e w = .ok m') : ∃ t', Sparse.store t a e w = .ok t' ∧ m' = .sparse t' := by
  unfold Mem.store at h
  cases hs : Sparse.store t a e w with
  | ok t' => rw [hs] at h; cases h; exact ⟨t', rfl, rfl⟩
  | error f => rw [hs] at h; cases h

theorem store_overlay_ok {b o : Mem} {a w : Nat} {e : Expr} {m' : Mem}
    (h : (Mem.overlay b o).store a e w = .ok m') : ∃ o', o.store a e w = .ok o' ∧ m' = .overlay b o' := by
  unfold Mem.store at h
  cases ho : o.store a e w with
  | ok o' => rw [ho] at h; cases h; exact ⟨o', rfl, rfl⟩
  | error f => rw [ho] at h; cases h

theorem storable_of_store : ∀ {m m' : Mem} {a : Nat} {e : Expr} {w : Nat}, m.store a e w = .ok m' →
    ∀ e', m'.Storable e' ↔ m.Storable e'
  | .bytes _, _, _, _, _, h, _ => by
    obtain ⟨_, _, rfl⟩ := store_bytes_ok h
    exact Iff.rfl
  | .sparse _, _, _, _, _, h, _ => by
    obtain ⟨_, _, rfl⟩ := store_sparse_ok h
    exact Iff.rfl
  | .overlay _ _, _, _, _, _, h, e' => by
    obtain ⟨_, h1, rfl⟩ := store_overlay_ok h
    exact storable_of_store h1 e'

theorem mem_store : ∀ (m : Mem) (a : Nat) (e : Expr) (w : Nat), m.Inv → m.Storable e → InDom a w →
    ∃ m', m.store a e w = .ok m' ∧ m'.Inv ∧ m'.abs = m.abs.store a e w ∧ m'.base = m.base
  | .bytes bs, a, e, w, hinv, hst, _ => by
    cases e with
    | const c =>
      obtain ⟨bs', h1, h2, h3⟩ := Lemmas.BytesMem.storeConst_spec bs (Lemmas.BytesMem.inv_pre hinv) a w c
      refine ⟨.bytes bs', by simp [Mem.store, BytesMem.storeExpr, h1], h2, ?_, rfl⟩
      show ofBytes (BytesSpec.ofBlocks bs') = _
      rw [h3]
      exact ofBytes_write _ a w c
    | _ => simp [Mem.Storable, Expr.isConst] at hst
  | .sparse t, a, e, w, hinv, _, hd => by
    obtain ⟨t', h1, h2, h3⟩ := Lemmas.Sparse.store_ok t hinv a e w hd
    refine ⟨.sparse t', by simp [Mem.store, h1], h2, ?_, rfl⟩
    show ofSparse (Sparse.abs t') = _
    rw [ofSparse_congr h3]
    exact ofSparse_store _ a e w
  | .overlay b o, a, e, w, hinv, hst, hd => by
    obtain ⟨o', h1, h2, h3, _⟩ := mem_store o a e w hinv.2 hst hd
    refine ⟨.overlay b o', by simp [Mem.store, h1], ⟨hinv.1, h2⟩, ?_, rfl⟩
    show layer o'.abs b.abs = _
    rw [h3]
    exact layer_store _ _ a e w

theorem history_ok : ∀ (hist : List Sparse.StoreReq) (m : Mem), m.Inv →
    (∀ r ∈ hist, m.Storable r.ex) → (∀ r ∈ hist, InDom r.addr r.w) →
    ∃ m', runStores m hist = .ok m' ∧ m'.Inv ∧ m'.abs = absStores m.abs hist
  | [], m, hinv, _, _ => ⟨m, rfl, hinv, rfl⟩
  | r :: rs, m, hinv, hst, hd => by
    obtain ⟨m1, h1, h2, h3, -⟩ :=
      mem_store m r.addr r.ex r.w hinv (hst r List.mem_cons_self) (hd r List.mem_cons_self)
    obtain ⟨m', g1, g2, g3⟩ := history_ok rs m1 h2
      (fun x hx => (storable_of_store h1 x.ex).2 (hst x (List.mem_cons_of_mem _ hx)))
      (fun x hx => hd x (List.mem_cons_of_mem _ hx))
    refine ⟨m', ?_, g2, ?_⟩
    · simp only [runStores, h1]
      exact g1
    · rw [g3, h3]
      rfl

theorem runStores_overlay (b : Mem) : ∀ (hist : List Sparse.StoreReq) (o : Mem),
    runStores (.overlay b o) hist =
      match runStores o hist with
      | .ok o' => .ok (.overlay b o')
      | .error f => .error f
  | [], o => rfl
  | r :: rs, o => by
    simp only [runStores, Mem.store]
    cases ho : o.store r.addr r.ex r.w with
    | ok o' => simp only; exact runStores_overlay b rs o'
    | error f => rfl

theorem memmap_load_of_get {m : MemMap} {key : String} {mem : Mem} (h : assocGet key m = some mem) (a w : Nat) :
    m.load key a w = mem.load a w := by
  unfold MemMap.load
  rw [h]

theorem memmap_load_of_none {m : MemMap} {key : String} (h : assocGet key m = none) (a w : Nat) :
    m.load key a w = .ok none := by
  unfold MemMap.load
  rw [h]

theorem memmap_missing_of_none {m : MemMap} {key : String} (h : assocGet key m = none) {a w : Nat}
    (hd : a + w < 2 ^ 64) : m.missing key a w = .ok [((a : Int), ((a + w : Nat) : Int))] := by
  unfold MemMap.missing
  rw [h, newIntv_range hd]
  rfl

theorem memmap_blocks_of_none {m : MemMap} {key : String} (h : assocGet key m = none) : m.blocks key = .ok [] := by
  unfold MemMap.blocks
  rw [h, Lemmas.Interval.newMap_nil]

theorem memmap_view_of_get {m : MemMap} {key : String} {mem : Mem} (h : assocGet key m = some mem) :
    m.view key = mem.view := by
  unfold MemMap.view MemMap.load MemMap.missing MemMap.blocks
  simp only [h]
  rfl

theorem memmap_abs_of_get {m : MemMap} {key : String} {mem : Mem} (h : assocGet key m = some mem) :
    m.abs key = mem.abs := by
  unfold MemMap.abs
  rw [h]

theorem memmap_abs_of_none {m : MemMap} {key : String} (h : assocGet key m = none) : m.abs key = AbsMem.empty := by
  unfold MemMap.abs
  rw [h]

theorem memmap_abs_congr {m m' : MemMap} {key : String} (h : assocGet key m' = assocGet key m) :
    m'.abs key = m.abs key := by
  unfold MemMap.abs
  rw [h]

theorem memmap_storable_of_get {m : MemMap} {key : String} {mem : Mem} (h : assocGet key m = some mem) (e : Expr) :
    m.Storable key e ↔ mem.Storable e := by
  unfold MemMap.Storable
  rw [h]

theorem memmap_storable_of_none {m : MemMap} {key : String} (h : assocGet key m = none) (e : Expr) :
    m.Storable key e := by
  unfold MemMap.Storable
  rw [h]
  trivial

theorem memmap_laws (m : MemMap) (hinv : m.Inv) (key : String) : MemLaws (m.view key) (m.abs key) := by
  cases hk : assocGet key m with
  | some mem =>
    rw [memmap_view_of_get hk, memmap_abs_of_get hk]
    exact mem_laws mem (hinv key mem hk)
  | none =>
    rw [memmap_abs_of_none hk]
    refine ⟨(fun _ _ h => by cases h), fun a w hd => ?_, fun a w hd => ?_, ?_⟩
    · refine ⟨none, memmap_load_of_none hk a w, ?_, fun e he => by cases he⟩
      simp only [ne_eq, not_true_eq_false, false_iff]
      intro h
      exact h 0 hd.1 rfl
    · have h : Exact a w (fun x => AbsMem.empty x = none) [((a : Int), ((a + w : Nat) : Int))] :=
        Lemmas.Interval.cuts_toNat.1 (Lemmas.Interval.cuts_single (Int.ofNat_lt.2 (Nat.lt_add_of_pos_right hd.1))
          fun _ _ _ => rfl)
      exact ⟨_, memmap_missing_of_none hk hd.2.2, h.normal, h.mem⟩
    · exact ⟨[], memmap_blocks_of_none hk, trivial,
        fun x => ⟨fun h => absurd h (Lemmas.Interval.mem_nil x), fun h => absurd rfl h.2⟩⟩

theorem memmap_store_eq (m : MemMap) (key : String) (a : Nat) (e : Expr) (w : Nat) :
    m.store key a e w =
      match ((assocGet key m).getD (Mem.sparse [])).store a e w with
      | .ok mem' => .ok (assocSet key mem' m)
      | .error f => .error f := by
  unfold MemMap.store
  cases assocGet key m <;> rfl

theorem memmap_store (m : MemMap) (hinv : m.Inv) (key : String) (a : Nat) (e : Expr) (w : Nat)
    (hst : m.Storable key e) (hd : InDom a w) :
    ∃ m', m.store key a e w = .ok m' ∧ m'.Inv ∧ m'.abs key = (m.abs key).store a e w ∧
      ∀ key', key' ≠ key → assocGet key' m' = assocGet key' m := by
  rw [memmap_store_eq]
  have hmem : ∃ mem, (assocGet key m).getD (Mem.sparse []) = mem ∧ mem.Inv ∧ mem.Storable e ∧ mem.abs = m.abs key := by
    cases hk : assocGet key m with
    | none =>
      refine ⟨_, rfl, ⟨List.Pairwise.nil, fun _ h => nomatch h⟩, trivial, ?_⟩
      rw [memmap_abs_of_none hk]
      funext x; rfl
    | some mem =>
      exact ⟨mem, rfl, hinv key mem hk, (memmap_storable_of_get hk e).1 hst, (memmap_abs_of_get hk).symm⟩
  obtain ⟨mem, hm0, hm1, hm2, hm3⟩ := hmem
  rw [hm0]
  obtain ⟨mem', h1, h2, h3, _⟩ := mem_store mem a e w hm1 hm2 hd
  rw [h1]
  refine ⟨_, rfl, ?_, ?_, fun key' hne => Lemmas.State.assocGet_set_other key key' mem' hne m⟩
  · intro k2 mem2 hk2
    by_cases hkk : k2 = key
    · subst hkk
      rw [Lemmas.State.assocGet_set_same] at hk2
      cases hk2
      exact h2
    · rw [Lemmas.State.assocGet_set_other key k2 mem' hkk m] at hk2
      exact hinv k2 mem2 hk2
  · rw [memmap_abs_of_get (Lemmas.State.assocGet_set_same key mem' m), h3, hm3]

/-- no side case: an unknown key is storable and gets a `Sparse` -/
theorem memmap_storable_store {m m' : MemMap} {key : String} {a : Nat} {e : Expr} {w : Nat}
    (h : m.store key a e w = .ok m') (key' : String) (e' : Expr) : m'.Storable key' e' ↔ m.Storable key' e' := by
  rw [memmap_store_eq] at h
  cases hst : ((assocGet key m).getD (Mem.sparse [])).store a e w with
  | error f => rw [hst] at h; cases h
  | ok mem' =>
    rw [hst] at h
    cases h
    unfold MemMap.Storable
    by_cases hk : key' = key
    · subst hk
      rw [Lemmas.State.assocGet_set_same]
      refine (storable_of_store hst e').trans ?_
      cases assocGet key' m <;> exact Iff.rfl
    · rw [Lemmas.State.assocGet_set_other key key' mem' hk m]

end Mltwist.Lemmas.Overlay
