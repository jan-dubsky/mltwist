import Mltwist.Lemmas.DepsScan
/-
What the exact edge set of the finders (`Dep`, `Lemmas/DepsScan.lean`: the edges of `findAllDeps`) means for
the specification's `Conflict`, on a block in its original order (ids are positions).

No spurious edge (C06): every direct dependency `Dep seq x y` is a conflict (`Dep.conflict`: each clause of
the finders is a clause of `Conflict`), and `x` stands before `y` (`Span.pos`).  Hence `edges_forward`,
`edge_conflict`.

Edge soundness (C05 (a)), the converse up to paths: two instructions that conflict are connected by a path of
direct dependencies.  The chain argument (`chain`): writers of a key, special instructions and
memory-ordering instructions form chains of edges, so every clash is joined by a path; the clauses of
`Conflict` one by one (`conflict_path`).
-/
namespace Mltwist.Lemmas.Deps
open Mltwist Mltwist.Deps Mltwist.Deps.Spec

theorem id_of_getElem? {seq : List Ins} (hid : IdsArePositions seq) {k : Nat} {x : Ins}
    (h : seq[k]? = some x) : x.id = k := by
  obtain ⟨hk, rfl⟩ := List.getElem?_eq_some_iff.1 h
  exact hid k hk

theorem getElem?_span {α : Type} (A B C : List α) (x y : α) :
    (A ++ x :: (B ++ y :: C))[A.length + (B.length + 1)]? = some y := by
  rw [List.getElem?_append_right (Nat.le_add_right _ _), Nat.add_sub_cancel_left, List.getElem?_cons_succ]
  simp

namespace Span

theorem pos {seq : List Ins} {PB : Ins → Prop} {x y : Ins} (hid : IdsArePositions seq)
    (h : Span seq PB x y) : x.id < y.id ∧ seq[x.id]? = some x ∧ seq[y.id]? = some y := by
  obtain ⟨A, B, C, hs, -⟩ := h
  have hx : seq[A.length]? = some x := by rw [hs]; simp
  have hy : seq[A.length + (B.length + 1)]? = some y := hs ▸ getElem?_span A B C x y
  rw [id_of_getElem? hid hx, id_of_getElem? hid hy]
  exact ⟨Nat.lt_add_of_pos_right (Nat.succ_pos _), hx, hy⟩

end Span

namespace Dep
variable {seq : List Ins} {x y : Ins} {k : Finder}

theorem span (h : Dep seq x y k) : Span seq (fun _ => True) x y := by
  cases h with
  | raw _ h | war _ h | waw _ h | spFwd _ h | spBack _ h => exact h.mono fun _ _ => trivial
  | pin h => exact h
  | term h => obtain ⟨A, B, h⟩ := h; exact ⟨A, B, [], h, fun _ _ => trivial⟩

theorem conflict (hid : IdsArePositions seq) (h : Dep seq x y k) : MConflict seq.length x y := by
  cases h with
  | raw s _ hx hy => exact .key s (.raw hx hy)
  | war s _ hy hx => exact .key s (.war hx.1 hy)
  | waw s _ hy hx => exact .key s (.waw hx hy)
  | pin _ hp => exact .writesIp hp
  | term h hj =>
    obtain ⟨A, B, rfl⟩ := h
    have hy := getElem?_span A B [] x y
    refine .term ((term_toS _ _).2 ⟨?_, hj⟩)
    rw [id_of_getElem? hid hy]
    simp
    omega
  | spFwd s _ hx hy =>
    cases s with
    | true => exact .special (.inl hx)
    | false => exact .memOrder (.inl ⟨hx.1, .inl hy⟩)
  | spBack s _ hy hx =>
    cases s with
    | true => exact .special (.inr hy)
    | false => exact .memOrder (hx.elim (fun h => .inr ⟨hy.1, h⟩) fun h => .inl ⟨h, .inr hy.1⟩)

end Dep

theorem Path.trans {E : Edges} {a b c : Nat} (h1 : Path E a b) (h2 : Path E b c) : Path E a c := by
  induction h1 with
  | edge h => exact Path.cons h h2
  | cons h _ ih => exact Path.cons h (ih h2)

theorem path_first {E : Edges} {a b : Nat} (h : Path E a b) :
    ∃ w, (a, w) ∈ E ∧ (w = b ∨ Path E w b) := by
  cases h with
  | edge h => exact ⟨b, h, Or.inl rfl⟩
  | cons h1 h2 => exact ⟨_, h1, Or.inr h2⟩

theorem path_last {E : Edges} {a b : Nat} (h : Path E a b) :
    ∃ w, (w, b) ∈ E ∧ (w = a ∨ Path E a w) := by
  induction h with
  | edge h => exact ⟨_, h, Or.inl rfl⟩
  | cons h1 _ ih =>
    obtain ⟨w, hw, hw'⟩ := ih
    refine ⟨w, hw, Or.inr ?_⟩
    rcases hw' with rfl | hw'
    · exact Path.edge h1
    · exact Path.cons h1 hw'

namespace Paths

theorem Path.mono {E E' : Edges} {a b : Nat} (hE : ∀ ed ∈ E, ed ∈ E') (h : Path E a b) :
    Path E' a b := by
  induction h with
  | edge h => exact Path.edge (hE _ h)
  | cons h _ ih => exact Path.cons (hE _ h) ih

end Paths

theorem getElem?_split {α : Type} {l : List α} {i : Nat} {x : α} (h : l[i]? = some x) :
    ∃ A C, l = A ++ x :: C ∧ A.length = i := by
  induction l generalizing i with
  | nil => simp at h
  | cons a l ih =>
    cases i with
    | zero =>
      rw [List.getElem?_cons_zero] at h
      cases h
      exact ⟨[], l, rfl, rfl⟩
    | succ i =>
      rw [List.getElem?_cons_succ] at h
      obtain ⟨A, C, rfl, rfl⟩ := ih h
      exact ⟨a :: A, C, rfl, rfl⟩

theorem span_of_pos {seq : List Ins} {PB : Ins → Prop} {i j : Nat} {x y : Ins} (hij : i < j)
    (hx : seq[i]? = some x) (hy : seq[j]? = some y)
    (hB : ∀ k b, i < k → k < j → seq[k]? = some b → PB b) : Span seq PB x y := by
  obtain ⟨A, T, rfl, rfl⟩ := getElem?_split hx
  obtain ⟨d, rfl⟩ := Nat.exists_eq_add_of_lt hij
  replace hy : (A ++ x :: T)[A.length + (d + 1)]? = some y := hy
  rw [List.getElem?_append_right (Nat.le_add_right _ _), Nat.add_sub_cancel_left,
    List.getElem?_cons_succ] at hy
  obtain ⟨B, C, rfl, rfl⟩ := getElem?_split hy
  refine ⟨A, B, C, rfl, fun b hb => ?_⟩
  obtain ⟨q, hq, rfl⟩ := List.getElem_of_mem hb
  refine hB (A.length + (q + 1)) _ (Nat.lt_add_of_pos_right (Nat.succ_pos q))
    (Nat.add_lt_add_left (Nat.succ_lt_succ hq) _) ?_
  rw [List.getElem?_append_right (Nat.le_add_right _ _), Nat.add_sub_cancel_left,
    List.getElem?_cons_succ, List.getElem?_append_left hq, List.getElem?_eq_getElem hq]

/-- there is an instruction at position `k`, and it satisfies `P` -/
def At (seq : List Ins) (P : Ins → Prop) (k : Nat) : Prop := ∃ x, seq[k]? = some x ∧ P x

/-- The chain argument.  `P i j`: the positions `i < j` clash; `D` marks positions.  If every marked
position between two clashing ones clashes with both, and `R` relates the two ends of every clash
over a gap without marked positions, then the transitive `R` relates the two ends of every clash. -/
theorem chain {R P : Nat → Nat → Prop} {D : Nat → Prop} (Rt : ∀ {a b c}, R a b → R b c → R a c)
    (hl : ∀ {i k j}, i < k → k < j → D k → P i j → P i k)
    (hr : ∀ {i k j}, i < k → k < j → D k → P i j → P k j)
    (direct : ∀ {i j}, i < j → P i j → (∀ k, i < k → k < j → ¬ D k) → R i j) :
    ∀ {i j}, i < j → P i j → R i j := by
  have : ∀ d i j, j ≤ i + d → i < j → P i j → R i j := by
    intro d
    induction d with
    | zero => intro i j h h2; exact absurd h2 (Nat.not_lt.2 h)
    | succ d ih =>
      intro i j hd hij hP
      by_cases hex : ∃ k, i < k ∧ k < j ∧ D k
      · obtain ⟨k, h1, h2, hDk⟩ := hex
        exact Rt (ih i k (Nat.le_of_lt_succ (Nat.lt_of_lt_of_le h2 hd)) h1 (hl h1 h2 hDk hP))
          (ih k j (by omega) h2 (hr h1 h2 hDk hP))
      · exact direct hij hP (fun k h1 h2 hk => hex ⟨k, h1, h2, hk⟩)
  intro i j hij
  exact this j i j (Nat.le_add_left j i) hij

/-- there are instructions at positions `i` and `j`, and they satisfy `C` -/
def Clash (seq : List Ins) (C : Ins → Ins → Prop) (i j : Nat) : Prop :=
  ∃ x y, seq[i]? = some x ∧ seq[j]? = some y ∧ C x y

section
variable {seq : List Ins} (hid : IdsArePositions seq) {E : Edges} (h : findAllDeps seq = some E)
  {i j : Nat} (hij : i < j)
include hid h

theorem dep_path {i j : Nat} {x y : Ins} (hx : seq[i]? = some x) (hy : seq[j]? = some y)
    (hd : ∃ k, Dep seq x y k) : Path E i j := by
  rw [← id_of_getElem? hid hx, ← id_of_getElem? hid hy]
  obtain ⟨k, hd⟩ := hd
  exact .edge ((mem_findAllDeps h _).2 ⟨k, x, y, hd, rfl⟩)

include hij

/-- The writers of a key are chained by output edges; a reader hangs on the last writer before it by
a true edge, and on the first writer after it by an anti edge. -/
theorem key_paths (s : Key) (hc : Clash seq (KeyClash s) i j) : Path E i j := by
  refine chain (R := Path E) (D := At seq (wrOf s)) Path.trans ?_ ?_ ?_ hij hc
  · rintro i k j _ _ ⟨z, hz, hw⟩ ⟨x, y, hx, _, hc⟩
    refine ⟨x, z, hx, hz, ?_⟩
    rcases hc with ⟨h, _⟩ | ⟨h, _⟩ | ⟨h, _⟩
    · exact .waw h hw
    · exact .waw h hw
    · exact .war h hw
  · rintro i k j _ _ ⟨z, hz, hw⟩ ⟨x, y, _, hy, hc⟩
    refine ⟨z, y, hz, hy, ?_⟩
    rcases hc with ⟨_, h⟩ | ⟨_, h⟩ | ⟨_, h⟩
    · exact .raw hw h
    · exact .waw hw h
    · exact .waw hw h
  · rintro i j hij ⟨x, y, hx, hy, hc⟩ hgap
    have hsp : Span seq (¬ wrOf s ·) x y :=
      span_of_pos hij hx hy fun k b h1 h2 hb hw => hgap k h1 h2 ⟨b, hb, hw⟩
    refine dep_path hid h hx hy ?_
    rcases hc with ⟨h1, h2⟩ | ⟨h1, h2⟩ | ⟨h1, h2⟩
    · exact ⟨_, .raw s hsp h1 h2⟩
    · exact ⟨_, .waw s hsp h2 h1⟩
    · by_cases hw : wrOf s x
      · exact ⟨_, .waw s hsp h2 hw⟩
      · refine ⟨_, .war s hsp h2 ⟨h1, hw, ?_⟩⟩
        rw [id_of_getElem? hid hx, id_of_getElem? hid hy]
        exact Nat.ne_of_gt hij

/-- A special instruction has an edge to everything up to the next special instruction (first
walk) and from everything back to the special instruction before it (second walk). -/
theorem special_paths
    (hc : Clash seq (fun x y => insSpecial x = true ∨ insSpecial y = true) i j) : Path E i j := by
  refine chain (R := Path E) (D := At seq (insSpecial · = true)) Path.trans ?_ ?_ ?_ hij hc
  · rintro i k j _ _ ⟨z, hz, hs⟩ ⟨x, y, hx, _, _⟩
    exact ⟨x, z, hx, hz, .inr hs⟩
  · rintro i k j _ _ ⟨z, hz, hs⟩ ⟨x, y, _, hy, _⟩
    exact ⟨z, y, hz, hy, .inl hs⟩
  · rintro i j hij ⟨x, y, hx, hy, hc⟩ hgap
    have hsp : Span seq (spKeep true) x y := span_of_pos hij hx hy
      fun k b h1 h2 hb => Bool.eq_false_iff.2 (fun hs => hgap k h1 h2 ⟨b, hb, hs⟩)
    refine dep_path hid h hx hy ?_
    rcases hc with hc | hc
    · exact ⟨_, .spFwd true hsp hc trivial⟩
    · exact ⟨_, .spBack true hsp hc trivial⟩

/-- If a special instruction stands between the two (ends included), the path goes through it.
Otherwise the walks never reset `lastMemOrder` there, and the memory-ordering instructions between
the two are chained by the edges of the second walk. -/
theorem mo_paths (hc : Clash seq MoClash i j) : Path E i j := by
  have hsp := @special_paths seq hid E h
  obtain ⟨x, y, hx, hy, hc⟩ := hc
  by_cases hs : ∃ s z, i ≤ s ∧ s ≤ j ∧ seq[s]? = some z ∧ insSpecial z = true
  · obtain ⟨s, z, h1, h2, hz, hsz⟩ := hs
    rcases Nat.eq_or_lt_of_le h1 with rfl | h1
    · exact hsp hij ⟨z, y, hz, hy, .inl hsz⟩
    · rcases Nat.eq_or_lt_of_le h2 with rfl | h2
      · exact hsp hij ⟨x, z, hx, hz, .inr hsz⟩
      · exact Path.trans (hsp h1 ⟨x, z, hx, hz, .inr hsz⟩) (hsp h2 ⟨z, y, hz, hy, .inl hsz⟩)
  · have nsp : ∀ k z, i ≤ k → k ≤ j → seq[k]? = some z → insSpecial z = false :=
      fun k z h1 h2 hz => Bool.eq_false_iff.2 (fun h => hs ⟨k, z, h1, h2, hz, h⟩)
    refine chain (R := Path E) (P := fun i' j' => i ≤ i' ∧ j' ≤ j ∧ Clash seq MoClash i' j')
      (D := At seq (insMemOrder · = true)) Path.trans ?_ ?_ ?_ hij
      ⟨Nat.le_refl _, Nat.le_refl _, x, y, hx, hy, hc⟩
    · rintro i' k j' _ h2 ⟨z, hz, hm⟩ ⟨hlo, hhi, x, y, hx, _, hc⟩
      refine ⟨hlo, Nat.le_trans (Nat.le_of_lt h2) hhi, x, z, hx, hz, ?_⟩
      rcases hc with ⟨h, _⟩ | ⟨_, h⟩
      · exact .inl ⟨h, .inr hm⟩
      · exact .inr ⟨hm, h⟩
    · rintro i' k j' h1 _ ⟨z, hz, hm⟩ ⟨hlo, hhi, x, y, _, hy, hc⟩
      refine ⟨Nat.le_trans hlo (Nat.le_of_lt h1), hhi, z, y, hz, hy, ?_⟩
      rcases hc with ⟨_, h⟩ | ⟨h, _⟩
      · exact .inl ⟨hm, h⟩
      · exact .inl ⟨hm, .inr h⟩
    · rintro i' j' hij' ⟨hlo, hhi, x, y, hx, hy, hc⟩ hgap
      have hsp : Span seq (spKeep false) x y := span_of_pos hij' hx hy fun k b h1 h2 hb =>
        ⟨nsp k b (Nat.le_trans hlo (Nat.le_of_lt h1)) (Nat.le_trans (Nat.le_of_lt h2) hhi) hb,
          Bool.eq_false_iff.2 (fun hm => hgap k h1 h2 ⟨b, hb, hm⟩)⟩
      refine dep_path hid h hx hy ?_
      by_cases hmy : insMemOrder y = true
      · refine ⟨_, .spBack false hsp ⟨hmy, nsp j' y (Nat.le_trans hlo (Nat.le_of_lt hij')) hhi hy⟩ ?_⟩
        rcases hc with ⟨h, _⟩ | ⟨_, h⟩
        · exact .inr h
        · exact .inl h
      · rcases hc with ⟨h1, h2 | h2⟩ | ⟨h1, _⟩
        · exact ⟨_, .spFwd false hsp ⟨h1, nsp i' x hlo (Nat.le_trans (Nat.le_of_lt hij') hhi) hx⟩ h2⟩
        · exact absurd h2 hmy
        · exact absurd h1 hmy

end

theorem edges_forward (seq : List Ins) (hid : IdsArePositions seq) (E : Edges)
    (h : findAllDeps seq = some E) : ∀ e ∈ E, e.1 < e.2 ∧ e.2 < seq.length := by
  intro e he
  obtain ⟨_, x, y, hd, rfl⟩ := (mem_findAllDeps h e).1 he
  obtain ⟨hlt, -, hy⟩ := hd.span.pos hid
  exact ⟨hlt, (List.getElem?_eq_some_iff.1 hy).1⟩

theorem edge_conflict (seq : List Ins) (hid : IdsArePositions seq) (E : Edges)
    (h : findAllDeps seq = some E) :
    ∀ e ∈ E, ∀ (h1 : e.1 < seq.length) (h2 : e.2 < seq.length),
      Conflict (seq[e.1].toS seq.length) (seq[e.2].toS seq.length) := by
  intro e he h1 h2
  obtain ⟨_, x, y, hd, rfl⟩ := (mem_findAllDeps h e).1 he
  obtain ⟨-, hx, hy⟩ := hd.span.pos hid
  show Conflict ((seq[x.id]'h1).toS _) ((seq[y.id]'h2).toS _)
  rw [(List.getElem?_eq_some_iff.1 hx).2, (List.getElem?_eq_some_iff.1 hy).2]
  exact (conflict_toS_iff _ _ _).2 (hd.conflict hid)

theorem conflict_path {seq : List Ins} (hid : IdsArePositions seq) {E : Edges}
    (h : findAllDeps seq = some E) {i j : Nat} (hij : i < j) {x y : Ins} (hx : seq[i]? = some x)
    (hy : seq[j]? = some y) (hc : MConflict seq.length x y) : Path E i j := by
  cases hc with
  | key s hc => exact key_paths hid h hij s ⟨x, y, hx, hy, hc⟩
  | special hc => exact special_paths hid h hij ⟨x, y, hx, hy, hc⟩
  | memOrder hc => exact mo_paths hid h hij ⟨x, y, hx, hy, hc⟩
  | term hc =>
    have hc' := (term_toS _ _).1 hc
    rw [id_of_getElem? hid hy] at hc'
    -- `y` is the last instruction
    obtain ⟨P, S, rfl, rfl⟩ := getElem?_split hy
    obtain rfl : S = [] := List.eq_nil_of_length_eq_zero (by simpa using hc'.1.symm)
    have hx' := hx
    rw [List.getElem?_append_left hij] at hx'
    obtain ⟨A, B, rfl, rfl⟩ := getElem?_split hx'
    exact dep_path hid h hx hy ⟨_, .term ⟨A, B, by simp⟩ hc'.2⟩
  | writesIp hc =>
    exact dep_path hid h hx hy ⟨_, .pin (span_of_pos hij hx hy fun _ _ _ _ _ => trivial) hc⟩

end Mltwist.Lemmas.Deps
