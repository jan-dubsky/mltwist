import Mltwist.Lemmas.DepsFootprint
/-
The edge set of each dependency finder (`Model/Deps.lean`), exactly.  Most of them are scans
with slots (a key map entry, `lastSpecial`, `lastMemOrder`): an instruction fills some slots with its
id, empties others, and is joined to the holder of every slot it looks up.  One theorem (`scan_back`;
`scan_fwd` is the same on the reversed sequence) says what such a scan computes: the pairs `x`, `y`
where `y` looks up a slot that `x` filled and everything between the two kept (`Span`).  Each scanning
finder is one instance; `findControlDeps` is a closed form.  `Dep seq x y k` holds the clauses of the
finder `k`, and every finder has one theorem of one shape: it adds the edges `(x.id, y.id)` with
`Dep seq x y k` (`mem_find*Deps`); so the edges of `findAllDeps seq` are those of all `k`
(`mem_findAllDeps`).
-/
namespace Mltwist.Lemmas.Deps
open Mltwist Mltwist.Deps Mltwist.Deps.Spec

/-- `x` stands before `y` in `l`, and all instructions between the two satisfy `PB` -/
def Span (l : List Ins) (PB : Ins → Prop) (x y : Ins) : Prop :=
  ∃ A B C, l = A ++ x :: (B ++ y :: C) ∧ ∀ b ∈ B, PB b

namespace Span

theorem reverse {l : List Ins} {PB : Ins → Prop} {x y : Ins} (h : Span l.reverse PB x y) :
    Span l PB y x := by
  obtain ⟨A, B, C, hl, hB⟩ := h
  refine ⟨C.reverse, B.reverse, A.reverse, ?_, fun b hb => hB b (List.mem_reverse.1 hb)⟩
  rw [← List.reverse_reverse l, hl]
  simp

theorem mono {l : List Ins} {PB PB' : Ins → Prop} {x y : Ins} (h : Span l PB x y)
    (hP : ∀ b, PB b → PB' b) : Span l PB' x y := by
  obtain ⟨A, B, C, hl, hB⟩ := h
  exact ⟨A, B, C, hl, fun b hb => hP b (hB b hb)⟩

theorem sublist {l : List Ins} {PB : Ins → Prop} {x y : Ins} (h : Span l PB x y) : [x, y].Sublist l := by
  obtain ⟨A, B, C, rfl, -⟩ := h
  exact ((List.singleton_sublist.2 (by simp)).cons_cons x).trans (List.sublist_append_right A _)

end Span

/-- what fills a slot of the special state -/
def spFill : Bool → Ins → Prop
  | true, a => insSpecial a = true
  | false, a => insMemOrder a = true ∧ insSpecial a = false

/-- what leaves it alone: a special instruction empties `lastMemOrder` -/
def spKeep : Bool → Ins → Prop
  | true, a => insSpecial a = false
  | false, a => insSpecial a = false ∧ insMemOrder a = false

/-- what is tied to the holder of a slot in the first walk -/
def fwdEmit : Bool → Ins → Prop
  | true, _ => True
  | false, a => isMemAccess a = true

/-- … and in the second -/
def backEmit : Bool → Ins → Prop
  | true, _ => True
  | false, a => isMemAccess a = true ∨ insMemOrder a = true

/-- the finders of `findAllDeps` -/
inductive Finder
  | true | anti | output | control | special

/-- The direct dependencies of a block that the finder `k` adds; the edges of `findAllDeps` are exactly these
(`mem_findAllDeps`). -/
inductive Dep (seq : List Ins) (x y : Ins) : Finder → Prop
  /-- `y` reads what `x` was the last to write -/
  | raw (s : Key) (h : Span seq (¬ wrOf s ·) x y) (hx : wrOf s x) (hy : rdOf s y) : Dep seq x y .true
  /-- `y` is the next to write what `x` reads and does not write itself -/
  | war (s : Key) (h : Span seq (¬ wrOf s ·) x y) (hy : wrOf s y)
      (hx : rdOf s x ∧ ¬ wrOf s x ∧ y.id ≠ x.id) : Dep seq x y .anti
  /-- `y` is the next to write what `x` writes -/
  | waw (s : Key) (h : Span seq (¬ wrOf s ·) x y) (hy : wrOf s y) (hx : wrOf s x) : Dep seq x y .output
  /-- F08 repair: a writer of the instruction pointer is tied to every other instruction -/
  | pin (h : Span seq (fun _ => True) x y) (hp : ipKey ∈ x.outRegs ∨ ipKey ∈ y.outRegs) : Dep seq x y .control
  /-- every instruction is tied to a terminating jump -/
  | term (h : ∃ A B, seq = A ++ x :: (B ++ [y])) (hj : y.jumpTargets ≠ []) : Dep seq x y .control
  /-- first walk -/
  | spFwd (s : Bool) (h : Span seq (spKeep s) x y) (hx : spFill s x) (hy : fwdEmit s y) : Dep seq x y .special
  /-- second walk -/
  | spBack (s : Bool) (h : Span seq (spKeep s) x y) (hy : spFill s y) (hx : backEmit s x) : Dep seq x y .special

section scan
/- A scan with state `σ`: `v s` is the slot `s` of a state, `e` its edge set.  The step for an
instruction `a` sets the slot `s` to `a.id` if `Fill s a`, leaves it alone if `Keep s a`, empties it
otherwise (`hv`), and adds an edge between `a.id` and the content `d` of every slot `s` with
`Emit s a d` (`he`; `mk` orients the edge). -/
variable {σ ι : Type} (v : ι → σ → Option Nat) (e : σ → Edges)
  (Fill Keep : ι → Ins → Prop) (Emit : ι → Ins → Nat → Prop) (mk : Nat → Nat → Nat × Nat)

theorem scan_slot (step : Ins → σ → σ)
    (hv : ∀ s a st d, v s (step a st) = some d ↔ Fill s a ∧ d = a.id ∨ Keep s a ∧ v s st = some d)
    (st0 : σ) (h0 : ∀ s, v s st0 = none) (l : List Ins) (s : ι) (d : Nat) :
    v s (l.foldr step st0) = some d ↔
      ∃ B y C, l = B ++ y :: C ∧ (∀ b ∈ B, Keep s b) ∧ Fill s y ∧ d = y.id := by
  induction l with
  | nil => simp [h0]
  | cons a l ih =>
    rw [List.foldr_cons, hv, ih]
    constructor
    · rintro (⟨hf, rfl⟩ | ⟨hk, B, y, C, rfl, hB, hy⟩)
      · exact ⟨[], a, l, rfl, (fun _ h => nomatch h), hf, rfl⟩
      · exact ⟨a :: B, y, C, rfl, List.forall_mem_cons.2 ⟨hk, hB⟩, hy⟩
    · rintro ⟨B, y, C, hl, hB, hy⟩
      cases B with
      | nil => cases hl; exact .inl hy
      | cons b B =>
        cases hl
        exact .inr ⟨hB _ List.mem_cons_self, B, y, C, rfl,
          fun b' hb' => hB b' (List.mem_cons_of_mem _ hb'), hy⟩

theorem scan_back (step : Ins → σ → σ)
    (hv : ∀ s a st d, v s (step a st) = some d ↔ Fill s a ∧ d = a.id ∨ Keep s a ∧ v s st = some d)
    (he : ∀ a st ed, ed ∈ e (step a st) ↔
      ed ∈ e st ∨ ∃ s d, v s st = some d ∧ Emit s a d ∧ ed = mk a.id d)
    (st0 : σ) (h0 : ∀ s, v s st0 = none) (l : List Ins) (ed : Nat × Nat) :
    ed ∈ e (l.foldr step st0) ↔ ed ∈ e st0 ∨
      ∃ s x y, Span l (Keep s) x y ∧ Fill s y ∧ Emit s x y.id ∧ ed = mk x.id y.id := by
  induction l with
  | nil =>
    refine ⟨.inl, fun h => h.elim id ?_⟩
    rintro ⟨_, _, _, ⟨A, _, _, h, _⟩, _⟩
    cases A <;> cases h
  | cons a l ih =>
    rw [List.foldr_cons, he, ih]
    simp only [scan_slot v Fill Keep step hv st0 h0]
    -- a span of `a :: l` either begins at `a`, which then looks up a slot of the scan of `l`, or lies in `l`
    constructor
    · rintro ((h | ⟨s, x, y, ⟨A, B, C, rfl, hB⟩, h⟩) | ⟨s, _, ⟨B, y, C, rfl, hB, hy, rfl⟩, hx, rfl⟩)
      · exact .inl h
      · exact .inr ⟨s, x, y, ⟨a :: A, B, C, rfl, hB⟩, h⟩
      · exact .inr ⟨s, a, y, ⟨[], B, C, rfl, hB⟩, hy, hx, rfl⟩
    · rintro (h | ⟨s, x, y, ⟨A, B, C, hl, hB⟩, hy, hx, rfl⟩)
      · exact .inl (.inl h)
      · cases A with
        | nil => cases hl; exact .inr ⟨s, _, ⟨B, y, C, rfl, hB, hy, rfl⟩, hx, rfl⟩
        | cons a' A => cases hl; exact .inl (.inr ⟨s, x, y, ⟨A, B, C, rfl, hB⟩, hy, hx, rfl⟩)

theorem scan_fwd (step : σ → Ins → σ)
    (hv : ∀ s a st d, v s (step st a) = some d ↔ Fill s a ∧ d = a.id ∨ Keep s a ∧ v s st = some d)
    (he : ∀ a st ed, ed ∈ e (step st a) ↔
      ed ∈ e st ∨ ∃ s d, v s st = some d ∧ Emit s a d ∧ ed = mk d a.id)
    (st0 : σ) (h0 : ∀ s, v s st0 = none) (l : List Ins) (ed : Nat × Nat) :
    ed ∈ e (l.foldl step st0) ↔ ed ∈ e st0 ∨
      ∃ s x y, Span l (Keep s) x y ∧ Fill s x ∧ Emit s y x.id ∧ ed = mk x.id y.id := by
  rw [← List.foldr_reverse,
    scan_back v e Fill Keep Emit (fun a d => mk d a) (fun a st => step st a) hv he st0 h0]
  refine or_congr_right ⟨?_, ?_⟩
  · rintro ⟨s, y, x, hsp, h⟩
    exact ⟨s, x, y, hsp.reverse, h⟩
  · rintro ⟨s, x, y, hsp, h⟩
    exact ⟨s, y, x, Span.reverse (by rwa [List.reverse_reverse]), h⟩

end scan

theorem lookup_cons_eq (r' r : String) (i : Nat) (m : KeyMap) :
    List.lookup r' ((r, i) :: m) = if r' = r then some i else List.lookup r' m := by
  rw [List.lookup_cons]
  by_cases h : r' = r
  · subst h; simp
  · have h' : (r' == r) = false := by simpa using h
    simp [h', h]

theorem lookup_setAll (keys : List String) (id : Nat) (m : KeyMap) (r : String) :
    (setAll keys id m).lookup r = if r ∈ keys then some id else m.lookup r := by
  unfold setAll
  induction keys generalizing m with
  | nil => rfl
  | cons k ks ih =>
    rw [List.foldl_cons, ih, lookup_cons_eq]
    by_cases h1 : r ∈ ks
    · simp [h1]
    · by_cases h2 : r = k <;> simp [h1, h2]

/-- a fold whose steps only add edges: `new a` are the edges that the step for `a` adds -/
theorem mem_foldl_add {α : Type} (f : Edges → α → Edges) (new : α → Nat × Nat → Prop)
    (hf : ∀ E a ed, ed ∈ f E a ↔ ed ∈ E ∨ new a ed) (l : List α) (E : Edges) (ed : Nat × Nat) :
    ed ∈ l.foldl f E ↔ ed ∈ E ∨ ∃ a ∈ l, new a ed := by
  induction l generalizing E with
  | nil => simp
  | cons a l ih =>
    rw [List.foldl_cons, ih, hf, or_assoc]
    simp only [List.mem_cons, exists_eq_or_imp]

theorem mem_depsFromMap (keys : List String) (m : KeyMap) (ins : Nat) (E : Edges) (ed : Nat × Nat) :
    ed ∈ depsFromMap keys m ins E ↔
      ed ∈ E ∨ ∃ r d, m.lookup r = some d ∧ r ∈ keys ∧ ed = (d, ins) := by
  unfold depsFromMap
  rw [mem_foldl_add _ (fun r ed => ∃ d, m.lookup r = some d ∧ ed = (d, ins))]
  · exact or_congr_right (exists_congr fun r =>
      ⟨fun ⟨hr, d, h⟩ => ⟨d, h.1, hr, h.2⟩, fun ⟨d, h1, hr, h2⟩ => ⟨hr, d, h1, h2⟩⟩)
  · intro E r ed
    cases m.lookup r with
    | none => simp
    | some d => simp [addDep, or_comm]

theorem mem_depsToMap (sk : Bool) (keys : List String) (m : KeyMap) (ins : Nat) (E : Edges)
    (ed : Nat × Nat) : ed ∈ depsToMap sk keys m ins E ↔
      ed ∈ E ∨ ∃ r d, m.lookup r = some d ∧ (r ∈ keys ∧ (sk = true → d ≠ ins)) ∧ ed = (ins, d) := by
  unfold depsToMap
  rw [mem_foldl_add _
    (fun r ed => ∃ d, m.lookup r = some d ∧ (sk = true → d ≠ ins) ∧ ed = (ins, d))]
  · exact or_congr_right (exists_congr fun r =>
      ⟨fun ⟨hr, d, h⟩ => ⟨d, h.1, ⟨hr, h.2.1⟩, h.2.2⟩, fun ⟨d, h1, hr, h2⟩ => ⟨hr.1, d, h1, hr.2, h2⟩⟩)
  · intro E r ed
    cases m.lookup r with
    | none => simp
    | some d =>
      by_cases h : sk = true ∧ d = ins
      · simp [h]
      · have h1 : ¬ (sk && d == ins) = true := by simpa using h
        have h2 : sk = true → ¬ d = ins := fun a b => h ⟨a, b⟩
        simp [h1, addDep, or_comm, and_iff_right h2]

theorem depsToMap_congr (sk : Bool) (keys : List String) (m m' : KeyMap) (ins : Nat) (E : Edges)
    (h : ∀ r ∈ keys, m.lookup r = m'.lookup r) :
    depsToMap sk keys m ins E = depsToMap sk keys m' ins E := by
  unfold depsToMap
  induction keys generalizing E with
  | nil => rfl
  | cons k ks ih =>
    simp only [List.foldl_cons, h k List.mem_cons_self]
    exact ih _ (fun r hr => h r (List.mem_cons_of_mem _ hr))

/-- With the F07 repair the register loop of `findOutputDepsReg` is the memory variant: the keys
are pairwise different, so the entries the loop adds are never looked up by the loop itself. -/
theorem findOutputDepsReg_eq (ins : Ins) (regs : KeyMap) (E : Edges) :
    findOutputDepsReg ins regs E =
      (setAll ins.outRegs ins.id regs, depsToMap false ins.outRegs regs ins.id E) := by
  unfold findOutputDepsReg
  generalize ins.id = id
  have hnd := nodup_outRegs ins
  generalize ins.outRegs = ks at hnd
  induction ks generalizing regs E with
  | nil => rfl
  | cons k ks ih =>
    have hk := List.nodup_cons.1 hnd
    have hc : ∀ E', depsToMap false ks ((k, id) :: regs) id E' = depsToMap false ks regs id E' :=
      fun E' => depsToMap_congr _ _ _ _ _ _ (fun r hr => by
        rw [lookup_cons_eq, if_neg (fun h => hk.1 (by rw [← h]; exact hr))])
    show List.foldl _ (match regs.lookup k with
      | none => ((k, id) :: regs, E)
      | some dep => ((k, id) :: regs, addDep id dep E)) ks = _
    cases hl : regs.lookup k with
    | none =>
      simp only []
      rw [ih _ _ hk.2, hc]
      simp [setAll, depsToMap, hl]
    | some d =>
      simp only []
      rw [ih _ _ hk.2, hc]
      simp [setAll, depsToMap, hl]

/-- the slot of a key in the state of the three scans: its entry in the map of its space -/
def kv : Key → KeyMap × KeyMap × Edges → Option Nat
  | (false, r), st => st.1.lookup r
  | (true, r), st => st.2.1.lookup r

theorem kv_nil (E : Edges) (s : Key) : kv s ([], [], E) = none := by
  obtain ⟨b, r⟩ := s; cases b <;> rfl

/-- every step of the three scans sets the keys the instruction writes to its id in both maps -/
theorem kv_step {st st' : KeyMap × KeyMap × Edges} {a : Ins}
    (h1 : st'.1 = setAll a.outRegs a.id st.1) (h2 : st'.2.1 = setAll a.stores a.id st.2.1)
    (s : Key) (d : Nat) :
    kv s st' = some d ↔ wrOf s a ∧ d = a.id ∨ ¬ wrOf s a ∧ kv s st = some d := by
  obtain ⟨b, r⟩ := s
  cases b <;> simp only [kv, wrOf, h1, h2, lookup_setAll] <;> split <;> simp [*, eq_comm]

theorem mem_trueStep (st : KeyMap × KeyMap × Edges) (a : Ins) (ed : Nat × Nat) :
    ed ∈ (trueStep st a).2.2 ↔
      ed ∈ st.2.2 ∨ ∃ s d, kv s st = some d ∧ rdOf s a ∧ ed = (d, a.id) := by
  show ed ∈ depsFromMap a.loads st.2.1 a.id (depsFromMap a.inRegs st.1 a.id st.2.2) ↔ _
  rw [mem_depsFromMap, mem_depsFromMap, or_assoc, exists_key]
  rfl

/-- the anti scan looks the keys up after it has set the written ones, and skips itself -/
theorem mem_antiStep (st : KeyMap × KeyMap × Edges) (a : Ins) (ed : Nat × Nat) :
    ed ∈ (antiStep a st).2.2 ↔ ed ∈ st.2.2 ∨
      ∃ s d, kv s st = some d ∧ (rdOf s a ∧ ¬ wrOf s a ∧ d ≠ a.id) ∧ ed = (a.id, d) := by
  show ed ∈ depsToMap true a.loads (setAll a.stores a.id st.2.1) a.id
    (depsToMap true a.inRegs (setAll a.outRegs a.id st.1) a.id st.2.2) ↔ _
  rw [mem_depsToMap, mem_depsToMap, or_assoc, exists_key]
  simp only [lookup_setAll, kv, rdOf, wrOf, forall_const]
  refine or_congr_right (or_congr ?_ ?_) <;> refine exists_congr fun r => exists_congr fun d => ?_ <;>
    split <;> simp_all [eq_comm]

theorem mem_outputStep (st : KeyMap × KeyMap × Edges) (a : Ins) (ed : Nat × Nat) :
    ed ∈ (outputStep a st).2.2 ↔
      ed ∈ st.2.2 ∨ ∃ s d, kv s st = some d ∧ wrOf s a ∧ ed = (a.id, d) := by
  show ed ∈ depsToMap false a.stores st.2.1 a.id (findOutputDepsReg a st.1 st.2.2).2 ↔ _
  rw [findOutputDepsReg_eq, mem_depsToMap, mem_depsToMap, or_assoc, exists_key]
  simp only [Bool.false_eq_true, false_imp_iff, and_true]
  rfl

section
variable (seq : List Ins) (E : Edges) (ed : Nat × Nat)

theorem mem_findTrueDeps : ed ∈ findTrueDeps seq E ↔ ed ∈ E ∨ ∃ x y, Dep seq x y .true ∧ ed = (x.id, y.id) :=
  (scan_fwd kv (·.2.2) (Fill := wrOf) (Keep := (¬ wrOf · ·)) (Emit := fun s y _ => rdOf s y) Prod.mk trueStep
    (fun s _ _ d => kv_step rfl rfl s d) (fun a st ed => mem_trueStep st a ed) _ (kv_nil E) seq ed).trans <|
  or_congr_right ⟨by rintro ⟨s, x, y, h, hx, hy, e⟩; exact ⟨x, y, .raw s h hx hy, e⟩,
    by rintro ⟨x, y, hd, e⟩; cases hd with | raw s h hx hy => exact ⟨s, x, y, h, hx, hy, e⟩⟩

theorem mem_findAntiDeps : ed ∈ findAntiDeps seq E ↔ ed ∈ E ∨ ∃ x y, Dep seq x y .anti ∧ ed = (x.id, y.id) :=
  (scan_back kv (·.2.2) (Fill := wrOf) (Keep := (¬ wrOf · ·))
    (Emit := fun s x d => rdOf s x ∧ ¬ wrOf s x ∧ d ≠ x.id) Prod.mk
    antiStep (fun s _ _ d => kv_step rfl rfl s d) (fun a st ed => mem_antiStep st a ed) _ (kv_nil E)
    seq ed).trans <|
  or_congr_right ⟨by rintro ⟨s, x, y, h, hy, hx, e⟩; exact ⟨x, y, .war s h hy hx, e⟩,
    by rintro ⟨x, y, hd, e⟩; cases hd with | war s h hy hx => exact ⟨s, x, y, h, hy, hx, e⟩⟩

theorem mem_findOutputDeps : ed ∈ findOutputDeps seq E ↔ ed ∈ E ∨ ∃ x y, Dep seq x y .output ∧ ed = (x.id, y.id) :=
  (scan_back kv (·.2.2) (Fill := wrOf) (Keep := (¬ wrOf · ·)) (Emit := fun s x _ => wrOf s x) Prod.mk outputStep
    (fun s a st d => kv_step (congrArg Prod.fst (findOutputDepsReg_eq a st.1 st.2.2)) rfl s d)
    (fun a st ed => mem_outputStep st a ed) _ (kv_nil E) seq ed).trans <|
  or_congr_right ⟨by rintro ⟨s, x, y, h, hy, hx, e⟩; exact ⟨x, y, .waw s h hy hx, e⟩,
    by rintro ⟨x, y, hd, e⟩; cases hd with | waw s h hy hx => exact ⟨s, x, y, h, hy, hx, e⟩⟩

end

namespace Paths

theorem findTrueDeps_mono (seq : List Ins) (E : Edges) (ed : Nat × Nat) (h : ed ∈ E) :
    ed ∈ findTrueDeps seq E := (mem_findTrueDeps seq E ed).2 (.inl h)

end Paths

theorem mem_addFold {α : Type} (f : α → Nat × Nat) (l : List α) (E : Edges) (ed : Nat × Nat) :
    ed ∈ l.foldl (fun E a => addDep (f a).1 (f a).2 E) E ↔ ed ∈ E ∨ ∃ a ∈ l, ed = f a :=
  mem_foldl_add _ (fun a ed => ed = f a) (fun E a ed => by rw [addDep, List.mem_cons, or_comm]) l E ed

/-- the F08 repair: an instruction `k` of `after` that writes the instruction pointer is tied to
everything before it and to everything behind it -/
theorem mem_pinLoop (before after : List Ins) (E : Edges) (ed : Nat × Nat) :
    ed ∈ pinLoop before after E ↔ ed ∈ E ∨ ∃ A k C, after = A ++ k :: C ∧ ipKey ∈ k.outRegs ∧
      ((∃ p ∈ before ++ A, ed = (p.id, k.id)) ∨ ∃ q ∈ C, ed = (k.id, q.id)) := by
  induction after generalizing before E with
  | nil => simp [pinLoop]
  | cons ins after ih =>
    have hE : ed ∈ (if ipKey ∈ ins.outRegs then
          after.foldl (fun E next => addDep ins.id next.id E)
            (before.foldl (fun E prev => addDep prev.id ins.id E) E)
        else E) ↔ ed ∈ E ∨ (ipKey ∈ ins.outRegs ∧
          ((∃ p ∈ before, ed = (p.id, ins.id)) ∨ ∃ q ∈ after, ed = (ins.id, q.id))) := by
      split
      · rename_i h
        rw [mem_addFold (fun q : Ins => (ins.id, q.id)), mem_addFold (fun p : Ins => (p.id, ins.id)),
          or_assoc]
        simp only [h, true_and]
      · rename_i h
        simp only [h, false_and, or_false]
    rw [pinLoop, ih, hE]
    constructor
    · rintro ((h | ⟨hip, h⟩) | ⟨A, k, C, rfl, hk, h⟩)
      · exact .inl h
      · exact .inr ⟨[], ins, after, rfl, hip, by rwa [List.append_nil]⟩
      · exact .inr ⟨ins :: A, k, C, rfl, hk, by rwa [List.append_assoc] at h⟩
    · rintro (h | ⟨A, k, C, hs, hk, h⟩)
      · exact .inl (.inl h)
      · cases A with
        | nil =>
          obtain ⟨rfl, rfl⟩ := List.cons.inj hs
          exact .inl (.inr ⟨hk, by rwa [List.append_nil] at h⟩)
        | cons a A =>
          obtain ⟨rfl, rfl⟩ := List.cons.inj hs
          exact .inr ⟨A, k, C, rfl, hk, by rwa [List.append_assoc]⟩

theorem mem_findControlDeps {seq : List Ins} {E E' : Edges} (h : findControlDeps seq E = some E')
    (ed : Nat × Nat) : ed ∈ E' ↔ ed ∈ E ∨ ∃ x y, Dep seq x y .control ∧ ed = (x.id, y.id) := by
  suffices h : ed ∈ E' ↔ ed ∈ E ∨
      (∃ x y, Span seq (fun _ => True) x y ∧ (ipKey ∈ x.outRegs ∨ ipKey ∈ y.outRegs) ∧
        ed = (x.id, y.id)) ∨
      ∃ x y, (∃ A B, seq = A ++ x :: (B ++ [y])) ∧ y.jumpTargets ≠ [] ∧ ed = (x.id, y.id) by
    refine h.trans (or_congr_right ⟨?_, ?_⟩)
    · rintro (⟨x, y, h, hp, e⟩ | ⟨x, y, h, hj, e⟩)
      · exact ⟨x, y, .pin h hp, e⟩
      · exact ⟨x, y, .term h hj, e⟩
    · rintro ⟨x, y, hd, e⟩
      cases hd with
      | pin h hp => exact .inl ⟨x, y, h, hp, e⟩
      | term h hj => exact .inr ⟨x, y, h, hj, e⟩
  have hpin : ed ∈ pinLoop [] seq E ↔ ed ∈ E ∨ ∃ x y, Span seq (fun _ => True) x y ∧
      (ipKey ∈ x.outRegs ∨ ipKey ∈ y.outRegs) ∧ ed = (x.id, y.id) := by
    rw [mem_pinLoop]
    refine or_congr_right ⟨?_, ?_⟩
    · rintro ⟨A, k, C, rfl, hk, ⟨p, hp, rfl⟩ | ⟨q, hq, rfl⟩⟩
      · obtain ⟨A1, A2, rfl⟩ := List.append_of_mem hp
        exact ⟨p, k, ⟨A1, A2, C, by simp, fun _ _ => trivial⟩, .inr hk, rfl⟩
      · obtain ⟨C1, C2, rfl⟩ := List.append_of_mem hq
        exact ⟨k, q, ⟨A, C1, C2, rfl, fun _ _ => trivial⟩, .inl hk, rfl⟩
    · rintro ⟨x, y, ⟨A, B, C, rfl, -⟩, hk | hk, rfl⟩
      · exact ⟨A, x, B ++ y :: C, rfl, hk, .inr ⟨y, by simp, rfl⟩⟩
      · exact ⟨A ++ x :: B, y, C, by simp, hk, .inl ⟨x, by simp, rfl⟩⟩
  unfold findControlDeps at h
  cases hl : seq.getLast? with
  | none => simp [hl] at h
  | some last =>
    obtain ⟨l, rfl⟩ := List.getLast?_eq_some_iff.1 hl
    have hterm : (∃ x y, (∃ A B, l ++ [last] = A ++ x :: (B ++ [y])) ∧ y.jumpTargets ≠ [] ∧
        ed = (x.id, y.id)) ↔ last.jumpTargets ≠ [] ∧ ∃ x ∈ l, ed = (x.id, last.id) := by
      constructor
      · rintro ⟨x, y, ⟨A, B, hs⟩, hj, rfl⟩
        rw [← List.cons_append, ← List.append_assoc] at hs
        obtain ⟨rfl, hy⟩ := List.append_inj' hs rfl
        cases hy
        exact ⟨hj, x, by simp, rfl⟩
      · rintro ⟨hj, x, hx, rfl⟩
        obtain ⟨A, B, rfl⟩ := List.append_of_mem hx
        exact ⟨x, last, ⟨A, B, by simp⟩, hj, rfl⟩
    simp only [hl] at h
    rw [← or_assoc, ← hpin, hterm]
    split at h
    · rename_i hz
      cases h
      exact ⟨.inl, fun h => h.elim id (fun h => absurd (List.eq_nil_of_length_eq_zero hz) h.1)⟩
    · rename_i hz
      cases h
      rw [List.dropLast_concat, mem_addFold (fun x : Ins => (x.id, last.id)),
        and_iff_right (fun h => hz (by rw [h]; rfl))]

theorem findControlDeps_isSome (seq : List Ins) (hne : seq ≠ []) (E : Edges) :
    ∃ E', findControlDeps seq E = some E' := by
  unfold findControlDeps
  cases hl : seq.getLast? with
  | none => exact absurd (List.getLast?_eq_none_iff.1 hl) hne
  | some last =>
    simp only
    split <;> exact ⟨_, rfl⟩

/-- the two slots of the special state: `lastSpecial` (`true`) and `lastMemOrder` (`false`) -/
def sv : Bool → SpecialState → Option Nat
  | true, st => st.lastSpecial
  | false, st => st.lastMemOrder

theorem sv_update (s : Bool) (a : Ins) (st : SpecialState) (E : Edges) (d : Nat) :
    sv s (specialUpdate a { st with edges := E }) = some d ↔
      spFill s a ∧ d = a.id ∨ spKeep s a ∧ sv s st = some d := by
  cases s <;> simp only [sv, spFill, spKeep, specialUpdate] <;> cases insSpecial a <;>
    cases insMemOrder a <;> simp [eq_comm]

theorem specialUpdate_edges (ins : Ins) (st : SpecialState) :
    (specialUpdate ins st).edges = st.edges := by
  unfold specialUpdate; dsimp only; split <;> rfl

theorem mem_fwdStep (st : SpecialState) (x : Ins) (ed : Nat × Nat) :
    ed ∈ (specialFwdStep st x).edges ↔
      ed ∈ st.edges ∨ ∃ s d, sv s st = some d ∧ fwdEmit s x ∧ ed = (d, x.id) := by
  unfold specialFwdStep
  rw [specialUpdate_edges, Bool.exists_bool]
  simp only [sv, fwdEmit]
  cases st.lastSpecial <;> cases st.lastMemOrder <;> cases isMemAccess x <;>
    simp [addDep, or_comm, or_left_comm]

theorem mem_backStep (st : SpecialState) (x : Ins) (ed : Nat × Nat) :
    ed ∈ (specialBackStep x st).edges ↔
      ed ∈ st.edges ∨ ∃ s d, sv s st = some d ∧ backEmit s x ∧ ed = (x.id, d) := by
  unfold specialBackStep
  rw [specialUpdate_edges, Bool.exists_bool]
  simp only [sv, backEmit, ← Bool.or_eq_true]
  generalize (isMemAccess x || insMemOrder x) = c
  cases st.lastSpecial <;> cases st.lastMemOrder <;> cases c <;>
    simp [addDep, or_comm, or_left_comm]

/-- After the first walk one of the two slots is filled if some instruction is special or orders memory
(exactly then `findSpecialDeps` makes its second walk): the last such instruction fills a slot, and what
follows keeps it. -/
theorem foldl_fwdStep_touched (l : List Ins) (E : Edges)
    (h : ∃ a ∈ l, insSpecial a = true ∨ insMemOrder a = true) :
    ∃ s d, sv s (l.foldl specialFwdStep ⟨none, none, E⟩) = some d := by
  obtain ⟨a, ha, hp⟩ := h
  cases hf : l.reverse.find? (fun a => insSpecial a || insMemOrder a) with
  | none =>
    have := List.find?_eq_none.1 hf a (List.mem_reverse.2 ha)
    rw [Bool.or_eq_true] at this
    exact absurd hp this
  | some y =>
    obtain ⟨hy, B, C, hl, hB⟩ := List.find?_eq_some_iff_append.1 hf
    rw [← List.foldr_reverse]
    refine ⟨insSpecial y, y.id, (scan_slot sv spFill spKeep (fun a st => specialFwdStep st a)
      (fun s a st d => sv_update s a st _ d) ⟨none, none, E⟩ (fun s => by cases s <;> rfl) l.reverse _ _).2
      ⟨B, y, C, hl, fun b hb => ?_, ?_, rfl⟩⟩
    · have hb' : insSpecial b = false ∧ insMemOrder b = false := by
        simpa only [Bool.not_eq_true', Bool.or_eq_false_iff] using hB b hb
      cases insSpecial y
      · exact hb'
      · exact hb'.1
    · cases hs : insSpecial y
      · rw [hs, Bool.false_or] at hy
        exact ⟨hy, hs⟩
      · exact hs

/-- The first walk ties an instruction to the last special instruction before it, and a memory
access to the last memory-ordering instruction before it; the second walk does the same backwards
(there also between memory-ordering instructions).  Where the second walk is left out it would add
nothing. -/
theorem mem_findSpecialDeps (seq : List Ins) (E : Edges) (ed : Nat × Nat) :
    ed ∈ findSpecialDeps seq E ↔ ed ∈ E ∨ ∃ x y, Dep seq x y .special ∧ ed = (x.id, y.id) := by
  suffices h : ed ∈ findSpecialDeps seq E ↔ ed ∈ E ∨
      (∃ s x y, Span seq (spKeep s) x y ∧ spFill s x ∧ fwdEmit s y ∧ ed = (x.id, y.id)) ∨
      ∃ s x y, Span seq (spKeep s) x y ∧ spFill s y ∧ backEmit s x ∧ ed = (x.id, y.id) by
    refine h.trans (or_congr_right ⟨?_, ?_⟩)
    · rintro (⟨s, x, y, h, hx, hy, e⟩ | ⟨s, x, y, h, hy, hx, e⟩)
      · exact ⟨x, y, .spFwd s h hx hy, e⟩
      · exact ⟨x, y, .spBack s h hy hx, e⟩
    · rintro ⟨x, y, hd, e⟩
      cases hd with
      | spFwd s h hx hy => exact .inl ⟨s, x, y, h, hx, hy, e⟩
      | spBack s h hy hx => exact .inr ⟨s, x, y, h, hy, hx, e⟩
  have hf := scan_fwd sv (·.edges) spFill spKeep (Emit := fun s y _ => fwdEmit s y) Prod.mk specialFwdStep
    (fun s a st d => sv_update s a st _ d) (fun a st ed => mem_fwdStep st a ed) ⟨none, none, E⟩
    (fun s => by cases s <;> rfl) seq ed
  have hb := scan_back sv (·.edges) spFill spKeep (Emit := fun s x _ => backEmit s x) Prod.mk
    specialBackStep (fun s a st d => sv_update s a st _ d) (fun a st ed => mem_backStep st a ed)
    ⟨none, none, (seq.foldl specialFwdStep ⟨none, none, E⟩).edges⟩ (fun s => by cases s <;> rfl) seq ed
  rw [← or_assoc, ← hf]
  unfold findSpecialDeps
  dsimp only
  split
  · rename_i hun
    refine ⟨.inl, fun h => h.elim id ?_⟩
    rintro ⟨s, x, y, ⟨A, B, C, rfl, -⟩, hy, -⟩
    obtain ⟨s', d, hd⟩ := foldl_fwdStep_touched (A ++ x :: (B ++ y :: C)) E
      ⟨y, by simp, by
        cases s with
        | false => exact .inr hy.1
        | true => exact .inl hy⟩
    simp only [Bool.and_eq_true, Option.isNone_iff_eq_none] at hun
    cases s' <;> simp only [sv, hun.1, hun.2] at hd <;> cases hd
  · exact hb

theorem findAllDeps_isSome (seq : List Ins) (hne : seq ≠ []) : ∃ E, findAllDeps seq = some E := by
  rw [← Option.isSome_iff_exists, findAllDeps, Option.isSome_map, Option.isSome_iff_exists]
  exact findControlDeps_isSome seq hne _

theorem mem_findAllDeps {seq : List Ins} {E : Edges} (h : findAllDeps seq = some E) (ed : Nat × Nat) :
    ed ∈ E ↔ ∃ k x y, Dep seq x y k ∧ ed = (x.id, y.id) := by
  unfold findAllDeps at h
  obtain ⟨E4, h4, rfl⟩ := Option.map_eq_some_iff.1 h
  rw [mem_findSpecialDeps, mem_findControlDeps h4, mem_findOutputDeps, mem_findAntiDeps,
    mem_findTrueDeps, List.mem_nil_iff, false_or]
  constructor
  · rintro ((((h | h) | h) | h) | h) <;> exact ⟨_, h⟩
  · rintro ⟨k, h⟩
    cases k <;> simp only [h, true_or, or_true]

end Mltwist.Lemmas.Deps
