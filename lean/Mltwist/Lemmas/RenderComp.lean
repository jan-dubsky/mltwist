import Mltwist.Lemmas.RenderViews
import Mltwist.Lemmas.RenderDist
/-
Proofs for C24: `Composite.Print` — with `remLines--` a composite of good views is a good view (`compositeDec_good`); where the
rows left always cover what the elements can take (`Covered`) the code as it is is the same view (`composite_eq_dec`).  So it
is for two elements the second of which has a fixed height, the shape of the tool's composites (`covered_pair`): such a
composite is good (`pair_good`) and exact (`pair_exact`, `pair_exactRows`) if its elements are.
-/
namespace Mltwist.Lemmas.Render
open Mltwist.Render

/-- A view keeps its promise: its minimum is non-negative and for every height of at least the minimum
`Print` neither panics (nor runs out of model fuel) and uses at most that many rows. -/
structure Good (v : View) : Prop where
  min_nonneg : 0 ≤ v.minLines
  fits : ∀ n : Nat, v.minLines ≤ n →
    (v.print n).status ≠ .panic ∧ (v.print n).status ≠ .outOfFuel ∧ ((v.print n).out.used : Int) ≤ n

theorem Good.fitsIn {v : View} (h : Good v) (n : Nat) (hn : v.minLines ≤ n) : FitsIn (v.print n) n :=
  ⟨⟨(h.fits n hn).1, (h.fits n hn).2.1⟩, (h.fits n hn).2.2⟩

theorem Good.of_fitsIn {v : View} (h0 : 0 ≤ v.minLines)
    (h : ∀ n : Nat, v.minLines ≤ n → FitsIn (v.print n) n) : Good v :=
  ⟨h0, fun n hn => ⟨(h n hn).safe.1, (h n hn).safe.2, (h n hn).used_le⟩⟩

theorem forall_mem_pair {p : View → Prop} {a b : View} (ha : p a) (hb : p b) : ∀ e ∈ [a, b], p e := by
  intro e he
  rcases List.mem_cons.1 he with rfl | he
  · exact ha
  · exact List.mem_singleton.1 he ▸ hb

theorem sumInts_nonneg_of (l m : List Int) (hlen : l.length = m.length) (hm : ∀ x ∈ m, 0 ≤ x)
    (h : ∀ j, m.getD j 0 ≤ l.getD j 0) : 0 ≤ sumInts l := by
  induction l generalizing m with
  | nil => exact Int.le_refl 0
  | cons x xs ih =>
    cases m with
    | nil => cases hlen
    | cons y ys =>
      have := ih ys (Nat.succ.inj hlen) (fun z hz => hm z (List.mem_cons_of_mem _ hz)) (fun j => h (j + 1))
      have := hm y List.mem_cons_self
      have : y ≤ x := h 0
      simp only [sumInts]; omega

theorem mins_eq (els : List View) (h : ∀ e ∈ els, 0 ≤ e.minLines) : mins els = els.map (·.minLines) := by
  unfold mins
  apply List.map_congr_left
  intro e he
  rw [if_neg (by have := h e he; omega)]

theorem printEls_cons (e : View) (es : List View) (g : Int) (gs : List Int) (first : Bool) (acc : Out) :
    printEls (e :: es) (g :: gs) first acc =
      if (e.print g.toNat).status = .ok then
        printEls es gs false ((if first = true then acc else acc.app .row).app (e.print g.toNat).out)
      else ⟨(e.print g.toNat).status, (if first = true then acc else acc.app .row).app (e.print g.toNat).out⟩ := by
  rw [printEls]
  simp only [List.headD_cons, List.tail_cons]
  cases (e.print g.toNat).status <;> rfl

/-- Grants `gs` of at least the minimums of good elements: no panic, and the rows used are at most the grants
plus one separator between two elements (none before the first: `first`; `hne` excludes the empty list with
`first = true`, where nothing is written and nothing can be subtracted). -/
theorem printEls_bound (els : List View) (gs : List Int) (first : Bool) (acc : Out)
    (hlen : gs.length = els.length) (hgood : ∀ e ∈ els, Good e)
    (hcov : ∀ j, (els.map (·.minLines)).getD j 0 ≤ gs.getD j 0) (hne : els ≠ [] ∨ first = false) :
    FitsIn (printEls els gs first acc)
      (acc.used + sumInts gs + els.length - (if first = true then (1 : Int) else 0)) := by
  induction els generalizing gs first acc with
  | nil =>
    obtain rfl : first = false := hne.resolve_left (fun h => h rfl)
    obtain rfl : gs = [] := List.eq_nil_of_length_eq_zero hlen
    exact ⟨⟨nofun, nofun⟩, by simp [printEls, sumInts]⟩
  | cons e es ih =>
    cases gs with
    | nil => cases hlen
    | cons g gs =>
      have hg := hgood e List.mem_cons_self
      have hge : e.minLines ≤ g := hcov 0
      have hg0 : 0 ≤ g := Int.le_trans hg.min_nonneg hge
      have hf := hg.fitsIn g.toNat (by omega)
      have f3 := hf.used_le
      have hrest : 0 ≤ sumInts gs :=
        sumInts_nonneg_of gs (es.map (·.minLines)) (by simpa using hlen)
          (fun x hx => by
            obtain ⟨e', he', rfl⟩ := List.mem_map.1 hx
            exact (hgood e' (List.mem_cons_of_mem _ he')).min_nonneg)
          (fun j => hcov (j + 1))
      have hrow : Out.row.used = 1 := rfl
      have hsep : ((if first = true then acc else acc.app .row).used : Int) ≤
          acc.used + 1 - (if first = true then (1 : Int) else 0) := by
        cases first
        · have := used_app_le acc .row
          simp only [Bool.false_eq_true, if_false]; omega
        · simp
      rw [printEls_cons]
      simp only [sumInts, List.length_cons]
      push_cast
      generalize (if first = true then acc else acc.app .row) = acc1 at hsep ⊢
      generalize (if first = true then (1 : Int) else 0) = k at hsep ⊢
      have happ := used_app_le acc1 (e.print g.toNat).out
      split
      · have hi := ih gs false (acc1.app (e.print g.toNat).out) (Nat.succ.inj hlen)
          (fun x hx => hgood x (List.mem_cons_of_mem _ hx)) (fun j => hcov (j + 1)) (Or.inr rfl)
        have i3 := hi.used_le
        simp only [Bool.false_eq_true, if_false] at i3
        -- `i3` bounds the rest from what is written so far, which `happ`, `f3`, `hsep` bound by `acc`, one row and `g`
        exact ⟨hi.safe, by omega⟩
      · -- the loop stops at `e`: separator (`hsep`), what `e` used within its grant (`happ`, `f3`); the grants not
        -- handed out are non-negative (`hrest`)
        refine ⟨hf.safe, ?_⟩
        show ((acc1.app (e.print g.toNat).out).used : Int) ≤ _
        omega

theorem compMinLines_eq (els : List View) (h : ∀ e ∈ els, 0 ≤ e.minLines) :
    compMinLines els = sumInts (mins els) + els.length - 1 := by
  unfold compMinLines elementSpaces
  rw [mins_eq els h]; omega

theorem compMinLines_nonneg (els : List View) (hne : els ≠ []) (h : ∀ e ∈ els, 0 ≤ e.minLines) :
    0 ≤ compMinLines els := by
  have := sumInts_nonneg_of _ (els.map (·.minLines)) rfl (List.forall_mem_map.mpr h) fun _ => Int.le_refl _
  have := List.length_pos_iff.2 hne
  unfold compMinLines elementSpaces
  omega

/-- A composite inherits the bound from its elements, for the variant of `distributeLines` with `remLines--`;
`composite_good_of_covered` transfers it to the code as it is. -/
theorem compPrint_fits (els : List View) (hgood : ∀ e ∈ els, Good e) (n : Nat)
    (hn : compMinLines els ≤ n) : FitsIn (compPrint true els n) n := by
  have hmin : ∀ e ∈ els, 0 ≤ e.minLines := fun e he => (hgood e he).min_nonneg
  unfold compPrint
  simp only
  rw [if_neg (by omega)]
  obtain ⟨gs, hgs, g⟩ := distributeLines_spec true els ((n : Int) - compMinLines els) (by omega)
  rw [hgs]
  simp only
  cases els with
  | nil =>
    cases gs with
    | nil => exact ⟨⟨nofun, nofun⟩, by simp [printEls, Out.used, Out.none]⟩
    | cons _ _ => exact absurd g.len (by simp)
  | cons e es =>
    have hb := printEls_bound (e :: es) gs true .none g.len hgood
      (fun j => by rw [← mins_eq _ hmin]; exact g.lo j) (Or.inl (by simp))
    refine ⟨hb.safe, ?_⟩
    have h3 := hb.used_le
    have hsum := g.sum_le rfl
    rw [compMinLines_eq _ hmin] at hsum
    simp only [if_true] at h3
    have : (Out.none.used : Int) = 0 := rfl
    omega

theorem compositeDec_good (els : List View) (hne : els ≠ []) (hgood : ∀ e ∈ els, Good e) : Good (compositeDec els) :=
  .of_fitsIn (compMinLines_nonneg els hne fun e he => (hgood e he).min_nonneg) (compPrint_fits els hgood)

theorem compPrint_below_min (dec : Bool) (els : List View) (n : Int) (h : n < compMinLines els) :
    compPrint dec els n = ⟨.err, .none⟩ := by
  unfold compPrint; simp only; rw [if_pos (by omega)]

/-- `Print` never panics (nor runs out of model fuel), whatever height it is granted -/
def NeverPanics (v : View) : Prop :=
  ∀ n : Nat, (v.print n).status ≠ .panic ∧ (v.print n).status ≠ .outOfFuel

/-- a good composite never panics at any height: below its minimum `Composite.Print` returns an error -/
theorem composite_safe {els : List View} (hg : Good (composite els)) : NeverPanics (composite els) := fun n => by
  by_cases hn : (composite els).minLines ≤ (n : Int)
  · exact (hg.fitsIn n hn).safe
  · show (compPrint false els n).status ≠ .panic ∧ (compPrint false els n).status ≠ .outOfFuel
    rw [compPrint_below_min false els n (Int.not_le.1 hn)]
    exact ⟨by decide, by decide⟩

/-- the view declares a fixed height -/
structure FixedHeight (v : View) : Prop where
  eq : v.maxLines = v.minLines
  nonneg : 0 ≤ v.minLines

theorem compMaxLoop_fixed (spaces : Int) (els : List View) (h : ∀ e ∈ els, FixedHeight e)
    (acc : Int) : compMaxLoop spaces els acc = acc + sumInts (els.map (·.minLines)) + spaces := by
  induction els generalizing acc with
  | nil => simp [compMaxLoop, sumInts]
  | cons e es ih =>
    have he := h e (by simp)
    have := he.nonneg
    unfold compMaxLoop
    rw [he.eq, if_neg (by omega), ih (fun x hx => h x (by simp [hx]))]
    simp only [List.map_cons, sumInts]; omega

theorem compMaxLines_fixed (els : List View) (h : ∀ e ∈ els, FixedHeight e) : compMaxLines els = compMinLines els := by
  unfold compMaxLines compMinLines
  rw [compMaxLoop_fixed _ _ h]
  omega

/-- the bounds of a composite of consistent views are consistent -/
theorem compMaxLoop_ge (spaces : Int) (els : List View)
    (h : ∀ e ∈ els, e.maxLines < 0 ∨ e.minLines ≤ e.maxLines) (acc : Int) :
    compMaxLoop spaces els acc < 0 ∨ acc + sumInts (els.map (·.minLines)) + spaces ≤ compMaxLoop spaces els acc := by
  induction els generalizing acc with
  | nil => right; simp [compMaxLoop, sumInts]
  | cons e es ih =>
    unfold compMaxLoop
    by_cases hm : e.maxLines < 0
    · left; rw [if_pos hm]; omega
    · rw [if_neg hm]
      rcases ih (fun x hx => h x (by simp [hx])) (acc + e.maxLines) with h1 | h1
      · left; exact h1
      · right
        have := h e (by simp)
        simp only [List.map_cons, sumInts]; omega

theorem compMaxLines_ge (els : List View) (h : ∀ e ∈ els, e.maxLines < 0 ∨ e.minLines ≤ e.maxLines) :
    compMaxLines els < 0 ∨ compMinLines els ≤ compMaxLines els := by
  unfold compMaxLines compMinLines
  rcases compMaxLoop_ge (elementSpaces els) els h 0 with h1 | h1
  · exact Or.inl h1
  · exact Or.inr (by omega)

/-- At every height the rows left cover all that the elements can still take.  Then the `distributeLines` of the code
computes the same grants as the variant with `remLines--` (`distribute_agree`). -/
def Covered (els : List View) : Prop :=
  ∀ rem : Int, 0 ≤ rem → (posSum (diffLinesMax els (mins els) rem) : Int) ≤ rem

theorem composite_eq_dec {els : List View} (h : Covered els) : composite els = compositeDec els := by
  unfold composite compositeDec
  congr 1
  funext n
  unfold compPrint
  simp only
  split
  · rfl
  · rw [distribute_agree els _ (by omega) (h _ (by omega))]

theorem composite_good_of_covered {els : List View} (hne : els ≠ []) (hgood : ∀ e ∈ els, Good e)
    (hc : Covered els) : Good (composite els) := by
  rw [composite_eq_dec hc]
  exact compositeDec_good els hne hgood

/-- Both composites of the tool have two elements of which the second has a fixed height (the register table, the
prompt): the difference of the second element is `0`, that of the first at most the rows left. -/
theorem covered_pair (a b : View) (hb : FixedHeight b) : Covered [a, b] := by
  intro rem h
  have h0 := (diffOf_bounds ((mins [a, b]).headD 0) a.maxLines rem h).2
  have := hb.nonneg
  have h1 := diffOf_le_max b.minLines b.maxLines rem (by rw [hb.eq]; omega)
  rw [hb.eq, if_neg (Int.lt_irrefl _)] at h1
  show (((diffOf _ a.maxLines rem).toNat + ((diffOf (if b.minLines < 0 then 0 else b.minLines) b.maxLines rem).toNat + 0)
    : Nat) : Int) ≤ rem
  rw [if_neg (by omega), hb.eq]
  omega

theorem pair_good {a b : View} (ha : Good a) (hb : Good b) (hfix : b.maxLines = b.minLines) :
    Good (composite [a, b]) :=
  composite_good_of_covered (List.cons_ne_nil _ _) (forall_mem_pair ha hb) (covered_pair a b ⟨hfix, hb.min_nonneg⟩)

/-! The second half of C24: a view that declares a fixed height fills it.  The two notions include the premise "declares a
fixed height"; a composite of the tool's shape passes it on to its first element (`fixed_of_pair_fixed`), so they are
kept by `composite [·, b]` for `b` of fixed height. -/

/-- A view that declares a fixed height and is granted it fills it, if it returns without error (an unterminated last
row counting as two: the prompt). -/
def Exact (v : View) : Prop :=
  v.minLines = v.maxLines → (v.print v.minLines.toNat).status = .ok →
    ((v.print v.minLines.toNat).out.used : Int) = v.minLines

/-- … with complete rows only: what is asked of a view that has another one below it. -/
def ExactRows (v : View) : Prop :=
  v.minLines = v.maxLines → (v.print v.minLines.toNat).status = .ok →
    (v.print v.minLines.toNat).out = ⟨v.minLines.toNat, false⟩

theorem ExactRows.exact {v : View} (h : ExactRows v) (h0 : 0 ≤ v.minLines) : Exact v := fun hfix hok => by
  rw [h hfix hok]
  exact (congrArg Nat.cast (Nat.add_zero _)).trans (Int.toNat_of_nonneg h0)

theorem compPrint_min (dec : Bool) (els : List View) (h : ∀ e ∈ els, 0 ≤ e.minLines) :
    compPrint dec els (compMinLines els) = printEls els (els.map (·.minLines)) true .none := by
  obtain ⟨gs, hgs, g⟩ := distributeLines_spec dec els (compMinLines els - compMinLines els) (by omega)
  unfold compPrint
  simp only
  rw [if_neg (by omega), hgs, g.eq_mins (by omega), mins_eq els h]

theorem printEls_pair (a b : View) (ga gb : Int) :
    printEls [a, b] [ga, gb] true .none =
      if (a.print ga.toNat).status = .ok then
        ⟨(b.print gb.toNat).status, ((a.print ga.toNat).out.app .row).app (b.print gb.toNat).out⟩
      else ⟨(a.print ga.toNat).status, (a.print ga.toNat).out⟩ := by
  rw [printEls_cons, printEls_cons]
  simp only [if_true, none_app, Bool.false_eq_true, if_false, printEls]
  split
  · split <;> simp_all
  · rfl

theorem compMinLines_pair (a b : View) : compMinLines [a, b] = a.minLines + b.minLines + 1 := by
  simp only [compMinLines, elementSpaces, List.map_cons, List.map_nil, sumInts, List.length_cons, List.length_nil]
  omega

theorem fixed_of_pair_fixed (a b : View) (ha : 0 ≤ a.minLines) (hb : FixedHeight b)
    (h : compMinLines [a, b] = compMaxLines [a, b]) : a.minLines = a.maxLines := by
  have := hb.nonneg
  simp only [compMinLines, compMaxLines, compMaxLoop, elementSpaces, List.map_cons, List.map_nil, sumInts,
    List.length_cons, List.length_nil, hb.eq] at h
  split at h
  · omega
  · rw [if_neg (by omega)] at h
    omega

/-- **A composite of the tool's shape granted the fixed height it declares**: its first element declares a fixed height
too and both are granted theirs; if the first then writes complete rows only, the composite returns without error only
if both do, having written those rows, the separator and what the second element writes. -/
theorem pair_min {a b : View} (ha : 0 ≤ a.minLines) (hb : FixedHeight b)
    (hxa : ExactRows a) (hc : (composite [a, b]).minLines = (composite [a, b]).maxLines)
    (hok : ((composite [a, b]).print (composite [a, b]).minLines.toNat).status = .ok) :
    (b.print b.minLines.toNat).status = .ok ∧
      ((composite [a, b]).print (composite [a, b]).minLines.toNat).out =
        (⟨a.minLines.toNat + 1, false⟩ : Out).app (b.print b.minLines.toNat).out := by
  have h0 : ∀ e ∈ [a, b], 0 ≤ e.minLines := forall_mem_pair (p := fun e => 0 ≤ e.minLines) ha hb.nonneg
  have e : (composite [a, b]).print (composite [a, b]).minLines.toNat =
      compPrint false [a, b] (((compMinLines [a, b]).toNat : Nat) : Int) := rfl
  rw [e, Int.toNat_of_nonneg (compMinLines_nonneg _ (List.cons_ne_nil _ _) h0), compPrint_min false _ h0] at hok ⊢
  simp only [List.map_cons, List.map_nil, printEls_pair] at hok ⊢
  split at hok
  · rename_i hoka
    rw [if_pos hoka, hxa (fixed_of_pair_fixed a b ha hb hc) hoka]
    exact ⟨hok, rfl⟩
  · rename_i hna
    exact absurd hok hna

theorem pair_exact {a b : View} (ha : 0 ≤ a.minLines) (hb : FixedHeight b)
    (hxa : ExactRows a) (hxb : Exact b) : Exact (composite [a, b]) := fun hc hok => by
  obtain ⟨hokb, e⟩ := pair_min ha hb hxa hc hok
  rw [e, used_app_closed _ _ rfl]
  have := hxb hb.eq.symm hokb
  have : (composite [a, b]).minLines = a.minLines + b.minLines + 1 := compMinLines_pair a b
  push_cast
  omega

theorem pair_exactRows {a b : View} (ha : 0 ≤ a.minLines) (hb : FixedHeight b)
    (hxa : ExactRows a) (hxb : ExactRows b) : ExactRows (composite [a, b]) := fun hc hok => by
  refine eq_of_closed_used _ _ ?_ (pair_exact ha hb hxa (hxb.exact hb.nonneg) hc hok)
  obtain ⟨hokb, e⟩ := pair_min ha hb hxa hc hok
  rw [e, hxb hb.eq.symm hokb]
  exact app_closed _ _ rfl rfl

end Mltwist.Lemmas.Render
