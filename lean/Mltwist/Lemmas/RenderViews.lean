import Mltwist.Model.Render
import Mltwist.Spec.Render
import Mathlib.Tactic.Linarith
/-
Proofs for C24: how outputs (`Out`) append and count rows; the two forms in which the results of `Print`
are stated (`FitsIn`, `RowsOrErr`); the golden-ratio cut; what the leaf views (listing, memory,
registers) write.
-/
namespace Mltwist.Lemmas.Render
open Mltwist.Render

@[simp] theorem app_none (a : Out) : a.app .none = a := by
  cases a with | mk n o => simp [Out.app, Out.none]

@[simp] theorem none_app (a : Out) : Out.none.app a = a := by
  cases a with | mk n o => cases o <;> simp [Out.app, Out.none]

@[simp] theorem app_row (a : Out) : a.app .row = ⟨a.nl + 1, false⟩ := by
  simp [Out.app, Out.row]

@[simp] theorem app_nl (a b : Out) : (a.app b).nl = a.nl + b.nl := rfl

theorem used_app_le (a b : Out) : (a.app b).used ≤ a.used + b.used := by
  cases a with | mk an ao => cases b with | mk bn bo =>
  simp only [Out.app, Out.used]
  by_cases h : bn = 0
  · subst h; cases ao <;> cases bo <;> simp
  · simp [h]; split <;> omega

theorem used_app_closed (a b : Out) (ha : a.op = false) : (a.app b).used = a.nl + b.used := by
  cases a with | mk an ao => cases b with | mk bn bo =>
  simp only at ha; subst ha
  simp only [Out.app, Out.used]
  by_cases h : bn = 0
  · subst h; simp
  · simp [h]; omega

theorem app_closed (a b : Out) (ha : a.op = false) (hb : b.op = false) : (a.app b).op = false := by
  simp only [Out.app]; split <;> simp [ha, hb]

theorem eq_of_closed_used (o : Out) (m : Int) (hop : o.op = false) (hu : (o.used : Int) = m) :
    o = ⟨m.toNat, false⟩ := by
  cases o with
  | mk nl op =>
    simp only at hop
    subst hop hu
    simp [Out.used]

theorem nl_le_used (a : Out) : a.nl ≤ a.used := by simp [Out.used]

/-- `Print` ended without a crash (nor out of model fuel) having used at most `n` rows: what C24 asks of a call
at a height of at least the minimum (`Good.fits`). -/
structure FitsIn (r : Res) (n : Int) : Prop where
  safe : r.status ≠ .panic ∧ r.status ≠ .outOfFuel
  used_le : (r.out.used : Int) ≤ n

/-- `Print` returned nil having written exactly `k` rows, or an error having written fewer; all rows complete.
What the leaf views do (listing and memory view: always the first). -/
def RowsOrErr (r : Res) (k : Nat) : Prop :=
  (r.status = .ok ∧ r.out = ⟨k, false⟩) ∨ (r.status = .err ∧ r.out.op = false ∧ r.out.nl < k)

theorem RowsOrErr.ok (k : Nat) : RowsOrErr ⟨.ok, ⟨k, false⟩⟩ k := Or.inl ⟨rfl, rfl⟩

theorem RowsOrErr.out_eq {r : Res} {k : Nat} (h : RowsOrErr r k) (hok : r.status = .ok) : r.out = ⟨k, false⟩ := by
  rcases h with ⟨_, h2⟩ | ⟨h1, _⟩
  · exact h2
  · rw [hok] at h1; cases h1

theorem RowsOrErr.safe {r : Res} {k : Nat} (h : RowsOrErr r k) : r.status ≠ .panic ∧ r.status ≠ .outOfFuel := by
  rcases h with ⟨h1, _⟩ | ⟨h1, _⟩ <;> rw [h1] <;> exact ⟨nofun, nofun⟩

theorem RowsOrErr.fitsIn {r : Res} {k n : Nat} (h : RowsOrErr r k) (hk : k ≤ n) : FitsIn r n := by
  refine ⟨h.safe, ?_⟩
  rcases h with ⟨_, h2⟩ | ⟨_, h2, h3⟩
  · rw [h2]; exact Int.ofNat_le.mpr hk
  · simp only [Out.used, h2, Bool.false_eq_true, if_false, Nat.add_zero]; omega

theorem phiOK_zero (n : Nat) : phiOK n 0 = true := by simp [phiOK]

theorem phiCutFrom_eq (n b : Nat) : phiCutFrom n b = Nat.findGreatest (fun k => phiOK n k = true) b := by
  induction b with
  | zero => rfl
  | succ k ih => rw [phiCutFrom, Nat.findGreatest_succ, ih]

theorem phiCut_eq (n : Nat) : phiCut n = Nat.findGreatest (fun k => phiOK n k = true) n := phiCutFrom_eq n n

theorem phiOK_le (n k : Nat) (h : phiOK n k = true) : 3 * k ≤ 2 * n := by
  simp [phiOK] at h; exact h.1

theorem phiCut_ok (n : Nat) : phiOK n (phiCut n) = true :=
  phiCut_eq n ▸ Nat.findGreatest_spec (P := fun k => phiOK n k = true) (Nat.zero_le n) (phiOK_zero n)

theorem phiCut_max (n k : Nat) (h : phiOK n k = true) : k ≤ phiCut n :=
  phiCut_eq n ▸ Nat.le_findGreatest (by have := phiOK_le n k h; omega) h

theorem phiCut_succ_not (n : Nat) : phiOK n (phiCut n + 1) = false := by
  cases h : phiOK n (phiCut n + 1) with
  | false => rfl
  | true => have := phiCut_max n _ h; omega

theorem phiCut_lt (n : Nat) (hn : 1 ≤ n) : phiCut n < n := by
  have := phiOK_le n _ (phiCut_ok n); omega

/-- `phiOK n ·` is downward closed: `x ↦ x² − 3nx + n²` decreases up to `3n/2`, the difference of its values at
`a ≤ b` being `(b − a)(3n − a − b)`. -/
theorem phiOK_anti {n a b : Nat} (hab : a ≤ b) (h : phiOK n b = true) : phiOK n a = true := by
  simp only [phiOK, Bool.and_eq_true, decide_eq_true_eq] at h ⊢
  refine ⟨by omega, ?_⟩
  have hp : (0 : Int) ≤ (b - a) * (3 * n - a - b) := mul_nonneg (by omega) (by omega)
  have h2 : (3 * n * b : Int) ≤ b * b + n * n := by exact_mod_cast h.2
  rw [← Int.ofNat_le]
  push_cast
  linarith

/-- The integer conditions of the model and of the specification say the same: with `(2n − 3k)²` multiplied
out, `5k² ≤ (2n − 3k)²` is `12nk ≤ 4n² + 4k²`. -/
theorem leDivPhiSq_iff (n k : Nat) : Spec.Render.leDivPhiSq n k = phiOK n k := by
  simp only [Spec.Render.leDivPhiSq, phiOK]
  congr 1 <;> rw [decide_eq_decide]
  · omega
  · rw [← Int.ofNat_le]
    push_cast
    constructor <;> intro h <;> linarith

theorem isPhiCut_eq (n k : Nat) : Spec.Render.isPhiCut n k = (phiOK n k && !phiOK n (k + 1)) := by
  rw [Spec.Render.isPhiCut, leDivPhiSq_iff, ← leDivPhiSq_iff n (k + 1), Int.natCast_succ]

theorem rowsLoop_ok (size : Nat) (k i a : Nat) (h : i + k ≤ size) :
    rowsLoop size k i ⟨a, false⟩ = ⟨.ok, ⟨a + k, false⟩⟩ := by
  induction k generalizing i a with
  | zero => rfl
  | succ k ih =>
    rw [rowsLoop, if_pos (by omega), app_row, ih (i + 1) (a + 1) (by omega), Nat.add_right_comm, Nat.add_assoc]

theorem rowsLoop_panic (size : Nat) (k i : Nat) (acc : Out) (hk : 0 < k) (h : size < i + k) :
    (rowsLoop size k i acc).status = .panic := by
  induction k generalizing i acc with
  | zero => omega
  | succ k ih =>
    unfold rowsLoop
    split
    · exact ih (i + 1) _ (by omega) (by omega)
    · rfl

theorem linesPrintPinned_panic_iff (L c n : Nat) (hc : c < L) :
    (linesPrintPinned L c n).status = .panic ↔ L < (c - phiCut n) + n := by
  unfold linesPrintPinned
  simp only [Out.none]
  constructor
  · intro h
    by_contra hle
    rw [rowsLoop_ok _ _ _ _ (by omega)] at h
    cases h
  · intro h
    exact rowsLoop_panic _ _ _ _ (by omega) (by omega)

theorem linesBegin_cursor (L c n : Nat) (hc : c < L) (hn : 1 ≤ n) :
    linesBegin L c n ≤ c ∧ c < linesBegin L c n + Spec.Render.linesRows L n := by
  have h1 := phiCut_lt n hn
  unfold linesBegin Spec.Render.linesRows
  simp only
  by_cases h : (c - phiCut n) + n > L
  · rw [if_pos h]
    by_cases hn : n ≤ L
    · rw [if_pos hn]; omega
    · rw [if_neg hn]; omega
  · rw [if_neg h, if_pos (by omega)]; omega

theorem linesView_print (L c n : Nat) :
    (linesView L c).print n = ⟨.ok, ⟨Spec.Render.linesRows L n, false⟩⟩ := by
  show linesPrint L c n = _
  unfold linesPrint Spec.Render.linesRows
  simp only [Out.none]
  split
  · rw [rowsLoop_ok _ _ _ _ (by omega)]
    congr 2
    split <;> omega
  · rw [rowsLoop_ok _ _ _ _ (by omega), if_pos (by omega)]
    congr 2
    omega

theorem memView_print_empty (c n : Nat) : (memView 0 c).print n = ⟨.ok, ⟨5, false⟩⟩ := by
  simp [memView, memPrint]

theorem memView_print (R c n : Nat) (hc : c < R) :
    (memView R c).print n = ⟨.ok, ⟨Spec.Render.memRows R (c - phiCut n) n, false⟩⟩ := by
  show memPrint R c n = _
  unfold memPrint Spec.Render.memRows
  rw [if_neg (Nat.ne_zero_of_lt hc)]
  simp only [Out.none]
  split
  · rw [rowsLoop_ok _ _ _ _ (by omega), if_neg (by omega), Nat.zero_add]
  · rw [rowsLoop_ok _ _ _ _ (by omega), if_pos (by omega)]
    congr 2
    omega

theorem regPrintLine_status (row : List Reg) :
    (regPrintLine row).status = .ok ∨ (regPrintLine row).status = .err := by
  unfold regPrintLine; simp only; split <;> simp

theorem regLoop_spec : ∀ (l : List Reg) (a : Nat),
    RowsOrErr (regLoop l ⟨a, false⟩) (a + Spec.Render.regRows l.length)
  | [], a => Or.inl ⟨rfl, rfl⟩
  | [x], a => by
    rcases regPrintLine_status [x] with h | h
    · left; simp [regLoop, h, Spec.Render.regRows]
    · right; simp [regLoop, h, Spec.Render.regRows]
  | x :: y :: rest, a => by
    have t : Spec.Render.regRows (x :: y :: rest).length = Spec.Render.regRows rest.length + 1 := by
      simp only [Spec.Render.regRows, List.length_cons]; omega
    unfold RowsOrErr
    rcases regPrintLine_status [x, y] with h | h
    · rw [show regLoop (x :: y :: rest) ⟨a, false⟩ = regLoop rest ⟨a + 1, false⟩ by simp [regLoop, h], t]
      rcases regLoop_spec rest (a + 1) with ⟨h1, h2⟩ | ⟨h1, h2, h3⟩
      · exact Or.inl ⟨h1, by rw [h2, Nat.add_right_comm, Nat.add_assoc]⟩
      · exact Or.inr ⟨h1, h2, by omega⟩
    · rw [show regLoop (x :: y :: rest) ⟨a, false⟩ = ⟨.err, ⟨a, false⟩⟩ by simp [regLoop, h], t]
      exact Or.inr ⟨rfl, rfl, by show a < _; omega⟩

abbrev isIP : Reg → Bool := fun r => r.key == ipKey

/-- in a register file (distinct keys) at most one register is the instruction pointer -/
def OneIP (regs : List Reg) : Prop := (regs.filter isIP).length ≤ 1

theorem oneIP_of_nodup : ∀ {regs : List Reg}, (regs.map (·.key)).Nodup → OneIP regs
  | [], _ => Nat.zero_le 1
  | r :: rs, h => by
    obtain ⟨hr, hrs⟩ := List.nodup_cons.mp h
    unfold OneIP
    rw [List.filter_cons]
    split
    · next hip =>
      -- no other register has the key of `r`
      rw [List.filter_eq_nil_iff.mpr fun x hx hxip =>
        hr (List.mem_map.mpr ⟨x, hx, (eq_of_beq hxip).trans (eq_of_beq hip).symm⟩)]
      exact Nat.le_refl 1
    · exact oneIP_of_nodup hrs

theorem OneIP.perm {l l' : List Reg} (hp : l.Perm l') (h : OneIP l) : OneIP l' := by
  unfold OneIP at h ⊢
  rwa [← (hp.filter isIP).length_eq]

theorem length_filter_not (regs : List Reg) :
    (regs.filter (fun r => !(r.key == ipKey))).length + (regs.filter isIP).length = regs.length := by
  induction regs with
  | nil => rfl
  | cons r rs ih =>
    by_cases h : (r.key == ipKey) = true
    · simp [h]; omega
    · simp [h]; omega

theorem any_isIP (regs : List Reg) : regs.any (·.key == ipKey) = decide (0 < (regs.filter isIP).length) := by
  rw [Bool.eq_iff_iff, List.any_eq_true, decide_eq_true_eq, List.length_pos_iff_exists_mem]
  simp only [List.mem_filter]

theorem regLines_def (regs : List Reg) :
    regLines regs = Spec.Render.regRows (if regs.any (·.key == ipKey) then regs.length - 1 else regs.length) := by
  unfold regLines Spec.Render.regRows
  simp only
  generalize (if regs.any (·.key == ipKey) = true then regs.length - 1 else regs.length) = c
  split <;> omega

theorem regLines_eq (regs : List Reg) (h1 : OneIP regs) :
    regLines regs = Spec.Render.regRows (regs.filter (fun r => !(r.key == ipKey))).length := by
  have hl := length_filter_not regs
  unfold OneIP at h1
  rw [regLines_def, any_isIP]
  congr 1
  split
  · rename_i h; rw [decide_eq_true_eq] at h; omega
  · rename_i h; rw [decide_eq_true_eq] at h; omega

theorem regView_print (regs : List Reg) (h1 : OneIP regs) (n : Nat) :
    RowsOrErr ((regView regs).print n) (regLines regs) := by
  rw [regLines_eq regs h1, ← Nat.zero_add (Spec.Render.regRows _)]
  exact regLoop_spec (regs.filter (fun r => !(r.key == ipKey))) 0

/-- F25: the register view before the repair writes the rows of *all* registers -/
theorem regPrintPinned_spec (regs : List Reg) (n : Nat) (hok : ((regViewPinned regs).print n).status = .ok) :
    ((regViewPinned regs).print n).out = ⟨Spec.Render.regRows regs.length, false⟩ := by
  have := (regLoop_spec regs 0).out_eq hok
  rwa [Nat.zero_add] at this

end Mltwist.Lemmas.Render
