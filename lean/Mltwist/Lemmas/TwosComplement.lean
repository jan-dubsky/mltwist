import Mltwist.Spec.Riscv
/-
Two's complement at bit level: `wrap n i`, the `n`-bit residue of an integer, and `sx n v`, the signed reading of the low
`n` bits of a number, for ANY `n`; they are inverse to each other on the signed range (`wrap_sx`, `sx_wrap`), `wrap` is
compatible with addition and multiplication, and linear on `[0, 2^n)` and on `[-2^n, 0)` (`wrap_of_nonneg`, `wrap_of_neg`).
The byte-level notions of the expression IR, `Spec.ofInt W` and `toInt W`, are the case `n = 8 * W` (`EvalBasic`); the
RISC-V reference uses `n = xlen` and the widths of the immediates.  `wrap` and `sx` are defined in `Spec/Riscv.lean`, which
is the only reason for the import; nothing else of the RISC-V reference is used here.
-/
namespace Mltwist.Lemmas.TwosComplement
open Mltwist.Spec.Rv

theorem wrap_lt (n : Nat) (i : Int) : wrap n i < 2 ^ n := by
  have hM : (0 : Int) < ((2 ^ n : Nat) : Int) := Int.natCast_pos.mpr (Nat.two_pow_pos n)
  have h1 := Int.emod_lt_of_pos i hM
  have h2 := Int.emod_nonneg i (Int.ne_of_gt hM)
  unfold wrap
  omega

theorem natCast_wrap (n : Nat) (i : Int) : ((wrap n i : Nat) : Int) = i % ((2 ^ n : Nat) : Int) := by
  unfold wrap
  exact Int.toNat_of_nonneg (Int.emod_nonneg _ (by have := Nat.two_pow_pos n; omega))

theorem wrap_natCast (n x : Nat) : wrap n (x : Int) = x % 2 ^ n := by
  unfold wrap
  rw [← Int.natCast_emod, Int.toNat_natCast]

theorem wrap_of_lt {n x : Nat} (h : x < 2 ^ n) : wrap n (x : Int) = x := by
  rw [wrap_natCast, Nat.mod_eq_of_lt h]

theorem wrap_mod (n : Nat) (i : Int) : wrap n i % 2 ^ n = wrap n i := Nat.mod_eq_of_lt (wrap_lt n i)

theorem wrap_congr {n : Nat} {i j : Int} (h : i % ((2 ^ n : Nat) : Int) = j % ((2 ^ n : Nat) : Int)) :
    wrap n i = wrap n j := by
  unfold wrap; rw [h]

theorem wrap_add_mul (n : Nat) (i k : Int) : wrap n (i + k * ((2 ^ n : Nat) : Int)) = wrap n i :=
  wrap_congr (Int.add_mul_emod_self_right ..)

theorem wrap_of_nonneg {n : Nat} {i : Int} (h0 : 0 ≤ i) (h1 : i < ((2 ^ n : Nat) : Int)) : wrap n i = i.toNat := by
  unfold wrap
  rw [Int.emod_eq_of_lt h0 h1]

theorem wrap_of_neg {n : Nat} {i : Int} (h0 : -((2 ^ n : Nat) : Int) ≤ i) (h1 : i < 0) :
    wrap n i = (i + ((2 ^ n : Nat) : Int)).toNat := by
  rw [← wrap_add_mul n i 1, Int.one_mul]
  exact wrap_of_nonneg (by omega) (by omega)

theorem wrap_mul (n : Nat) (i j : Int) : (wrap n i * wrap n j) % 2 ^ n = wrap n (i * j) := by
  apply Int.natCast_inj.mp
  rw [Int.natCast_emod, Int.natCast_mul, natCast_wrap, natCast_wrap, natCast_wrap, ← Int.mul_emod]

theorem eq_wrap_of {n x : Nat} {i : Int} (hx : x < 2 ^ n)
    (h : (x : Int) % ((2 ^ n : Nat) : Int) = i % ((2 ^ n : Nat) : Int)) : x = wrap n i := by
  rw [← wrap_of_lt hx]; exact wrap_congr h

theorem wrap_mod_of_le {m n : Nat} (h : m ≤ n) (i : Int) : wrap n i % 2 ^ m = wrap m i := by
  apply Int.natCast_inj.mp
  rw [Int.natCast_emod, natCast_wrap, natCast_wrap]
  exact Int.emod_emod_of_dvd _ (Int.natCast_dvd_natCast.mpr (Nat.pow_dvd_pow 2 h))

theorem add_wrap_mod (n a : Nat) (i : Int) : (a + wrap n i) % 2 ^ n = wrap n ((a : Int) + i) := by
  apply Int.natCast_inj.mp
  rw [Int.natCast_emod, Int.natCast_add, natCast_wrap, natCast_wrap, Int.add_emod_emod]

theorem sx_eq {n v : Nat} (hv : v < 2 ^ n) :
    sx n v = if v < 2 ^ (n - 1) then (v : Int) else (v : Int) - (2 ^ n : Nat) := by
  unfold sx
  rw [Nat.mod_eq_of_lt hv]

theorem sx_mod (n v : Nat) : sx n (v % 2 ^ n) = sx n v := by
  unfold sx; rw [Nat.mod_mod]

theorem sx_bounds {n : Nat} (hn : 1 ≤ n) (v : Nat) :
    -((2 ^ (n - 1) : Nat) : Int) ≤ sx n v ∧ sx n v < ((2 ^ (n - 1) : Nat) : Int) := by
  have h2 := Nat.two_pow_pred_mul_two hn
  have hv := Nat.mod_lt v (Nat.two_pow_pos n)
  rw [← sx_mod, sx_eq hv]
  split <;> omega

theorem wrap_sx {n : Nat} (v : Nat) : wrap n (sx n v) = v % 2 ^ n := by
  have hv := Nat.mod_lt v (Nat.two_pow_pos n)
  symm
  apply eq_wrap_of hv
  unfold sx
  split
  · rfl
  · have : ((v % 2 ^ n : Nat) : Int) - ((2 ^ n : Nat) : Int)
        = ((v % 2 ^ n : Nat) : Int) + (-1) * ((2 ^ n : Nat) : Int) := by omega
    rw [this, Int.add_mul_emod_self_right]

theorem sx_wrap {n : Nat} (hn : 1 ≤ n) {i : Int} (h0 : -((2 ^ (n - 1) : Nat) : Int) ≤ i)
    (h1 : i < ((2 ^ (n - 1) : Nat) : Int)) : sx n (wrap n i) = i := by
  have h2 := Nat.two_pow_pred_mul_two hn
  have hc := natCast_wrap n i
  rw [sx_eq (wrap_lt n i)]
  by_cases hi : 0 ≤ i
  · rw [Int.emod_eq_of_lt hi (by omega)] at hc
    split <;> omega
  · rw [← Int.add_mul_emod_self_right i 1, Int.one_mul, Int.emod_eq_of_lt (by omega) (by omega)] at hc
    split <;> omega

theorem sx_emod (n v : Nat) : sx n v % ((2 ^ n : Nat) : Int) = (v : Int) % ((2 ^ n : Nat) : Int) := by
  rw [← natCast_wrap, wrap_sx, Int.natCast_emod]

/-- the high half of a double-width wrapped value (`mulh`, `mulhsu`).  The double width is a variable `m` with an equation,
since the caller has it as `8 * (2 * W)` against `n = xlen = 8 * W`, which does not unify with `n + n`. -/
theorem wrap_high {n m : Nat} (hm : m = n + n) (P : Int) :
    wrap m P / 2 ^ n = wrap n (P / ((2 ^ n : Nat) : Int)) := by
  subst hm
  have hpos : (0 : Int) < ((2 ^ n : Nat) : Int) := Int.natCast_pos.mpr (Nat.two_pow_pos n)
  have hMM : ((2 ^ (n + n) : Nat) : Int) = ((2 ^ n : Nat) : Int) * ((2 ^ n : Nat) : Int) := by
    rw [Nat.pow_add, Int.natCast_mul]
  have hN := natCast_wrap (n + n) P
  have hlt := wrap_lt (n + n) P
  generalize wrap (n + n) P = N at hN hlt
  -- split `P` at `2^(2n)`: the low part is `N`, the rest a multiple of `2^n * 2^n`
  have hdecomp : P = (N : Int)
      + (((2 ^ n : Nat) : Int) * (P / ((2 ^ (n + n) : Nat) : Int))) * ((2 ^ n : Nat) : Int) := by
    have := Int.emod_add_mul_ediv P ((2 ^ (n + n) : Nat) : Int)
    rw [← hN, hMM] at this
    rw [hMM, Int.mul_right_comm]
    exact this.symm
  have hdiv : N / 2 ^ n < 2 ^ n := by
    rw [Nat.div_lt_iff_lt_mul (Nat.two_pow_pos n), ← Nat.pow_add]; exact hlt
  -- divide by `2^n`: the multiple of `2^n` comes out of the quotient
  have hq : P / ((2 ^ n : Nat) : Int) = ((N / 2 ^ n : Nat) : Int)
      + ((2 ^ n : Nat) : Int) * (P / ((2 ^ (n + n) : Nat) : Int)) := by
    have : P / ((2 ^ n : Nat) : Int) = ((N : Int)
        + (((2 ^ n : Nat) : Int) * (P / ((2 ^ (n + n) : Nat) : Int))) * ((2 ^ n : Nat) : Int))
        / ((2 ^ n : Nat) : Int) := congrArg (· / ((2 ^ n : Nat) : Int)) hdecomp
    rw [this, Int.add_mul_ediv_right _ _ (by omega), ← Int.natCast_ediv]
  have : wrap n (((N / 2 ^ n : Nat) : Int)
      + ((2 ^ n : Nat) : Int) * (P / ((2 ^ (n + n) : Nat) : Int)))
      = wrap n ((N / 2 ^ n : Nat) : Int) := by
    apply wrap_congr
    rw [Int.mul_comm, Int.add_mul_emod_self_right]
  rw [hq, this, wrap_of_lt hdiv]

end Mltwist.Lemmas.TwosComplement

-- `wrap` absorbs `%` and an inner `wrap`, under the lifting tower's names; nothing uses these three (the towers use the above)
namespace Mltwist.Lemmas.RiscvLift
open Mltwist.Spec.Rv Mltwist.Lemmas.TwosComplement

theorem wrap_emod (n : Nat) (i : Int) : wrap n (i % ((2 ^ n : Nat) : Int)) = wrap n i :=
  wrap_congr (Int.emod_emod_of_dvd _ (Int.dvd_refl _))

theorem wrap_add_natCast_mod (n a b : Nat) : (a + b) % 2 ^ n = wrap n ((a : Int) + b) := by
  rw [← Int.natCast_add, wrap_natCast]

theorem wrap_add_wrap (n : Nat) (a i : Int) : wrap n (a + (wrap n i : Nat)) = wrap n (a + i) := by
  apply wrap_congr; rw [natCast_wrap, Int.add_emod_emod]

end Mltwist.Lemmas.RiscvLift
