import Mltwist.Lemmas.EmulatorFill
import Mltwist.Lemmas.OverlayLoad
/-
Emulator (C03, C04): reading memory.  A memory that stores constants only returns, for every successful load in the
domain of C14, a closed well-formed expression (`Shape`; what comes back is a constant, or shifts, width gadgets and
`BitOr`s over constants — a cut piece of a wider store, several stores, image bytes + written bytes — but only
closedness and well-formedness are used); by C09 it folds to a constant of its value, which is why the repaired
`memValue` (F03) cannot panic.  `memValue` asks the provider for what `Missing` returns (exact, C16): sub-ranges of
the load, each unknown at that moment; afterwards every byte of the range is present and the result is the
little-endian value of the bytes the FINAL state holds.
-/
namespace Mltwist.Lemmas.Emulator
open Mltwist Mltwist.State Mltwist.Overlay Mltwist.Emulator Mltwist.Spec.Overlay Mltwist.Interval
open Mltwist.Lemmas.Overlay (Sub sub_inDom sub_facts in_iff forall_in_iff Loads)

/-- closed (no load left) and well formed: the expressions that fold to a constant of their value (it unfolds to
`Lemmas.Sparse.ClosedWf`, whose lemmas `closedWf_*` are used for it) -/
def Shape (e : Expr) : Prop := e.closed = true ∧ e.wf = true

theorem shape_of_byteConst {e : Expr} (h : IsByteConst e) : Shape e := by
  obtain ⟨c, rfl, h1, h2⟩ := h
  exact Lemmas.Sparse.closedWf_const ⟨h1, h2⟩

/-- the step of the overlay's or-loop keeps the shape -/
theorem shape_step (w : Nat) (h1 : 1 ≤ w) (h2 : w ≤ 255) (acc ex : Expr) (k : Nat) (ha : Shape acc) (he : Shape ex) :
    Shape (Tools.bitOr acc (offsetExpr ex k w) w) :=
  Lemmas.Sparse.closedWf_bitOr ha (Lemmas.Sparse.closedWf_binary he
    (Lemmas.Sparse.closedWf_constUint _ (by decide)) .lsh ⟨h1, h2⟩) ⟨h1, h2⟩

theorem mem_shape : ∀ m : Mem, m.Inv → AllConst m → Loads Shape m.view
  | .bytes bs, hi, _ => Lemmas.Overlay.bytes_loads (fun _ => Lemmas.Sparse.closedWf_const) bs hi
  | .sparse _, hi, hc => Lemmas.Overlay.sparse_loads hi fun kv h => shape_of_byteConst (hc kv h)
  | .overlay b o, hi, hc =>
    Lemmas.Overlay.overlay_loads (Lemmas.Overlay.mem_laws b hi.1) (Lemmas.Overlay.mem_laws o hi.2) (fun w hw => shape_step w hw.1 hw.2)
      (mem_shape b hi.1 hc.1) (mem_shape o hi.2 hc.2)

theorem memmap_shape {m : MemMap} (hi : m.Inv) (hc : MemsConst m) {key : String} {a w : Nat} {e : Expr}
    (hd : InDom a w) (h : m.load key a w = .ok (some e)) : Shape e := by
  cases hg : assocGet key m with
  | none => rw [Lemmas.Overlay.memmap_load_of_none hg] at h; cases h
  | some mem =>
    rw [Lemmas.Overlay.memmap_load_of_get hg] at h
    exact mem_shape mem (hi key mem hg) (hc key mem hg) a w e hd h

theorem foldConst_shape {e : Expr} (h : Shape e) :
    ∃ v, foldConst e = .ok v ∧ constFold e = .const v ∧ v.length = e.width ∧ ∀ ρ, leToNat v = e.eval ρ := by
  have hc := Lemmas.Transform.constFold_closed e h.1
  obtain ⟨v, hv⟩ := Lemmas.Transform.isConst_iff.1 hc
  refine ⟨v, by unfold foldConst; rw [hv], hv, ?_, fun ρ => ?_⟩
  · have := Lemmas.Transform.constFold_width e
    rw [hv] at this
    exact this
  · have := Lemmas.Transform.constFold_eval ρ e h.2
    rw [hv] at this
    exact this

theorem laws_of_inv {s : State} (h : Inv s) (key : String) : MemLaws (s.mems.view key) (s.mems.abs key) :=
  Lemmas.Overlay.memmap_laws s.mems h.good.1 key

/-- the request for the missing interval `i` of the address space `key` -/
def reqOf (key : String) (i : Intv) : Req := .mem key (ibegin i) (ilen i)

theorem fillMissing_spec (p : Provider) (key : String) {a w : Nat} (hd : InDom a w) :
    ∀ (l : List Intv) (c : Ctx), Inv c.st → (∀ i ∈ l, Sub a w i) → l.Pairwise (fun i j => i.2 < j.1) →
      (∀ i ∈ l, Unknown c.st (reqOf key i)) →
      ∃ c', fillMissing p key l c = .ok c' ∧ c'.log = c.log ++ l.map (reqOf key) ∧
        Fill p c.st (l.map (reqOf key)) c'.st ∧ c'.rep = c.rep ∧ c'.st.regs = c.st.regs ∧
        ∀ i ∈ l, KnownReq c'.st (reqOf key i)
  | [], c, _, _, _, _ => ⟨c, rfl, (List.append_nil _).symm, Fill.nil _, rfl, rfl, fun _ h => nomatch h⟩
  | i :: is, c, hi, hsub, hpw, hun => by
    obtain ⟨hdi, hai⟩ := hun i (List.mem_cons_self ..)
    obtain ⟨m', h1, _⟩ := Lemmas.State.storable_store hi.good key (ibegin i)
      (.const (Const.withWidth (p.mem key (ibegin i) (ilen i)) (ilen i))) (ilen i) hdi
    have hm := memFilled_of_store hdi hai h1
    have hi1 := hm.stores.inv hi
    have hpw' := List.pairwise_cons.1 hpw
    -- the remaining intervals stay unknown: they begin after the end of this one
    have hun1 : ∀ j ∈ is, Unknown { c.st with mems := m' } (reqOf key j) := by
      intro j hj
      obtain ⟨hdj, haj⟩ := hun j (List.mem_cons_of_mem _ hj)
      refine ⟨hdj, fun k hk => ?_⟩
      rw [hm.abs hi.good, if_neg]
      · exact haj k hk
      · have hlt := hpw'.1 j hj
        have hfi := sub_facts (hsub i (List.mem_cons_self ..)) hd
        have hfj := sub_facts (hsub j (List.mem_cons_of_mem _ hj)) hd
        rintro ⟨_, _, _⟩
        omega
    obtain ⟨c', g1, g2, g3, g4, g5, g6⟩ := fillMissing_spec p key hd is
      { c with st := { c.st with mems := m' }, log := c.log ++ [reqOf key i] }
      hi1 (fun j hj => hsub j (List.mem_cons_of_mem _ hj)) hpw'.2 hun1
    refine ⟨c', ?_, ?_, hm.fill.append g3, g4, g5, ?_⟩
    · unfold fillMissing
      simp only
      rw [h1]
      exact g1
    · rw [g2, List.append_assoc]
      rfl
    · intro j hj
      rcases List.mem_cons.1 hj with rfl | h
      · exact (known_of_supplied (hm.supplied hi.good)).mono (g3.stores.knowsMore hi1)
      · exact g6 j h

theorem load_spec {s : State} (hi : Inv s) (key : String) {addr w : Nat} (hd : InDom addr w) :
    (∃ e v, s.mems.load key addr w = .ok (some e) ∧ foldConst e = .ok v ∧ v.length = w ∧
      (∀ i, i < w → s.mems.abs key (addr + i) ≠ none) ∧ ∀ ρ, leToNat v = loadVal ρ (s.mems.abs key) addr w) ∨
    (s.mems.load key addr w = .ok none ∧ ¬ ∀ i, i < w → s.mems.abs key (addr + i) ≠ none) := by
  obtain ⟨r, h1, h2, h3⟩ := (laws_of_inv hi key).load addr w hd
  have h1' : s.mems.load key addr w = .ok r := h1
  cases r with
  | some e =>
    obtain ⟨hw, hv⟩ := h3 e rfl
    obtain ⟨v, hf, _, hlen, hval⟩ := foldConst_shape (memmap_shape hi.good.1 hi.mems hd h1')
    exact Or.inl ⟨e, v, h1', hf, hlen.trans hw, h2.1 (fun h => nomatch h), fun ρ => (hval ρ).trans (hv ρ)⟩
  | none => exact Or.inr ⟨h1', fun hp => h2.2 hp rfl⟩

theorem memValue_known (p : Provider) (c : Ctx) (key : String) (addr w : Nat) (hi : Inv c.st) (hd : InDom addr w)
    (hp : ∀ i, i < w → c.st.mems.abs key (addr + i) ≠ none) :
    ∃ v, memValue p c key addr w = .ok (v, c) ∧ v.length = w ∧
      ∀ ρ, leToNat v = loadVal ρ (c.st.mems.abs key) addr w := by
  rcases load_spec hi key hd with ⟨e, v, hl, hf, hlen, _, hval⟩ | ⟨_, hn⟩
  · refine ⟨v, ?_, hlen, hval⟩
    unfold memValue
    rw [accessBad_false hd.2.2, hl]
    simp only [hf, Bool.false_eq_true, if_false]
  · exact absurd hp hn

/-- what a successful `memValue` guarantees: the requests it made, the fills, the value as read from the final state -/
structure MemValOut (p : Provider) (key : String) (addr w : Nat) (c : Ctx) (v : List UInt8) (c' : Ctx) : Prop where
  log : ∃ l, c'.log = c.log ++ l ∧ Fill p c.st l c'.st ∧
    ∀ r ∈ l, ∃ a' w', r = .mem key a' w' ∧ addr ≤ a' ∧ a' + w' ≤ addr + w
  rep : c'.rep = c.rep
  regs : c'.st.regs = c.st.regs
  inv : Inv c'.st
  len : v.length = w
  present : ∀ i, i < w → c'.st.mems.abs key (addr + i) ≠ none
  value : ∀ ρ, leToNat v = loadVal ρ (c'.st.mems.abs key) addr w

theorem memValue_spec (p : Provider) (c : Ctx) (key : String) (addr w : Nat) (hi : Inv c.st)
    (hd : InDom addr w) : ∃ v c', memValue p c key addr w = .ok (v, c') ∧ MemValOut p key addr w c v c' := by
  by_cases hp : ∀ i, i < w → c.st.mems.abs key (addr + i) ≠ none
  · obtain ⟨v, hm, hlen, hval⟩ := memValue_known p c key addr w hi hd hp
    exact ⟨v, c, hm, ⟨Fills.refl _ _ c, rfl, rfl, hi, hlen, hp, hval⟩⟩
  rcases load_spec hi key hd with ⟨_, _, _, _, _, hp', _⟩ | ⟨hl, _⟩
  · exact absurd hp' hp
  -- some byte is missing: `Missing` is exact (C16), so its intervals are unknown requests
  obtain ⟨miss, hm1, hM, _⟩ := Lemmas.Overlay.missing_exact (laws_of_inv hi key) hd
  have hsub := hM.sub
  have hm1' : c.st.mems.missing key addr w = .ok miss := hm1
  have hun : ∀ i ∈ miss, Unknown c.st (reqOf key i) := fun i hi' =>
    ⟨sub_inDom (hsub i hi') hd,
      (forall_in_iff (hsub i hi') hd fun x => c.st.mems.abs key x = none).1 fun _ hx => hM.sound hi' hx⟩
  obtain ⟨c1, g1, g2, g3, g4, g5, g6⟩ := fillMissing_spec p key hd miss c hi hsub
    ((Lemmas.Interval.normal_iff miss).1 hM.normal).2 hun
  have hi1 := g3.stores.inv hi
  have hall : ∀ i, i < w → c1.st.mems.abs key (addr + i) ≠ none := by
    intro i hi'
    by_cases hx : c.st.mems.abs key (addr + i) = none
    · obtain ⟨j, hj, hin⟩ := hM.complete hi' hx
      have hb := (in_iff (hsub j hj) hd _).1 hin
      have := g6 j hj (addr + i - ibegin j) (by omega)
      rwa [Nat.add_sub_cancel' hb.1] at this
    · exact (g3.stores.knowsMore hi).2 key _ hx
  rcases load_spec hi1 key hd with ⟨e, v, hl1, hf, hlen, _, hval⟩ | ⟨_, hn⟩
  · refine ⟨v, c1, ?_, ⟨⟨miss.map (reqOf key), g2, g3, ?_⟩, g4, g5, hi1, hlen, hall, hval⟩⟩
    · unfold memValue
      rw [accessBad_false hd.2.2, hl, hm1']
      simp only [g1, hl1, hf, Bool.false_eq_true, if_false]
    · intro r hr
      obtain ⟨i, hi', rfl⟩ := List.mem_map.1 hr
      have := sub_facts (hsub i hi') hd
      exact ⟨ibegin i, ilen i, rfl, this.1, this.2.2.1⟩
  · exact absurd hall hn

/-- REPAIR F45: outside the domain of C14 `checkAccess` stops the step with the context untouched, before the provider
is asked anything for this load -/
theorem memValue_total (p : Provider) (c : Ctx) (key : String) (addr w : Nat) (hi : Inv c.st)
    (ha : addr < 2 ^ 64) (hw : 1 ≤ w ∧ w ≤ 255) :
    (InDom addr w ∧ ∃ v c', memValue p c key addr w = .ok (v, c') ∧ MemValOut p key addr w c v c') ∨
    (2 ^ 64 ≤ addr + w ∧ memValue p c key addr w = .error (.access c addr w)) := by
  by_cases h : addr + w < 2 ^ 64
  · exact Or.inl ⟨⟨hw.1, hw.2, h⟩, memValue_spec p c key addr w hi ⟨hw.1, hw.2, h⟩⟩
  · refine Or.inr ⟨Nat.le_of_not_lt h, ?_⟩
    unfold memValue
    rw [accessBad_true ha (Lemmas.RiscvLift.WOK.lt_two_pow64 hw) (Nat.le_of_not_lt h)]
    rfl

end Mltwist.Lemmas.Emulator
