import Mltwist.Model.Transform
import Mltwist.Spec.Subterms
/-
C28: `replaceAll` is the bottom-up map `Expr.mapBottomUp`, and when such a map changes nothing; the shape of `filter` that
`findAll` follows.
-/
namespace Mltwist.Lemmas.Structural
open Mltwist

/-- `filter` in the shape in which `findAll` treats a node: the node itself, then its children -/
theorem filter_cons_eq_append {α : Type} (p : α → Bool) (x : α) (l : List α) :
    (x :: l).filter p = (if p x then [x] else []) ++ l.filter p := by
  rw [List.filter_cons]
  split <;> rfl

theorem replaceAll_spec (k : Kind) (f : Expr → Option Expr) (e : Expr) :
    replaceAll k f e = e.mapBottomUp (fun s => if s.kind = k then (f s).getD s else s) := by
  induction e with
  | const bs => simp [replaceAll, Expr.mapBottomUp]
  | binary op a b w iha ihb =>
    rw [replaceAll, Expr.mapBottomUp, ← iha, ← ihb]
    by_cases hk : k = .binary
    · subst hk; simp [Expr.kind]
    · have hk' : ¬ Kind.binary = k := fun h => hk h.symm
      simp [Expr.kind, hk, hk']
  | less a b t f' w iha ihb iht ihf =>
    rw [replaceAll, Expr.mapBottomUp, ← iha, ← ihb, ← iht, ← ihf]
    by_cases hk : k = .less
    · subst hk; simp [Expr.kind]
    · have hk' : ¬ Kind.less = k := fun h => hk h.symm
      simp [Expr.kind, hk, hk']
  | memLoad key a w iha =>
    rw [replaceAll, Expr.mapBottomUp, ← iha]
    by_cases hk : k = .memLoad
    · subst hk; simp [Expr.kind]
    · have hk' : ¬ Kind.memLoad = k := fun h => hk h.symm
      simp [Expr.kind, hk, hk']
  | regLoad key w => simp [replaceAll, Expr.mapBottomUp]

theorem mapBottomUp_eq_self (g : Expr → Expr) (e : Expr) (h : ∀ s ∈ e.subterms, g s = s) :
    e.mapBottomUp g = e := by
  induction e with
  | const bs => exact h _ List.mem_cons_self
  | regLoad k w => exact h _ List.mem_cons_self
  | memLoad k a w iha =>
    simp only [Expr.subterms, List.mem_cons, or_imp, forall_and] at h
    rw [Expr.mapBottomUp, iha h.2, h.1 _ rfl]
  | binary op a b w iha ihb =>
    simp only [Expr.subterms, List.mem_cons, List.mem_append, or_imp, forall_and] at h
    rw [Expr.mapBottomUp, iha h.2.1, ihb h.2.2, h.1 _ rfl]
  | less a b t f w iha ihb iht ihf =>
    simp only [Expr.subterms, List.mem_cons, List.mem_append, or_imp, forall_and] at h
    rw [Expr.mapBottomUp, iha h.2.1.1.1, ihb h.2.1.1.2, iht h.2.1.2, ihf h.2.2, h.1 _ rfl]

end Mltwist.Lemmas.Structural
