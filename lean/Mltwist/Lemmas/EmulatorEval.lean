import Mltwist.Lemmas.EmulatorRegs
import Mltwist.Lemmas.EmulatorMem
import Mltwist.Lemmas.EmulatorEnds
/-
Emulator (C03, C04): evaluation.  Every theorem about a phase is one statement `Ends p Q c x post stop D`
(`EmulatorEnds`): the phase does not panic; it succeeds exactly inside its domain condition `D`; a stop by `checkAccess`
(REPAIR F45) is at a load node whose address, read from the state at the stop, does not fit the address space.  The
phases are sequenced by `Ends.bind`/`Ends.map` along the equations that put the model's functions into `andThen` form.

The results are pure functions of the state: `substMem` of the byte maps for the memory phase (`evalMemoryFully`) on an
expression after the register phase, `valBytes`/`evalEff` of the state for `eval` and `EffectsApply(efs, eval)`; the
state evolves by provider fills only; the report notes exactly the register and memory loads of the expressions, with
the values read.  As in the register phase (`RegsRead`), each postcondition speaks of the state the evaluation ends in
AND OF EVERY STATE EXTENDING IT (`MemOut.up`, `EvalsUp.up`), so that the evaluations of the operands, of the expressions
of an effect and of the effects of an instruction compose by instantiation.  Only the leaves look at a state:
`loadConst_ext` for a load, `RExt` itself for a register.
-/
namespace Mltwist.Lemmas.Emulator
open Mltwist Mltwist.State Mltwist.Overlay Mltwist.Emulator Mltwist.Spec.Overlay Mltwist.Interval

section
set_option smartUnfolding false

theorem evalMem_binary (p : Provider) (op : BinOp) (a b : Expr) (w : Nat) (c : Ctx) :
    evalMem p (.binary op a b w) c =
      andThen (evalMem p a c) fun a' c1 => andThen (evalMem p b c1) fun b' c2 => .ok (.binary op a' b' w, c2) := by
  rw [evalMem]; rfl

theorem evalMem_less (p : Provider) (a b t f : Expr) (w : Nat) (c : Ctx) :
    evalMem p (.less a b t f w) c =
      andThen (evalMem p a c) fun a' c1 => andThen (evalMem p b c1) fun b' c2 =>
      andThen (evalMem p t c2) fun t' c3 => andThen (evalMem p f c3) fun f' c4 => .ok (.less a' b' t' f' w, c4) := by
  rw [evalMem]; rfl

theorem evalMem_memLoad (p : Provider) (key : String) (a : Expr) (w : Nat) (c : Ctx) :
    evalMem p (.memLoad key a w) c =
      andThen (evalMem p a c) fun a' c1 =>
        match constFold a' with
        | .const ab =>
          andThen (memValue p c1 key (Const.constUint 8 ab).1 w) fun v c2 =>
            .ok (.const v, { c2 with rep := c2.rep.memRead key (Const.constUint 8 ab).1 v })
        | _ => .error (.panic .addrNotConst) := by
  rw [evalMem]; rfl

theorem eval_eq (p : Provider) (code : CodeView) (ex : Expr) (c : Ctx) :
    eval p code ex c = andThen (evalRegs p code ex c) fun e1 c1 => andThen (evalMem p e1 c1) fun e2 c2 =>
      match constFold e2 with
      | .const bs => .ok (bs, c2)
      | _ => .error (.panic .evalNotConst) := by
  unfold eval; rfl

theorem evalEffect_memStore (p : Provider) (code : CodeView) (v a : Expr) (k : String) (w : Nat) (c : Ctx) :
    evalEffect p code (.memStore v k a w) c = andThen (eval p code v c) fun v' c1 =>
      andThen (eval p code a c1) fun a' c2 => .ok (.memStore (.const v') k (.const a') w, c2) := by
  rw [evalEffect]; rfl

theorem evalEffect_regStore (p : Provider) (code : CodeView) (v : Expr) (k : String) (w : Nat) (c : Ctx) :
    evalEffect p code (.regStore v k w) c = andThen (eval p code v c) fun v' c1 => .ok (.regStore (.const v') k w, c1) := by
  rw [evalEffect]; rfl

theorem evalEffects_cons (p : Provider) (code : CodeView) (ef : Effect) (efs : List Effect) (c : Ctx) :
    evalEffects p code (ef :: efs) c = andThen (evalEffect p code ef c) fun ef' c1 =>
      andThen (evalEffects p code efs c1) fun efs' c2 => .ok (ef' :: efs', c2) := by
  rw [evalEffects]; rfl

end

/-- a fixed valuation for evaluating closed expressions and constant bytes -/
def ρ0 : Env := ⟨fun _ => 0, fun _ _ => 0⟩

/-- the bytes a load of `w` bytes at `addr` reads from the byte map -/
def loadConst (A : AMap) (key : String) (addr w : Nat) : List UInt8 := natToLE w (loadVal ρ0 (A key) addr w)

/-- every memory load replaced, bottom-up, by the constant the byte maps hold -/
def substMem (A : AMap) : Expr → Expr
  | .const bs => .const bs
  | .regLoad k w => .regLoad k w
  | .binary op a b w => .binary op (substMem A a) (substMem A b) w
  | .less a b t f w => .less (substMem A a) (substMem A b) (substMem A t) (substMem A f) w
  | .memLoad key a w => .const (loadConst A key ((substMem A a).eval ρ0 % 2 ^ 64) w)

/-- the address a load reads from: its address expression with the loads inside substituted, evaluated -/
def loadAddr (A : AMap) (a : Expr) : Nat := (substMem A a).eval ρ0 % 2 ^ 64

/-- every load of the expression lies in the domain of C14 and every byte it reads is present -/
def MemsIn (A : AMap) : Expr → Prop
  | .const _ => True
  | .regLoad _ _ => True
  | .binary _ a b _ => MemsIn A a ∧ MemsIn A b
  | .less a b t f _ => MemsIn A a ∧ MemsIn A b ∧ MemsIn A t ∧ MemsIn A f
  | .memLoad key a w => MemsIn A a ∧ InDom (loadAddr A a) w ∧ ∀ i, i < w → A key (loadAddr A a + i) ≠ none

/-- the loads performed, in the order `ReplaceAll` visits them, with the values read -/
def memReads (A : AMap) : Expr → List MemAccess
  | .const _ => []
  | .regLoad _ _ => []
  | .binary _ a b _ => memReads A a ++ memReads A b
  | .less a b t f _ => memReads A a ++ memReads A b ++ memReads A t ++ memReads A f
  | .memLoad key a w => memReads A a ++ [⟨key, loadAddr A a, loadConst A key (loadAddr A a) w⟩]

def noteLoads (r : Report) (l : List MemAccess) : Report := { r with memLoads := r.memLoads ++ l }

theorem noteLoads_append (r : Report) (l1 l2 : List MemAccess) :
    noteLoads r (l1 ++ l2) = noteLoads (noteLoads r l1) l2 := by
  simp [noteLoads, List.append_assoc]

theorem noteLoads_nil (r : Report) : noteLoads r [] = r := by simp [noteLoads]

theorem loadConst_ext {A A' : AMap} (he : AExt A A') {key : String} {addr w : Nat}
    (h : ∀ i, i < w → A key (addr + i) ≠ none) : loadConst A' key addr w = loadConst A key addr w := by
  unfold loadConst
  congr 1
  apply Lemmas.Overlay.loadVal_congr
  intro i hi
  cases hx : A key (addr + i) with
  | none => exact absurd hx (h i hi)
  | some b => exact he key _ b hx

theorem regLoads_binary {op : BinOp} {a b : Expr} {w : Nat} (h : regLoads (.binary op a b w) = []) :
    regLoads a = [] ∧ regLoads b = [] := by
  simpa [regLoads] using h

/-- every load the memory phase performs on `e` from the context `c` lies in the domain of C14 -/
def EvalMemDom (p : Provider) : Expr → Ctx → Prop
  | .const _, _ => True
  | .regLoad _ _, _ => True
  | .binary _ a b _, c => EvalMemDom p a c ∧ ∀ a' c1, evalMem p a c = .ok (a', c1) → EvalMemDom p b c1
  | .less a b t f _, c => EvalMemDom p a c ∧ ∀ a' c1, evalMem p a c = .ok (a', c1) →
      (EvalMemDom p b c1 ∧ ∀ b' c2, evalMem p b c1 = .ok (b', c2) →
        (EvalMemDom p t c2 ∧ ∀ t' c3, evalMem p t c2 = .ok (t', c3) → EvalMemDom p f c3))
  | .memLoad _ a w, c => EvalMemDom p a c ∧ ∀ a' c1, evalMem p a c = .ok (a', c1) →
      ∀ ab, constFold a' = .const ab → InDom (Const.constUint 8 ab).1 w

/-- What a successful memory phase on `e` with the result `r` guarantees besides memory fills only.  As in `RegsRead`, what
is said of the byte maps the phase ends in is said of every extension of them. -/
structure MemOut (p : Provider) (e : Expr) (c : Ctx) (r : Expr) (c' : Ctx) : Prop where
  inv : Inv c'.st
  shape : Shape r
  up : ∀ A, AExt (absOf c'.st) A → r = substMem A e ∧ MemsIn A e ∧ c'.rep = noteLoads c.rep (memReads A e)

/-- where `checkAccess` stops the memory phase on `substRegs rm e`: at a load node of `e` (one of those with `G`) whose
address expression was evaluated: all it reads is present in the state at that moment, and there its address is `a` -/
def LoadStop (G : String × Expr × Nat → Prop) (rm : RegMap) (c' : Ctx) (a w : Nat) : Prop :=
  2 ^ 64 ≤ a + w ∧ ∃ n, G n ∧ MemsIn (absOf c'.st) (substRegs rm n.2.1) ∧
    a = loadAddr (absOf c'.st) (substRegs rm n.2.1) ∧ w = n.2.2

theorem evalMem_ends (p : Provider) (G : String × Expr × Nat → Prop) {rm : RegMap} (hc : RegsConst rm) (e : Expr) :
    ∀ c : Ctx, Inv c.st → RegsIn rm (regLoads e) → e.wf = true → (∀ n ∈ memNodes e, G n) →
    Ends p MemReq c (evalMem p (substRegs rm e) c) (MemOut p (substRegs rm e) c) (LoadStop G rm)
      (EvalMemDom p (substRegs rm e) c) := by
  have nil : ∀ (c : Ctx) bs, Inv c.st → (Expr.const bs).wf = true → Ends p MemReq c (evalMem p (.const bs) c)
      (MemOut p (.const bs) c) (LoadStop G rm) True :=
    fun c bs hi hw => .of_ok rfl (Fills.refl _ _ c) ⟨hi, ⟨rfl, hw⟩, fun _ _ => ⟨rfl, trivial, (noteLoads_nil c.rep).symm⟩⟩
  induction e with
  | const bs => exact fun c hi _ hw _ => nil c bs hi hw
  | regLoad k w =>
    intro c hi hr hw _
    obtain ⟨v, hg⟩ := hc.get (hr (k, w) (List.mem_singleton_self _))
    rw [substRegs_regLoad hg]
    exact nil c _ hi (by simpa only [Expr.wf, cw_length] using hw)
  | binary op a b w iha ihb =>
    intro c hi hr hw hG
    simp only [regLoads, RegsIn.append] at hr
    obtain ⟨hw, hwa, hwb⟩ := (Lemmas.Transform.wf_binary_iff op a b w).1 hw
    simp only [memNodes, List.forall_mem_append] at hG
    simp only [substRegs, evalMem_binary]
    refine (iha c hi hr.1 hwa hG.1).bind fun a' c1 _ _ o1 =>
      (ihb c1 o1.inv hr.2 hwb hG.2).map fun b' c2 hf2 o2 => ⟨_, rfl, fun _ => ⟨o2.inv,
        Lemmas.Sparse.closedWf_binary o1.shape o2.shape op hw, fun A hA => ?_⟩⟩
    obtain ⟨a1, a2, a3⟩ := o1.up A ((hf2.aext o1.inv).trans hA)
    obtain ⟨b1, b2, b3⟩ := o2.up A hA
    exact ⟨by rw [a1, b1]; rfl, ⟨a2, b2⟩, by rw [b3, a3, ← noteLoads_append]; rfl⟩
  | less a b t f w iha ihb iht ihf =>
    intro c hi hr hw hG
    simp only [regLoads, RegsIn.append] at hr
    obtain ⟨hw, hwa, hwb, hwt, hwf⟩ := (Lemmas.Transform.wf_less_iff a b t f w).1 hw
    simp only [memNodes, List.forall_mem_append] at hG
    simp only [substRegs, evalMem_less]
    refine (iha c hi hr.1.1.1 hwa hG.1.1.1).bind fun a' c1 _ _ o1 =>
      (ihb c1 o1.inv hr.1.1.2 hwb hG.1.1.2).bind fun b' c2 _ _ o2 =>
      (iht c2 o2.inv hr.1.2 hwt hG.1.2).bind fun t' c3 _ _ o3 =>
      (ihf c3 o3.inv hr.2 hwf hG.2).map fun f' c4 h3 o4 => ⟨_, rfl, fun h2 h1 _ => ⟨o4.inv,
        Lemmas.Sparse.closedWf_less o1.shape o2.shape o3.shape o4.shape hw, fun A hA => ?_⟩⟩
    -- `h1`, `h2`, `h3`: the fills from the end of each earlier operand to the end of the last, as `Ends.bind` hands them on
    obtain ⟨a1, a2, a3⟩ := o1.up A ((h1.aext o1.inv).trans hA)
    obtain ⟨b1, b2, b3⟩ := o2.up A ((h2.aext o2.inv).trans hA)
    obtain ⟨t1, t2, t3⟩ := o3.up A ((h3.aext o3.inv).trans hA)
    obtain ⟨f1, f2, f3⟩ := o4.up A hA
    refine ⟨by rw [a1, b1, t1, f1]; rfl, ⟨a2, b2, t2, f2⟩, ?_⟩
    rw [f3, t3, b3, a3]
    simp only [memReads, noteLoads_append]
  | memLoad key a w iha =>
    intro c hi hr hw hG
    obtain ⟨hw, hwa⟩ := (Lemmas.Transform.wf_memLoad_iff key a w).1 hw
    simp only [memNodes, List.forall_mem_cons] at hG
    simp only [substRegs, evalMem_memLoad]
    refine (iha c hi hr hwa hG.2).bind (D2 := fun a' _ => ∀ ab, constFold a' = .const ab → InDom (Const.constUint 8 ab).1 w)
      fun a' c1 h1 hl1 o1 => ?_
    -- the address, read from the byte maps its evaluation ends in
    obtain ⟨rfl, m1, r1⟩ := o1.up _ (AExt.refl _)
    obtain ⟨ab, _, hcf, _, hval⟩ := foldConst_shape o1.shape
    have haddr : (Const.constUint 8 ab).1 = loadAddr (absOf c1.st) (substRegs rm a) := by
      rw [Lemmas.State.constUint8, hval ρ0]; rfl
    have hlt : loadAddr (absOf c1.st) (substRegs rm a) < 2 ^ 64 := Nat.mod_lt _ (by decide)
    refine .dom_congr ?_ ⟨fun h ab' e => by cases hcf.symm.trans e; rw [haddr]; exact h, fun h => haddr ▸ h ab hcf⟩
    simp only [hcf, haddr]
    rcases memValue_total p c1 key (loadAddr (absOf c1.st) (substRegs rm a)) w o1.inv hlt hw with
      ⟨hdom, v, c2, h2, o2⟩ | ⟨hbad, h2⟩
    rotate_left
    · exact .stop (by rw [h2]; rfl) (Fills.refl _ _ c1) ⟨hbad, _, hG.1, m1, rfl, rfl⟩
        fun hd => Nat.not_le_of_lt hd.2.2 hbad
    have hl2 : Fills p MemReq c1 c2 := Fills.mono o2.log fun _ ⟨a', w', e, _⟩ => e ▸ .mk key a' w'
    refine .ok (c' := { c2 with rep := c2.rep.memRead key (loadAddr (absOf c1.st) (substRegs rm a)) v }) (by rw [h2]; rfl)
      hl2 (fun _ => ⟨o2.inv, Lemmas.Sparse.closedWf_const (o2.len ▸ hw), fun A hA => ?_⟩) hdom
    -- in every extension the address is the same, and so are the bytes there
    obtain ⟨e1, e2, e3⟩ := o1.up A ((hl2.aext o1.inv).trans hA)
    have haddrA : loadAddr A (substRegs rm a) = loadAddr (absOf c1.st) (substRegs rm a) := by unfold loadAddr; rw [← e1]
    have hv : v = loadConst A key (loadAddr (absOf c1.st) (substRegs rm a)) w := by
      rw [loadConst_ext hA o2.present, loadConst, absOf, ← o2.value ρ0, ← o2.len, Lemmas.Bytes.natToLE_leToNat]
    refine ⟨?_, ⟨e2, by rw [haddrA]; exact hdom, fun i hi' => ?_⟩, ?_⟩
    · rw [substMem, ← e1, hv]
      rfl
    · rw [haddrA]
      cases hx : c2.st.mems.abs key (loadAddr (absOf c1.st) (substRegs rm a) + i) with
      | none => exact absurd hx (o2.present i hi')
      | some b => rw [hA key _ b hx]; exact Option.some_ne_none _
    · show Report.memRead c2.rep key _ v = noteLoads c.rep (memReads A (.memLoad key (substRegs rm a) w))
      rw [o2.rep, e3]
      simp only [memReads, noteLoads_append, haddrA, ← hv]
      rfl


theorem substRegs_width (m : RegMap) (hc : RegsConst m) : ∀ e : Expr, (substRegs m e).width = e.width
  | .const _ => rfl
  | .binary .. => rfl
  | .less .. => rfl
  | .memLoad .. => rfl
  | .regLoad k w => by
    by_cases hk : assocGet k m = none
    · rw [substRegs, load_none hk]; rfl
    · obtain ⟨v, hg⟩ := hc.get hk
      rw [substRegs_regLoad hg]
      exact cw_length v w

theorem substMem_width (A : AMap) : ∀ e : Expr, (substMem A e).width = e.width
  | .const _ => rfl
  | .binary .. => rfl
  | .less .. => rfl
  | .regLoad .. => rfl
  | .memLoad k a w => by simp [substMem, loadConst, Expr.width]

/-- the expression with every register load and memory load replaced by what the state holds -/
def substAll (s : State) (e : Expr) : Expr := substMem (absOf s) (substRegs s.regs e)

/-- the bytes `eval` returns, as a function of the (final) state -/
def valBytes (s : State) (e : Expr) : List UInt8 := natToLE e.width ((substAll s e).eval ρ0)

/-- everything the expression reads is in the state -/
def Present (s : State) (e : Expr) : Prop :=
  RegsIn s.regs (regLoads e) ∧ MemsIn (absOf s) (substRegs s.regs e)

/-- state extension: registers and bytes that were present stay, with the same value -/
def SExt (s s' : State) : Prop := RExt s.regs s'.regs ∧ AExt (absOf s) (absOf s')

theorem SExt.refl (s : State) : SExt s s := ⟨RExt.refl _, AExt.refl _⟩
theorem SExt.trans {a b c : State} (h1 : SExt a b) (h2 : SExt b c) : SExt a c :=
  ⟨h1.1.trans h2.1, h1.2.trans h2.2⟩

/-- the report after the register reads and memory reads `eval` performs for `e` in the state `s` -/
def noteExpr (s : State) (r : Report) (e : Expr) : Report :=
  noteLoads (noteReads r (readVals s.regs (regLoads e))) (memReads (absOf s) (substRegs s.regs e))

theorem Fills.sext {p : Provider} {Q : Req → Prop} {c c' : Ctx} (h : Fills p Q c c') (hi : Inv c.st) : SExt c.st c'.st :=
  ⟨h.rext, h.aext hi⟩

/-- `eval` on `e` from `c` performs loads in the domain of C14 only -/
def EvalDom (p : Provider) (code : CodeView) (e : Expr) (c : Ctx) : Prop :=
  ∀ e1 c1, evalRegs p code e c = .ok (e1, c1) → EvalMemDom p e1 c1

/-- what a successful `eval` of `e` guarantees: fills only (registers of `e` at the code's width, memory), the invariant, `e` readable from the final state, its reads reported -/
structure EvalOut (p : Provider) (code : CodeView) (e : Expr) (c c' : Ctx) : Prop where
  log : ∃ l, c'.log = c.log ++ l ∧ Fill p c.st l c'.st ∧
    ∀ r ∈ l, RegReqOf code (regLoads e) r ∨ ∃ k a w, r = Req.mem k a w
  inv : Inv c'.st
  present : Present c'.st e
  rep : c'.rep = noteExpr c'.st c.rep e

/-- the expressions of an effect in the order `EffectApply(ef, eval)` evaluates them -/
def evalOrder : Effect → List Expr
  | .memStore v _ a _ => [v, a]
  | .regStore v _ _ => [v]

/-- the evaluated effect, as a function of the (final) state -/
def evalEff (s : State) : Effect → Effect
  | .memStore v k a w => .memStore (.const (valBytes s v)) k (.const (valBytes s a)) w
  | .regStore v k w => .regStore (.const (valBytes s v)) k w

def noteExprs (s : State) (r : Report) (es : List Expr) : Report := es.foldl (noteExpr s) r

theorem noteExprs_append (s : State) (r : Report) (l1 l2 : List Expr) :
    noteExprs s r (l1 ++ l2) = noteExprs s (noteExprs s r l1) l2 := by
  simp [noteExprs, List.foldl_append]

def PresentAll (s : State) (es : List Expr) : Prop := ∀ e ∈ es, Present s e

/-- What the successful evaluation of the expressions `es`, in this order, guarantees besides fills only: the invariant;
and in the state it ends in, as in every state extending it, everything the expressions read is present, the report is
that of their reads, and the result is what `R` says (`valBytes`, `evalEff` of that state). -/
structure EvalsUp (es : List Expr) (c c' : Ctx) (R : State → Prop) : Prop where
  inv : Inv c'.st
  up : ∀ s, SExt c'.st s → PresentAll s es ∧ c'.rep = noteExprs s c.rep es ∧ R s

theorem EvalsUp.imp {es : List Expr} {c c' : Ctx} {R R' : State → Prop} (o : EvalsUp es c c' R)
    (h : ∀ s, R s → R' s) : EvalsUp es c c' R' :=
  ⟨o.inv, fun s hs => let ⟨h1, h2, h3⟩ := o.up s hs; ⟨h1, h2, h s h3⟩⟩

theorem EvalsUp.trans {p : Provider} {Q : Req → Prop} {es1 es2 : List Expr} {c c1 c2 : Ctx} {R1 R2 R : State → Prop}
    (o1 : EvalsUp es1 c c1 R1) (hf : Fills p Q c1 c2) (o2 : EvalsUp es2 c1 c2 R2) (hR : ∀ s, R1 s → R2 s → R s) :
    EvalsUp (es1 ++ es2) c c2 R := by
  refine ⟨o2.inv, fun s hs => ?_⟩
  obtain ⟨p1, r1, v1⟩ := o1.up s ((hf.sext o1.inv).trans hs)
  obtain ⟨p2, r2, v2⟩ := o2.up s hs
  exact ⟨fun e he => (List.mem_append.1 he).elim (p1 e) (p2 e), by rw [noteExprs_append, r2, r1], hR s v1 v2⟩

/-- the requests the evaluation of the expressions `es` may issue -/
inductive EvalsReq (code : CodeView) (es : List Expr) : Req → Prop where
  | reg {e : Expr} {r : Req} : e ∈ es → RegReqOf code (regLoads e) r → EvalsReq code es r
  | mem (k : String) (a w : Nat) : EvalsReq code es (.mem k a w)

/-- `[a, a+w)` is the access of a load node of one of the expressions `es` whose address expression the state `s` holds
entirely (all it reads is present): `a` is the value the address has there -/
def LoadAt (es : List Expr) (s : State) (a w : Nat) : Prop :=
  ∃ e ∈ es, ∃ n ∈ memNodes e, Present s n.2.1 ∧ a = (substAll s n.2.1).eval ρ0 % 2 ^ 64 ∧ w = n.2.2

/-- where `checkAccess` stops the evaluation of one of the expressions `es`: at a load node of it that does not fit the
address space, after its address expression was evaluated -/
def EvalsStop (es : List Expr) (c' : Ctx) (a w : Nat) : Prop := 2 ^ 64 ≤ a + w ∧ LoadAt es c'.st a w

/-- `e` is one of `es` so that the evaluations of several expressions sequence under one kind of request and one
description of the stop -/
theorem eval_ends (p : Provider) (code : CodeView) {es : List Expr} {e : Expr} (he : e ∈ es) (c : Ctx) (hi : Inv c.st)
    (hw : e.wf = true) :
    Ends p (EvalsReq code es) c (eval p code e c)
      (fun r c' => EvalsUp [e] c c' (r = valBytes · e)) (EvalsStop es) (EvalDom p code e c) := by
  obtain ⟨e1, c1, h1, o1, he1⟩ := evalRegs_spec p code e c hi.regs
  obtain rfl := he1 _ (RExt.refl _)
  have hin := (o1.up _ (RExt.refl _)).1
  rw [eval_eq]
  refine .dom_congr (D := True ∧ ∀ e1 c1, evalRegs p code e c = .ok (e1, c1) → EvalMemDom p e1 c1) ?_
    (iff_of_eq (true_and _))
  refine (Ends.of_ok (post := fun _ _ => True) h1 (o1.log.mono fun _ => .reg he) trivial).bind
    fun e1 c1' hx _ _ => ?_
  cases h1.symm.trans hx
  refine ((evalMem_ends p (· ∈ memNodes e) o1.regsConst e c1 (o1.log.inv hi) hin hw fun _ h => h).mono
    (stop' := EvalsStop es) (fun _ ⟨k, a, w⟩ => .mem k a w) (fun _ _ hf h => And.intro hf h) ?_).map ?_
  · -- the memory phase leaves the registers alone: what it says of `substRegs c1.st.regs` holds of the state at the stop
    rintro c' a w hf ⟨hb, n, hn, hm, ea, ew⟩
    have hregs := hf.regs_of_mem
    exact ⟨hb, e, he, n, hn, ⟨fun kw hk => hregs ▸ hin kw (regLoads_node hn kw hk), hregs ▸ hm⟩,
      by rw [ea, substAll, hregs]; rfl, ew⟩
  intro e2 c2 _ ⟨hf2, o2⟩
  obtain ⟨v, _, hcf, hlen, hval⟩ := foldConst_shape o2.shape
  obtain ⟨rfl, _, _⟩ := o2.up _ (AExt.refl _)
  refine ⟨v, by rw [hcf], fun _ => ⟨o2.inv, fun s hs => ?_⟩⟩
  -- a state that extends the last one: both phases have the same results there
  have hr : RExt c1.st.regs s.regs := hf2.regs_of_mem ▸ hs.1
  obtain ⟨r1, r2⟩ := o1.up _ hr
  obtain ⟨m1, m2, m3⟩ := o2.up _ hs.2
  have hsub : substRegs s.regs e = substRegs c1.st.regs e := (he1 _ hr).symm
  refine ⟨fun x hx => ?_, ?_, ?_⟩
  · cases List.mem_singleton.1 hx
    exact ⟨r1, by rw [hsub]; exact m2⟩
  · show c2.rep = noteExpr s c.rep e
    rw [noteExpr, hsub, ← r2, ← m3]
  · have hwd : e.width = v.length := by rw [hlen, substMem_width, substRegs_width _ o1.regsConst]
    rw [valBytes, substAll, hsub, ← m1, ← hval ρ0, hwd, Lemmas.Bytes.natToLE_leToNat]

/-- evaluating the effect from `c` performs loads in the domain of C14 only (a store evaluates its value, then its address) -/
def EffDom (p : Provider) (code : CodeView) : Effect → Ctx → Prop
  | .memStore v _ a _, c => EvalDom p code v c ∧ ∀ v' c1, eval p code v c = .ok (v', c1) → EvalDom p code a c1
  | .regStore v _ _, c => EvalDom p code v c

def Effect.wfE : Effect → Prop
  | .memStore v _ a _ => v.wf = true ∧ a.wf = true
  | .regStore v _ _ => v.wf = true

/-- `EvalOut` for a list of expressions evaluated in order -/
structure EvalsOut (p : Provider) (code : CodeView) (es : List Expr) (c c' : Ctx) : Prop where
  log : ∃ l, c'.log = c.log ++ l ∧ Fill p c.st l c'.st ∧
    ∀ r ∈ l, (∃ e ∈ es, RegReqOf code (regLoads e) r) ∨ ∃ k a w, r = Req.mem k a w
  inv : Inv c'.st
  present : PresentAll c'.st es
  rep : c'.rep = noteExprs c'.st c.rep es

theorem evalEffect_ends (p : Provider) (code : CodeView) {es : List Expr} (ef : Effect) (he : ∀ e ∈ evalOrder ef, e ∈ es)
    (c : Ctx) (hi : Inv c.st) (hw : Effect.wfE ef) :
    Ends p (EvalsReq code es) c (evalEffect p code ef c)
      (fun r c' => EvalsUp (evalOrder ef) c c' (r = evalEff · ef)) (EvalsStop es) (EffDom p code ef c) := by
  cases ef with
  | regStore v k w =>
    rw [evalEffect_regStore]
    exact (eval_ends p code (he v (List.mem_singleton_self v)) c hi hw).map
      fun v' c1 _ o1 => ⟨_, rfl, o1.imp fun s h => by rw [h]; rfl⟩
  | memStore v k a w =>
    rw [evalEffect_memStore]
    exact (eval_ends p code (he v (List.mem_cons_self ..)) c hi hw.1).bind fun v' c1 _ _ o1 =>
      (eval_ends p code (he a (List.mem_cons_of_mem _ (List.mem_singleton_self a))) c1 o1.inv hw.2).map
        fun a' c2 hf2 o2 => ⟨_, rfl, fun _ => o1.trans hf2 o2 fun s h1 h2 => by rw [h1, h2]; rfl⟩

/-- `EffDom` for a list of effects, each from the context the previous one left -/
def EffsDom (p : Provider) (code : CodeView) : List Effect → Ctx → Prop
  | [], _ => True
  | ef :: efs, c => EffDom p code ef c ∧ ∀ ef' c1, evalEffect p code ef c = .ok (ef', c1) → EffsDom p code efs c1

def evalOrders (efs : List Effect) : List Expr := efs.flatMap evalOrder

theorem evalEffects_ends (p : Provider) (code : CodeView) {es : List Expr} : ∀ (efs : List Effect) (c : Ctx),
    (∀ e ∈ evalOrders efs, e ∈ es) → Inv c.st → (∀ ef ∈ efs, Effect.wfE ef) →
    Ends p (EvalsReq code es) c (evalEffects p code efs c)
      (fun r c' => EvalsUp (evalOrders efs) c c' fun s => r = efs.map (evalEff s)) (EvalsStop es) (EffsDom p code efs c)
  | [], c, _, hi, _ => .of_ok rfl (Fills.refl _ _ c) ⟨hi, fun _ _ => ⟨fun _ h => (nomatch h), rfl, rfl⟩⟩
  | ef :: efs, c, he, hi, hw => by
    rw [evalEffects_cons]
    exact (evalEffect_ends p code ef (fun e h => he e (List.mem_append_left _ h)) c hi
        (hw ef (List.mem_cons_self ..))).bind fun ef' c1 _ _ o1 =>
      (evalEffects_ends p code efs c1 (fun e h => he e (List.mem_append_right _ h)) o1.inv
        fun x hx => hw x (List.mem_cons_of_mem _ hx)).map fun efs' c2 hf2 o2 =>
          ⟨_, rfl, fun _ => o1.trans hf2 o2 fun s h1 h2 => by rw [h1, h2]; rfl⟩

end Mltwist.Lemmas.Emulator
