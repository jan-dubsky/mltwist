import Mltwist.Lemmas.UIParse
import Mltwist.Lemmas.ListingRun
import Mltwist.Lemmas.MemView
import Mltwist.Lemmas.RenderTool
import Mltwist.Lemmas.Format
/-
C22, the proof.  The invariant of the UI state (`UIInv`): every mode on the stack carries the command map of its table
and satisfies the invariant of its component (listing, emulator state, memory view); of the emulator `EmuLawful` is
assumed.  What an action does is said once, as a relation (`Does`): it leaves the stack alone, lets the current mode
pass to a next state (`Next`) or opens a mode on top (`Opens`), and does not panic.  One call of `processCommand` is one
of four cases (`Call`), and what it makes of the result of the action is `Answered` (which keeps the effect `Eff` for the
composition to read; C22 states the weaker `CallOK`).
-/
namespace Mltwist.Lemmas.UI
open Mltwist Mltwist.UI
open Mltwist.Listing.Spec (Lawful WF ValidCmd)
open Mltwist.Lemmas.MemView (NormalR Coh viewLines)
open Mltwist.Lemmas.Listing (Keeps NavKeeps)

abbrev LInv := Mltwist.Lemmas.Listing.Inv

/-- the interaction tree of a step has no panic leaf, every state it ends in is good, and value widths
are `expr.Width` values (`uint8`) -/
inductive TreeSafe {σ : Type} (Good : σ → Prop) : StepTree σ → Prop where
  | done {s : σ} : Good s → TreeSafe Good (.done s)
  | fail {s : σ} : Good s → TreeSafe Good (.fail s)
  | ask {w : Nat} {k : Str → StepTree σ} : w ≤ 255 → (∀ c, TreeSafe Good (k c)) → TreeSafe Good (.ask w k)

/-- the memory handed to the memory view is what C32 calls coherent: `Blocks()` is a normal interval
list and every stored byte loads as a constant -/
def MemOK (m : MemView.Mem) : Prop := ∃ bl σ, NormalR bl ∧ Coh m bl σ

/-- What C22 takes from the emulator (`Good` = the emulator states that can arise):

* `step_safe` — **StepNeverPanics**: `Emulator.Step` never panics, whatever values the provider is
  given (C03; finding F03 `memValue`, repaired, concerned exactly this);
* `ip_some` — `MustIP` never panics: the instruction pointer register always holds a constant that
  fits an address (C03/C04: `emulator.New` stores it, `Step` stores constants of address width);
* `width_byte` — register widths are `expr.Width` values;
* `regs_oneIP` — the register file is a map: the instruction pointer key occurs at most once (C18);
* `mem_ok` — the memories of the emulator state are coherent in the sense of C32 (C14/C15/C16: the
  overlay of the program image and the sparse memory of constants);
* `init_good`, `store_good` — `Good` holds of the state `emulator.New` creates and again after `regmod` has stored a
  constant in a register: besides `Step`, these are the two things the UI does to an emulator state. -/
structure EmuLawful {σ : Type} (ops : EmuOps σ) (Good : σ → Prop) : Prop where
  init_good : ∀ c ip, Good (ops.init c ip)
  ip_some : ∀ s, Good s → (ops.ip s).isSome = true
  step_safe : ∀ s, Good s → TreeSafe Good (ops.step s)
  store_good : ∀ s k v, Good s → Good (ops.regStore s k v)
  width_byte : ∀ s k w, Good s → ops.regWidth s k = some w → w ≤ 255
  regs_oneIP : ∀ s, Good s → Lemmas.Render.OneIP (ops.regs s)
  mem_ok : ∀ s k m, Good s → ops.mem s k = some m → MemOK m

/-- memory mode: the view was built from the memory it shows; the cursor is on a row -/
def MemInv (m : Option MemView.Mem) (v : MemView.View) : Prop :=
  ((m = none ∧ v.lines = []) ∨ ∃ mem bl σ, m = some mem ∧ NormalR bl ∧ Coh mem bl σ ∧ v.lines = viewLines bl) ∧
  (v.lines = [] ∨ v.cursor < v.lines.length)

def ModeInv {σ : Type} (Good : σ → Prop) : Mode σ → Prop
  | .dis st => LInv st
  | .emu e => LInv e.view ∧ Good e.emu
  | .mem m v => MemInv m v

/-- a mode on the stack: its command map is the map of its command table -/
def NMInv {σ : Type} (Good : σ → Prop) (nm : NamedMode σ) : Prop :=
  newCmdMap (commandsOf nm.mode.kind) = some nm.cmdMap ∧ ModeInv Good nm.mode

def UIInv {σ : Type} (Good : σ → Prop) (ui : UI σ) : Prop := ui.stack ≠ [] ∧ ∀ nm ∈ ui.stack, NMInv Good nm

variable {σ : Type} {Good : σ → Prop}

theorem ModeInv.view {e : EmuMode σ} (h : ModeInv Good (.emu e)) : LInv e.view := h.1

theorem ModeInv.good {e : EmuMode σ} (h : ModeInv Good (.emu e)) : Good e.emu := h.2

theorem NMInv.cmdMap {nm : NamedMode σ} (h : NMInv Good nm) : newCmdMap (commandsOf nm.mode.kind) = some nm.cmdMap := h.1

theorem NMInv.mode {nm : NamedMode σ} (h : NMInv Good nm) : ModeInv Good nm.mode := h.2

theorem UIInv.stack_ne {ui : UI σ} (h : UIInv Good ui) : ui.stack ≠ [] := h.1

theorem UIInv.all {ui : UI σ} (h : UIInv Good ui) : ∀ nm ∈ ui.stack, NMInv Good nm := h.2

theorem UIInv.top {top : NamedMode σ} {below : List (NamedMode σ)} (h : UIInv Good ⟨top :: below⟩) : NMInv Good top :=
  h.all top List.mem_cons_self

theorem UIInv.below {top : NamedMode σ} {below : List (NamedMode σ)} (h : UIInv Good ⟨top :: below⟩) :
    ∀ nm ∈ below, NMInv Good nm := fun nm hnm => h.all nm (List.mem_cons_of_mem _ hnm)

theorem uiinv_of_stack {ui : UI σ} {top : NamedMode σ} {below : List (NamedMode σ)}
    (h : UIInv Good ui) (hs : ui.stack = top :: below) : UIInv Good ⟨top :: below⟩ := by
  cases ui
  simp only at hs
  subst hs
  exact h

theorem top_inv {top : NamedMode σ} {below : List (NamedMode σ)}
    (h : UIInv Good ⟨top :: below⟩) {m : Mode σ} (hm : top.mode = m) : ModeInv Good m :=
  hm ▸ h.top.mode

theorem uiinv_set_top {top : NamedMode σ} {below : List (NamedMode σ)}
    (h : UIInv Good ⟨top :: below⟩) {m' : Mode σ} (hk : m'.kind = top.mode.kind)
    (hinv : ModeInv Good m') : UIInv Good ⟨{ top with mode := m' } :: below⟩ :=
  ⟨List.cons_ne_nil _ _, List.forall_mem_cons.mpr ⟨⟨by simpa [hk] using h.top.cmdMap, hinv⟩, h.below⟩⟩

/-- the command map of a mode; it exists (`newCmdMap_isSome`), `[]` is never taken -/
def cmdMapOf (k : UI.Kind) : CmdMap := (newCmdMap (commandsOf k)).getD []

theorem newCmdMap_eq (k : UI.Kind) : newCmdMap (commandsOf k) = some (cmdMapOf k) := by
  obtain ⟨cm, hc⟩ := Option.isSome_iff_exists.mp (newCmdMap_isSome k)
  rw [cmdMapOf, hc]
  rfl

/-- proofs rewrite with this equation before anything else: a unifier that meets `addMode` unfolds it and evaluates the
whole table -/
theorem addMode_eq (ui : UI σ) (name : Str) (m : Mode σ) :
    addMode ui name m = some ⟨⟨name, m, cmdMapOf m.kind⟩ :: ui.stack⟩ := by
  simp only [addMode, newCmdMap_eq]

theorem init_eq (code : Listing.Code) :
    UI.init (σ := σ) code = some ⟨[⟨b "app", .dis (Listing.St.init code), cmdMapOf .dis⟩]⟩ :=
  addMode_eq _ _ _

theorem uiinv_push {ui : UI σ} (h : ∀ nm ∈ ui.stack, NMInv Good nm) (name : Str) (m : Mode σ)
    (hm : ModeInv Good m) : UIInv Good ⟨⟨name, m, cmdMapOf m.kind⟩ :: ui.stack⟩ :=
  ⟨List.cons_ne_nil _ _, List.forall_mem_cons.mpr ⟨⟨newCmdMap_eq _, hm⟩, h⟩⟩

/-- the UI right after `consoleui.New(disassemble.New(code, emulF))` -/
theorem init_inv {σ : Type} (Good : σ → Prop) (code : Listing.Code) (hwf : WF code) {ui : UI σ}
    (h : UI.init code = some ui) : UIInv Good ui := by
  cases (init_eq code).symm.trans h
  exact uiinv_push (ui := ⟨[]⟩) (fun _ h => nomatch h) _ _ (Lemmas.Listing.inv_init code hwf)

theorem readValueNoErr_cases {w : Nat} (hw : w ≤ 255) : ∀ inp : Input,
    readValueNoErr w inp = .hang ∨ ∃ c rest, readValueNoErr w inp = .value c rest ∧ rest.length < inp.length
  | [] => .inl rfl
  | [line] => by
    simp only [readValueNoErr]
    cases h : NumParse.readValue w line with
    | ok c => exact .inr ⟨c, [], rfl, Nat.zero_lt_one⟩
    | err => exact .inl rfl
    | panic => exact absurd h (Lemmas.NumParse.readValue_no_panic w hw line)
  | line :: ack :: rest => by
    simp only [readValueNoErr]
    cases h : NumParse.readValue w line with
    | ok c => exact .inr ⟨c, _, rfl, Nat.lt_succ_self _⟩
    | err =>
      exact (readValueNoErr_cases hw rest).imp_right fun ⟨c, r, h1, h2⟩ =>
        ⟨c, r, h1, Nat.lt_succ_of_lt (Nat.lt_succ_of_lt h2)⟩
    | panic => exact absurd h (Lemmas.NumParse.readValue_no_panic w hw line)

/-- the input at a value prompt holds no acceptable value: every line shown to `readValue` (every
second line: a rejected line is followed by an acknowledgement) is rejected (C22 `prompt_hang_iff`: exactly then the
prompt starves) -/
def Starved (w : Nat) : Input → Prop
  | [] => True
  | [l] => NumParse.readValue w l = .err
  | l :: _ :: r => NumParse.readValue w l = .err ∧ Starved w r

theorem runTree_cases {t : StepTree σ} (ht : TreeSafe Good t) : ∀ inp : Input,
    runTree t inp = .hang ∨ ∃ s rest, (runTree t inp = .done s rest ∨ runTree t inp = .fail s rest) ∧ Good s ∧
      rest.length ≤ inp.length := by
  induction ht with
  | done hs => exact fun inp => .inr ⟨_, _, .inl rfl, hs, Nat.le_refl _⟩
  | fail hs => exact fun inp => .inr ⟨_, _, .inr rfl, hs, Nat.le_refl _⟩
  | @ask w k hw _ ih =>
    intro inp
    simp only [runTree]
    rcases readValueNoErr_cases hw inp with h | ⟨c, r, h, hl⟩ <;> rw [h]
    · exact .inl rfl
    · exact (ih c r).imp_right fun ⟨s, rest, h1, hg, h2⟩ => ⟨s, rest, h1, hg, Nat.le_trans h2 (Nat.le_of_lt hl)⟩

/-- `s` is a state `Emulator.Step` over the console can return in (with an error or without), on some input.  `Next.step`
carries this and not `Good s`: the composition reads another `TreeSafe` predicate (same code) off the same step -/
def Ends (t : StepTree σ) (s : σ) : Prop := ∃ inp rest, runTree t inp = .done s rest ∨ runTree t inp = .fail s rest

theorem Ends.good {t : StepTree σ} {s : σ} (ht : TreeSafe Good t) (h : Ends t s) : Good s := by
  obtain ⟨inp, rest, h⟩ := h
  rcases runTree_cases ht inp with h' | ⟨s', r', h', hg, _⟩
  · rw [h'] at h; exact h.elim nofun nofun
  · rcases h with h | h <;> rcases h' with h' | h' <;> cases h.symm.trans h' <;> exact hg

theorem refreshCursor_cases {eops : EmuOps σ} (he : EmuLawful eops Good) {view : Listing.St} (hinv : LInv view)
    {s : σ} (hs : Good s) :
    refreshCursor eops view s = .err ∨ ∃ v', refreshCursor eops view s = .ok v' ∧ NavKeeps view v' := by
  unfold refreshCursor
  obtain ⟨ip, h1⟩ := Option.isSome_iff_exists.mp (he.ip_some s hs)
  simp only [h1]
  cases hb : view.code.address ip with
  | none => exact .inl rfl
  | some blk =>
    simp only
    cases hx : blk.address ip with
    | none => exact .inl rfl
    | some x =>
      simp only [hinv.shows.line (Lemmas.Listing.address_get hinv.wf hb hx).1 rfl]
      exact .inr ⟨_, rfl, (Lemmas.Listing.setCursor_lands view hinv _).keeps⟩

theorem newEmu_cases {eops : EmuOps σ} (he : EmuLawful eops Good) {code : Listing.Code} (hwf : WF code) (ip : Nat) :
    newEmu eops code ip = .err ∨
      ∃ view, newEmu eops code ip = .ok { view := view, emu := eops.init code ip } ∧ NavKeeps (Listing.St.init code) view := by
  unfold newEmu
  dsimp only
  rcases refreshCursor_cases he (Lemmas.Listing.inv_init code hwf) (he.init_good code ip) with h | ⟨v, h, hv⟩ <;> rw [h]
  · exact .inl rfl
  · exact .inr ⟨v, rfl, hv⟩

/-- argument parsers and `OptionalArgs` of the command with the action -/
def actArgs : Act → List ArgKind × Bool
  | .dDown | .dUp | .dBounds | .dGoto | .mDown | .mUp | .mGoto => ([.num], false)
  | .dMove => ([.num, .num], false)
  | .dFind => ([.str], true)
  | .eMemory | .eRegmod => ([.str], false)
  | .mAddress => ([.addr], false)
  | _ => ([], false)

/-- the mode whose table holds the action (`none`: the standard commands of every mode) -/
def actKind : Act → Option UI.Kind
  | .quit | .help => none
  | .dDown | .dUp | .dMove | .dBounds | .dFind | .dGoto | .dEntry | .dAllLines | .dEmulate => some .dis
  | .eStep | .eMemories | .eMemory | .eRegmod => some .emu
  | .mDown | .mUp | .mGoto | .mAddress => some .mem

/-- the one place where the command tables are looked at, by evaluation in the kernel -/
theorem cmd_meta (k : UI.Kind) : ∀ c ∈ addStandardCmds (commandsOf k),
    c.args = (actArgs c.act).1 ∧ c.opt = (actArgs c.act).2 ∧ (actKind c.act = none ∨ actKind c.act = some k) := by
  cases k <;> decide +kernel

theorem shape_num1 {args : List ArgVal} (h : args.map kindOfVal = [.num]) : ∃ n, args = [.num n] := by
  match args, h with
  | [.num n], _ => exact ⟨n, rfl⟩

theorem shape_num2 {args : List ArgVal} (h : args.map kindOfVal = [.num, .num]) :
    ∃ x y, args = [.num x, .num y] := by
  match args, h with
  | [.num x, .num y], _ => exact ⟨x, y, rfl⟩

theorem shape_str1 {args : List ArgVal} (h : args.map kindOfVal = [.str]) : ∃ s, args = [.str s] := by
  match args, h with
  | [.str s], _ => exact ⟨s, rfl⟩

theorem shape_str2 {args : List ArgVal} (h : args.map kindOfVal = [.str, .str]) :
    ∃ s t, args = [.str s, .str t] := by
  match args, h with
  | [.str s, .str t], _ => exact ⟨s, t, rfl⟩

theorem shape_addr1 {args : List ArgVal} (h : args.map kindOfVal = [.addr]) : ∃ a, args = [.addr a] := by
  match args, h with
  | [.addr a], _ => exact ⟨a, rfl⟩

theorem helpOK_true (k : UI.Kind) : helpOK k = true := by
  unfold helpOK
  rw [List.all_eq_true]
  intro c _
  obtain ⟨out, hout⟩ := Lemmas.Format.format_terminates c.help 1 80 (by decide)
  simp [hout]

theorem kind_dis {m : Mode σ} (h : m.kind = .dis) : ∃ st, m = .dis st := by
  cases m <;> first | exact ⟨_, rfl⟩ | cases h

theorem kind_emu {m : Mode σ} (h : m.kind = .emu) : ∃ e, m = .emu e := by
  cases m <;> first | exact ⟨_, rfl⟩ | cases h

theorem kind_mem {m : Mode σ} (h : m.kind = .mem) : ∃ mm v, m = .mem mm v := by
  cases m <;> first | exact ⟨_, _, rfl⟩ | cases h

/-- the match vector `find` hands to the listing -/
def matchVec (rx : Str → Option (String → Bool)) (st : Listing.St) (r : Str) : Option (List Bool) :=
  (rx r).map fun f => st.lines.lines.map fun l => f l.value

theorem validFind (rx : Str → Option (String → Bool)) (r : Str) (st : Listing.St) :
    ValidCmd st.lines.lines.length (.find (matchVec rx st r)) := by
  unfold matchVec
  cases rx r with
  | none => trivial
  | some f => simp [ValidCmd]

/-- the command of the listing model that an action of the disassembler mode stands for -/
def disCmd (rx : Str → Option (String → Bool)) (st : Listing.St) : Act → List ArgVal → Option Listing.Cmd
  | .dDown, [.num n] => some (.down n)
  | .dUp, [.num n] => some (.up n)
  | .dMove, [.num f, .num t] => some (.move f t)
  | .dBounds, [.num l] => some (.bounds l)
  | .dGoto, [.num n] => some (.goto n)
  | .dEntry, _ => some .entrypoint
  | .dFind, [.str r] => some (.find (matchVec rx st r))
  | .dFind, [.str r, .str o] => some (.find (matchVec rx st (r ++ 0x20 :: o)))
  | _, _ => none

variable {p : Params σ} {act : Act} {args : List ArgVal} {top : NamedMode σ} {below : List (NamedMode σ)}

theorem runAct_dis (p : Params σ) (below : List (NamedMode σ)) {st : Listing.St} {c : Listing.Cmd}
    (hm : top.mode = .dis st) (hc : disCmd p.rx st act args = some c) (inp : Input) :
    runAct p top below act args inp = disAnswer top below inp (Listing.step p.cops st c) := by
  unfold disCmd at hc
  -- `runAct` matches on the same patterns, and is in the branch that runs the command; `find` builds what `matchVec` is
  split at hc <;> cases hc <;> unfold runAct <;> simp only [hm, matchVec]

theorem disCmd_valid (rx : Str → Option (String → Bool)) {st : Listing.St} {c : Listing.Cmd}
    (hc : disCmd rx st act args = some c) : ValidCmd st.lines.lines.length c := by
  cases c with
  | find ms =>
    unfold disCmd at hc
    split at hc <;> cases hc <;> exact validFind rx _ st
  | _ => trivial

theorem disCmd_eq_move (rx : Str → Option (String → Bool)) {st : Listing.St} {f t : Nat} :
    disCmd rx st act args = some (.move f t) ↔ act = .dMove ∧ args = [.num f, .num t] := by
  refine ⟨fun h => ?_, fun ⟨ha, hg⟩ => by rw [ha, hg]; rfl⟩
  unfold disCmd at h
  split at h <;> cases h
  exact ⟨rfl, rfl⟩

/-- the states the current mode can pass to by the action `act` on `args`, each in the words of its component: a command
of the listing, which keeps what commands keep; a step of the emulator, after which the view has at most navigated (the
cursor refresh, whose error is dropped); a register modified; the cursor of the memory view on another row -/
inductive Next (p : Params σ) (act : Act) (args : List ArgVal) : Mode σ → Mode σ → Prop
  | dis {st st' : Listing.St} {c : Listing.Cmd} {s : Listing.Status} : disCmd p.rx st act args = some c →
      Listing.step p.cops st c = some (s, st') → Keeps st st' → Next p act args (.dis st) (.dis st')
  | step {e : EmuMode σ} {s : σ} {view : Listing.St} : Ends (p.eops.step e.emu) s → NavKeeps e.view view →
      Next p act args (.emu e) (.emu { e with view := view, emu := s })
  | regmod {e : EmuMode σ} (key c : Str) :
      Next p act args (.emu e) (.emu { e with emu := p.eops.regStore e.emu key c })
  | cursor {m : Option MemView.Mem} {v : MemView.View} {i : Nat} : i < v.lines.length →
      Next p act args (.mem m v) (.mem m ⟨v.lines, i⟩)

/-- the modes the current mode can open on top of itself: `emulate` at an instruction (the emulator's initial state, a
fresh listing of the same code with the cursor moved), `memory <key>` (the view of that memory) -/
inductive Opens (p : Params σ) : Mode σ → Mode σ → Prop
  | emulate {st view : Listing.St} {ip : Nat} : NavKeeps (Listing.St.init st.code) view →
      Opens p (.dis st) (.emu { view := view, emu := p.eops.init st.code ip })
  | memory {e : EmuMode σ} {key : Str} {v : MemView.View} : MemInv (p.eops.mem e.emu key) v →
      Opens p (.emu e) (.mem (p.eops.mem e.emu key) v)

/-- what an action does to the mode stack (`quit` leaves it to `quitMode`) -/
inductive Eff (p : Params σ) (top : NamedMode σ) (below : List (NamedMode σ)) (act : Act) (args : List ArgVal) :
    UI σ → Prop
  | stay : Eff p top below act args ⟨top :: below⟩
  | next {m' : Mode σ} : Next p act args top.mode m' → Eff p top below act args ⟨{ top with mode := m' } :: below⟩
  | push {name : Str} {m' : Mode σ} : Opens p top.mode m' →
      Eff p top below act args ⟨⟨name, m', cmdMapOf m'.kind⟩ :: top :: below⟩

/-- what an action may do: it answers after one of the effects on the stack, having only consumed input; it asks
for the mode to be left; or it starves in a value prompt (only `step` and `regmod` have value prompts); it never
panics.  The invariant of the UI and the coupling of the composed system with the real code are both read off this. -/
def Does (p : Params σ) (top : NamedMode σ) (below : List (NamedMode σ)) (act : Act) (args : List ArgVal)
    (inp : Input) : ActOut σ → Prop
  | .ok ui rest => Eff p top below act args ui ∧ rest.length ≤ inp.length
  | .err ui rest => Eff p top below act args ui ∧ rest.length ≤ inp.length
  | .quit ui rest => act = .quit ∧ ui = ⟨top :: below⟩ ∧ rest = inp
  | .hang => act = .eStep ∨ act = .eRegmod
  | .panic => False

theorem newMemoryView_inv {eops : EmuOps σ} (he : EmuLawful eops Good) {s : σ} (hs : Good s) (key : Str) :
    ∃ v, MemView.newMemoryView (eops.mem s key) = some v ∧ MemInv (eops.mem s key) v := by
  cases hmem : eops.mem s key with
  | none => exact ⟨⟨[], 0⟩, rfl, Or.inl ⟨rfl, rfl⟩, Or.inl rfl⟩
  | some m =>
    obtain ⟨bl, σ', hn, hc⟩ := he.mem_ok s key m hs hmem
    exact ⟨⟨viewLines bl, 0⟩, Lemmas.MemView.newMemoryView_eq hc.blocks hn, Or.inr ⟨m, bl, σ', rfl, hn, hc, rfl⟩,
      (Nat.eq_zero_or_pos (viewLines bl).length).imp List.eq_nil_of_length_eq_zero id⟩

theorem Next.kind {m m' : Mode σ} (h : Next p act args m m') : m'.kind = m.kind := by
  cases h <;> rfl

theorem Opens.kinds {m m' : Mode σ} (h : Opens p m m') :
    m'.kind = .emu ∧ m.kind = .dis ∨ m'.kind = .mem ∧ m.kind = .emu := by
  cases h
  · exact .inl ⟨rfl, rfl⟩
  · exact .inr ⟨rfl, rfl⟩

theorem Next.inv (he : EmuLawful p.eops Good) {m m' : Mode σ} (h : Next p act args m m')
    (hm : ModeInv Good m) : ModeInv Good m' := by
  cases h with
  | dis _ _ k => exact k.inv
  | @step e s view hs hv => exact ⟨hv.inv, hs.good (he.step_safe e.emu hm.good)⟩
  | regmod key c => exact ⟨hm.view, he.store_good _ _ _ hm.good⟩
  | cursor hi => exact ⟨hm.1, Or.inr hi⟩

theorem Opens.inv (he : EmuLawful p.eops Good) {m m' : Mode σ} (h : Opens p m m') (hm : ModeInv Good m) :
    ModeInv Good m' := by
  cases h with
  | emulate hv => exact ⟨hv.inv, he.init_good _ _⟩
  | memory hv => exact hv

theorem Eff.inv (he : EmuLawful p.eops Good) (h : UIInv Good ⟨top :: below⟩) {ui : UI σ}
    (e : Eff p top below act args ui) : UIInv Good ui := by
  cases e with
  | stay => exact h
  | next hn => exact uiinv_set_top h hn.kind (hn.inv he h.top.mode)
  | push ho => exact uiinv_push h.all _ _ (ho.inv he h.top.mode)

theorem errMsgf_does {ui : UI σ} (e : Eff p top below act args ui) (inp : Input) :
    Does p top below act args inp (errMsgf ui inp) := by
  cases inp with
  | nil => exact ⟨e, Nat.le_refl _⟩
  | cons l r => exact ⟨e, Nat.le_succ _⟩

theorem memAnswer_does {m : Option MemView.Mem} {v : MemView.View} (hm : top.mode = .mem m v) (inp : Input)
    {r : Option MemView.View} (hr : ∀ v', r = some v' → ∃ i, i < v.lines.length ∧ v' = ⟨v.lines, i⟩) :
    Does p top below act args inp (memAnswer top below m inp r) := by
  cases r with
  | none => exact ⟨.stay, Nat.le_refl _⟩
  | some v' =>
    obtain ⟨i, hi, rfl⟩ := hr v' rfl
    exact ⟨.next (hm ▸ .cursor hi), Nat.le_refl _⟩

section
variable (hl : Lawful p.cops) (he : EmuLawful p.eops Good) (h : UIInv Good ⟨top :: below⟩) (inp : Input)
include h

include hl in
theorem dis_does {st : Listing.St} (hm : top.mode = .dis st) {c : Listing.Cmd} (hc : disCmd p.rx st act args = some c) :
    Does p top below act args inp (runAct p top below act args inp) := by
  obtain ⟨s, st', hstep, d⟩ := Lemmas.Listing.step_does p.cops hl st (top_inv h hm) c (disCmd_valid p.rx hc)
  have hn : Eff p top below act args ⟨{ top with mode := .dis st' } :: below⟩ := .next (hm ▸ .dis hc hstep d.keeps)
  rw [runAct_dis p below hm hc, hstep]
  cases s with
  | noMatch => exact errMsgf_does hn inp
  | _ => exact ⟨hn, Nat.le_refl _⟩

include he

theorem actEmulate_does {st : Listing.St} (hm : top.mode = .dis st) :
    Does p top below act args inp (actEmulate p top below st inp) := by
  have hinv : LInv st := top_inv h hm
  obtain ⟨ln, hline⟩ : ∃ ln, st.lines.lines[st.cursor.value]? = some ln :=
    ⟨_, List.getElem?_eq_getElem hinv.cur_lt⟩
  simp only [actEmulate, addMode_eq, hline]
  cases hinv.shows.lineAt hinv.wf hline with
  | blank _ _ hblk =>
    simp only [hblk]
    exact ⟨.stay, Nat.le_refl _⟩
  | header blk _ _ hblk hi =>
    simp only [hblk, hi]
    exact ⟨.stay, Nat.le_refl _⟩
  | ins blk x _ _ hblk hxget hi =>
    simp only [hblk, hi, hxget]
    rcases newEmu_cases he hinv.wf x.addr with hq | ⟨view, hq, hv⟩ <;> rw [hq]
    · exact ⟨.stay, Nat.le_refl _⟩
    · exact ⟨.push (hm ▸ .emulate hv), Nat.le_refl _⟩

theorem actStep_does {e : EmuMode σ} (hm : top.mode = .emu e) :
    Does p top below .eStep args inp (actStep p top below e inp) := by
  have hinv : ModeInv Good (.emu e) := top_inv h hm
  have ht := he.step_safe e.emu hinv.good
  unfold actStep
  rcases runTree_cases ht inp with hq | ⟨s, rest, hq | hq, hgood, hlen⟩ <;> rw [hq]
  · exact Or.inl rfl
  · have hs : Ends (p.eops.step e.emu) s := ⟨inp, rest, .inl hq⟩
    simp only
    -- an error of the refresh is dropped
    rcases refreshCursor_cases he hinv.view hgood with hq2 | ⟨view, hq2, hv⟩ <;> rw [hq2]
    · exact ⟨.next (hm ▸ .step hs (.refl hinv.view)), hlen⟩
    · exact ⟨.next (hm ▸ .step hs hv), hlen⟩
  · exact ⟨.next (hm ▸ .step ⟨inp, rest, .inr hq⟩ (.refl hinv.view)), hlen⟩

theorem actMemory_does {e : EmuMode σ} (hm : top.mode = .emu e) (key : Str) :
    Does p top below act args inp (actMemory p top below e key inp) := by
  obtain ⟨v, hv, hi⟩ := newMemoryView_inv he (top_inv h hm : ModeInv Good (.emu e)).good key
  simp only [actMemory, addMode_eq]
  rw [hv]
  exact ⟨.push (hm ▸ .memory hi), Nat.le_refl _⟩

theorem actRegmod_does {e : EmuMode σ} (hm : top.mode = .emu e) (key : Str) :
    Does p top below .eRegmod args inp (actRegmod p top below e key inp) := by
  have hinv : ModeInv Good (.emu e) := top_inv h hm
  unfold actRegmod
  cases hw : p.eops.regWidth e.emu key with
  | none => exact ⟨.stay, Nat.le_refl _⟩
  | some w =>
    simp only
    rcases readValueNoErr_cases (he.width_byte e.emu key w hinv.good hw) inp with hq | ⟨c, rest, hq, hlen⟩ <;> rw [hq]
    · exact Or.inr rfl
    · exact ⟨.next (hm ▸ .regmod key c), Nat.le_of_lt hlen⟩

end

-- the elaborator evaluates the type of what it applies: at `down` and `up` of the memory view it would compute `2 ^ 63`
attribute [local irreducible] MemView.wrapInt in
/-- the table decides the constructor of the mode, the declared types decide the shape of the arguments, so no type
assertion of `runAct` fails -/
theorem runAct_does (p : Params σ) (hl : Lawful p.cops) (he : EmuLawful p.eops Good) (top : NamedMode σ)
    (below : List (NamedMode σ)) (h : UIInv Good ⟨top :: below⟩) (cmd : Command)
    (hmem : cmd ∈ addStandardCmds (commandsOf top.mode.kind)) (args : List ArgVal) (hfit : ArgsFit cmd args)
    (inp : Input) : Does p top below cmd.act args inp (runAct p top below cmd.act args inp) := by
  obtain ⟨hargs, hopt, hkind⟩ := cmd_meta top.mode.kind cmd hmem
  rw [ArgsFit, hargs, hopt] at hfit
  generalize cmd.act = act at hkind hfit ⊢
  cases act <;>
    simp only [actKind, reduceCtorEq, Option.some.injEq, or_false, false_or] at hkind <;>
    simp only [actArgs, Bool.false_eq_true, false_and, or_false, List.nil_append, List.cons_append,
      List.map_eq_nil_iff, true_and] at hfit
  case quit => exact ⟨rfl, rfl, rfl⟩
  case help =>
    unfold runAct
    simp only [helpOK_true, if_true]
    exact errMsgf_does .stay inp
  case dDown | dUp | dBounds | dGoto =>
    obtain ⟨st, hm⟩ := kind_dis hkind.symm
    obtain ⟨n, rfl⟩ := shape_num1 hfit
    exact dis_does hl h inp hm rfl
  case dMove =>
    obtain ⟨st, hm⟩ := kind_dis hkind.symm
    obtain ⟨x, y, rfl⟩ := shape_num2 hfit
    exact dis_does hl h inp hm rfl
  case dEntry =>
    obtain ⟨st, hm⟩ := kind_dis hkind.symm
    exact dis_does hl h inp hm rfl
  case dFind =>
    obtain ⟨st, hm⟩ := kind_dis hkind.symm
    rcases hfit with hs | hs
    · obtain ⟨r, rfl⟩ := shape_str1 hs
      exact dis_does hl h inp hm rfl
    · obtain ⟨r, o, rfl⟩ := shape_str2 hs
      exact dis_does hl h inp hm rfl
  case dAllLines =>
    obtain ⟨st, hm⟩ := kind_dis hkind.symm
    unfold runAct
    simp only [hm]
    exact errMsgf_does .stay inp
  case dEmulate =>
    obtain ⟨st, hm⟩ := kind_dis hkind.symm
    unfold runAct
    simp only [hm]
    exact actEmulate_does he h inp hm
  case eStep =>
    obtain ⟨e, hm⟩ := kind_emu hkind.symm
    unfold runAct
    simp only [hm]
    exact actStep_does he h inp hm
  case eMemories =>
    obtain ⟨e, hm⟩ := kind_emu hkind.symm
    unfold runAct
    simp only [hm]
    exact errMsgf_does .stay inp
  case eMemory =>
    obtain ⟨e, hm⟩ := kind_emu hkind.symm
    obtain ⟨k, rfl⟩ := shape_str1 hfit
    unfold runAct
    simp only [hm]
    exact actMemory_does he h inp hm k
  case eRegmod =>
    obtain ⟨e, hm⟩ := kind_emu hkind.symm
    obtain ⟨k, rfl⟩ := shape_str1 hfit
    unfold runAct
    simp only [hm]
    exact actRegmod_does he h inp hm k
  case mDown | mUp | mGoto =>
    obtain ⟨m, v, hm⟩ := kind_mem hkind.symm
    obtain ⟨n, rfl⟩ := shape_num1 hfit
    unfold runAct
    simp only [hm]
    exact memAnswer_does hm inp fun _ => Lemmas.MemView.cursorSet_some
  case mAddress =>
    obtain ⟨m, v, hm⟩ := kind_mem hkind.symm
    obtain ⟨a, rfl⟩ := shape_addr1 hfit
    unfold runAct
    simp only [hm]
    exact memAnswer_does hm inp fun _ => Lemmas.MemView.cmdAddress_some

theorem parsed_act_does (p : Params σ) (hl : Lawful p.cops) (he : EmuLawful p.eops Good)
    (h : UIInv Good ⟨top :: below⟩) {line : Str} {cmd : Command} {args : List ArgVal}
    (hp : parseCommand top.cmdMap line = .ok cmd args) (rest : Input) :
    Does p top below cmd.act args rest (runAct p top below cmd.act args rest) := by
  obtain ⟨⟨k, hfind⟩, hfit⟩ := parseCommand_ok top.cmdMap line cmd args hp
  exact runAct_does p hl he top below h cmd (find_mem _ _ h.top.cmdMap k cmd hfind) args hfit rest

/-- how `processCommand` answers what the action returned -/
def afterAct : ActOut σ → Out σ
  | .panic => .panic
  | .hang => .hang
  | .ok ui rest => .cont .executed ui rest
  | .err ui rest => ack ui rest
  | .quit ui rest => quitMode ui rest

/-- every answer to a listing command holds the new listing state (`noMatch` through `errMsgf`, which keeps its `ui`) -/
theorem afterAct_disAnswer {inp : Input} {s : Listing.Status} {st' : Listing.St} {a : Answer} {ui' : UI σ} {rest : Input}
    (h : afterAct (disAnswer top below inp (some (s, st'))) = .cont a ui' rest) :
    ui' = ⟨{ top with mode := .dis st' } :: below⟩ := by
  cases s with
  | ok => cases h; rfl
  | noMatch | err e =>
    cases inp <;> cases h
    rfl

/-- one call of `processCommand`, taken apart: the end of the input, the empty line, a line that does not parse, a
parsed command and its action -/
inductive Call (p : Params σ) (ui : UI σ) (inp : Input) (out : Out σ) : Prop
  | eof : inp = [] → out = .eof .command → Call p ui inp out
  | skipped {rest : Input} : inp = [] :: rest → out = .cont .skipped ui rest → Call p ui inp out
  | rejected {top : NamedMode σ} {below : List (NamedMode σ)} {line : Str} {rest : Input} : ui.stack = top :: below →
      inp = line :: rest → line ≠ [] → parseCommand top.cmdMap line = .err → out = ack ui rest → Call p ui inp out
  | acted {top : NamedMode σ} {below : List (NamedMode σ)} {line : Str} {rest : Input} {cmd : Command}
      {args : List ArgVal} : ui.stack = top :: below → inp = line :: rest → line ≠ [] →
      parseCommand top.cmdMap line = .ok cmd args → out = afterAct (runAct p top below cmd.act args rest) →
      Call p ui inp out

theorem uiStep_call (p : Params σ) (ui : UI σ) (hne : ui.stack ≠ []) (inp : Input) : Call p ui inp (uiStep p ui inp) := by
  unfold uiStep uiStepWith
  cases inp with
  | nil => exact .eof rfl rfl
  | cons line rest =>
    simp only
    split
    · next hl0 => cases List.isEmpty_iff.mp hl0; exact .skipped rfl rfl
    · next hl0 =>
      have hne' : line ≠ [] := fun hc => hl0 (by simp [hc])
      cases hs : ui.stack with
      | nil => exact absurd hs hne
      | cons top below =>
        simp only
        cases hp : parseCommandWith false top.cmdMap line with
        | panic => exact absurd hp (parseCommand_no_panic top.cmdMap line)
        | err => exact .rejected hs rfl hne' hp rfl
        | ok cmd args =>
          refine .acted hs rfl hne' hp ?_
          simp only
          cases runAct p top below cmd.act args rest <;> rfl

/-- what `processCommand` makes of an action that did what actions do: the answer is not `skipped`, the stack has
undergone the effect of the action or, after `quit` in a mode that is not the first, lost its top; it hangs only
where the action hung -/
def Answered (p : Params σ) (top : NamedMode σ) (below : List (NamedMode σ)) (act : Act) (args : List ArgVal)
    (inp : Input) (out : ActOut σ) : Out σ → Prop
  | .cont a ui' rest' => a ≠ .skipped ∧ rest'.length ≤ inp.length ∧
      (Eff p top below act args ui' ∨ (act = .quit ∧ below ≠ [] ∧ ui' = ⟨below⟩))
  | .exited rest' => rest'.length ≤ inp.length
  | .eof _ => True
  | .hang => out = .hang
  | .panic => False

section
variable {inp : Input} {out : ActOut σ} {o : Out σ} {a : Answer} {ui' : UI σ} {rest' : Input}

theorem Answered.eff (h : Answered p top below act args inp out o) (hc : o = .cont a ui' rest') :
    Eff p top below act args ui' ∨ (act = .quit ∧ below ≠ [] ∧ ui' = ⟨below⟩) := by
  subst hc
  exact h.2.2

theorem Answered.hang (h : Answered p top below act args inp out o) (hc : o = .hang) : out = .hang := by
  subst hc
  exact h

end

theorem afterAct_spec {inp : Input} {out : ActOut σ} (hd : Does p top below act args inp out) :
    Answered p top below act args inp out (afterAct out) := by
  cases out with
  | panic => exact hd
  | hang => rfl
  | ok ui rest =>
    obtain ⟨heff, hlen⟩ := hd
    exact ⟨by simp, hlen, .inl heff⟩
  | err ui rest =>
    obtain ⟨heff, hlen⟩ := hd
    cases rest with
    | nil => trivial
    | cons l r => exact ⟨by simp, Nat.le_of_succ_le hlen, .inl heff⟩
  | quit ui rest =>
    obtain ⟨rfl, rfl, rfl⟩ := hd
    cases below with
    | nil => cases rest with
      | nil => trivial
      | cons l r => exact Nat.le_succ _
    | cons nm more => cases rest with
      | nil => trivial
      | cons l r => exact ⟨nofun, Nat.le_succ _, .inr ⟨rfl, List.cons_ne_nil _ _, rfl⟩⟩

/-- what one call of `processCommand` may do: it never panics; when it returns nil the state satisfies
the invariant again, at least the command line was consumed, and the answer is `skipped` exactly for the
empty line -/
def CallOK {σ : Type} (Good : σ → Prop) (inp : Input) : Out σ → Prop
  | .cont a ui' rest => UIInv Good ui' ∧ rest.length < inp.length ∧ (a = .skipped ↔ inp.head? = some [])
  | .exited rest => rest.length < inp.length
  | .eof _ => True
  | .hang => True
  | .panic => False

section
variable {inp : Input} {o : Out σ} {a : Answer} {ui' : UI σ} {rest : Input}

theorem CallOK.no_panic (h : CallOK Good inp o) : o ≠ .panic := by
  rintro rfl
  exact h

theorem CallOK.inv (h : CallOK Good inp o) (hc : o = .cont a ui' rest) : UIInv Good ui' := by
  subst hc
  exact h.1

theorem CallOK.shorter (h : CallOK Good inp o) (hc : o = .cont a ui' rest) : rest.length < inp.length := by
  subst hc
  exact h.2.1

theorem CallOK.skipped_iff (h : CallOK Good inp o) (hc : o = .cont a ui' rest) :
    a = .skipped ↔ inp.head? = some [] := by
  subst hc
  exact h.2.2

end

theorem Answered.callOK (he : EmuLawful p.eops Good) (h : UIInv Good ⟨top :: below⟩)
    {line : Str} (hne : line ≠ []) {inp : Input} {out : ActOut σ} {o : Out σ}
    (ha : Answered p top below act args inp out o) : CallOK Good (line :: inp) o := by
  cases o with
  | cont a ui' rest' =>
    obtain ⟨ha, hlen, hui' | ⟨_, hb, rfl⟩⟩ := ha
    · exact ⟨hui'.inv he h, Nat.lt_succ_of_le hlen, by simp [hne, ha]⟩
    · exact ⟨⟨hb, h.below⟩, Nat.lt_succ_of_le hlen, by simp [hne, ha]⟩
  | exited rest' => exact Nat.lt_succ_of_le ha
  | eof _ => trivial
  | hang => trivial
  | panic => exact ha

theorem uiStep_safe (p : Params σ) (hl : Lawful p.cops)
    (he : EmuLawful p.eops Good) (ui : UI σ) (h : UIInv Good ui) (inp : Input) :
    CallOK Good inp (uiStep p ui inp) := by
  cases uiStep_call p ui h.stack_ne inp with
  | eof _ ho => rw [ho]; trivial
  | skipped hi ho => rw [ho, hi]; exact ⟨h, by simp, by simp⟩
  | @rejected _ _ _ rest _ hi hne _ ho =>
    rw [ho, hi]
    cases rest with
    | nil => trivial
    | cons l r => exact ⟨h, by simp only [List.length_cons]; omega, by simp [hne]⟩
  | acted hs hi hne hp ho =>
    have hui := uiinv_of_stack h hs
    rw [ho, hi]
    exact (afterAct_spec (parsed_act_does p hl he hui hp _)).callOK he hui hne

theorem uiStep_hang (p : Params σ) (hl : Lawful p.cops)
    (he : EmuLawful p.eops Good) (ui : UI σ) (h : UIInv Good ui) (inp : Input)
    (hh : uiStep p ui inp = .hang) :
    ∃ top below line rest cmd args, ui.stack = top :: below ∧ inp = line :: rest ∧
      parseCommand top.cmdMap line = .ok cmd args ∧ (cmd.act = .eStep ∨ cmd.act = .eRegmod) ∧
      runAct p top below cmd.act args rest = .hang := by
  cases uiStep_call p ui h.stack_ne inp with
  | eof _ ho => cases hh.symm.trans ho
  | skipped _ ho => cases hh.symm.trans ho
  | @rejected _ _ _ rest _ _ _ _ ho => cases rest <;> cases hh.symm.trans ho
  | @acted top below line rest cmd args hs hi _ hp ho =>
    have hd := parsed_act_does p hl he (uiinv_of_stack h hs) hp rest
    have hrun := (afterAct_spec hd).hang (hh.symm.trans ho).symm
    rw [hrun] at hd
    exact ⟨top, below, line, rest, cmd, args, hs, hi, hp, hd, hrun⟩

theorem runWith_safe (p : Params σ) (hl : Lawful p.cops)
    (he : EmuLawful p.eops Good) : ∀ (fuel : Nat) (ui : UI σ) (inp : Input), UIInv Good ui → inp.length < fuel →
      runWith false p fuel ui inp ≠ .panic ∧ runWith false p fuel ui inp ≠ .outOfFuel
  | 0, _, _, _, hf => by omega
  | fuel + 1, ui, inp, h, hf => by
    have hs := uiStep_safe p hl he ui h inp
    unfold uiStep at hs
    simp only [runWith]
    cases hr : uiStepWith false p ui inp with
    | cont a ui' rest => exact runWith_safe p hl he fuel ui' rest (hs.inv hr) (by have := hs.shorter hr; omega)
    | exited rest => simp
    | eof a => simp
    | hang => simp
    | panic => exact absurd hr hs.no_panic

theorem session_safe (p : Params σ) (hl : Lawful p.cops)
    (he : EmuLawful p.eops Good) (ui : UI σ) (h : UIInv Good ui) (inp : Input) :
    session p ui inp = .exited ∨ (∃ a, session p ui inp = .eof a) ∨ session p ui inp = .hang := by
  have := runWith_safe p hl he (inp.length + 1) ui inp h (by omega)
  unfold session
  cases hr : runWith false p (inp.length + 1) ui inp with
  | exited => exact Or.inl rfl
  | eof a => exact Or.inr (Or.inl ⟨a, rfl⟩)
  | hang => exact Or.inr (Or.inr rfl)
  | panic => simp [hr] at this
  | outOfFuel => simp [hr] at this

/-- `Mode.View()`, the view that `renderMode` prints -/
def modeView (eops : EmuOps σ) : Mode σ → Render.View
  | .dis st => Render.linesView st.lines.len st.cursor.value
  | .emu e => Render.emuView e.view.lines.len e.view.cursor.value (eops.regs e.emu)
  | .mem _ v => Render.memView v.lines.length v.cursor

/-- under the invariant the memory view passes the guard of `renderMode` (`formatMemLine` does not panic) -/
theorem renderMode_eq (eops : EmuOps σ) {m : Mode σ} (hm : ModeInv Good m) (n : Nat) :
    renderMode eops m n = (modeView eops m).print n := by
  cases m with
  | mem mm v =>
    have hprint : ∃ out, MemView.print mm v n = some out := by
      rcases hm.1 with ⟨rfl, hl⟩ | ⟨mem, bl, σ', rfl, hn, hc, hl⟩
      · exact ⟨_, Lemmas.MemView.print_nil _ hl n⟩
      · have hv : v = ⟨viewLines bl, v.cursor⟩ := by cases v; simp_all
        rw [hv]
        exact ⟨_, Lemmas.MemView.print_eq hc hn v.cursor n⟩
    obtain ⟨out, hout⟩ := hprint
    simp only [renderMode, hout]
    rfl
  | _ => rfl

theorem modeView_safe {eops : EmuOps σ} (he : EmuLawful eops Good) {m : Mode σ} (hm : ModeInv Good m) :
    Lemmas.Render.NeverPanics (modeView eops m) := by
  cases m with
  | dis st => exact Lemmas.Render.linesView_safe _ _
  | emu e => exact Lemmas.Render.emuView_safe _ _ _ (he.regs_oneIP e.emu hm.good)
  | mem mm v => exact Lemmas.Render.memView_safe _ _ (hm.2.imp_left (congrArg List.length))

theorem renderTop_safe (eops : EmuOps σ) (he : EmuLawful eops Good)
    (ui : UI σ) (h : UIInv Good ui) (n : Nat) :
    (renderTop eops ui n).status ≠ .panic ∧ (renderTop eops ui n).status ≠ .outOfFuel := by
  unfold renderTop
  cases hs : ui.stack with
  | nil => exact absurd hs h.stack_ne
  | cons top below =>
    have hm := (uiinv_of_stack h hs).top.mode
    simp only [renderMode_eq eops hm]
    exact modeView_safe he hm n

end Mltwist.Lemmas.UI
