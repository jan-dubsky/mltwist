import Mltwist.Lemmas.EmulatorFill
/-
Emulator (C03, C04): the register phase of evaluation.  `evalRegsFully` never panics on a state whose registers hold
constants; its result is the expression with every register load replaced by the value the register map holds for it;
the state evolves by register fills only; the report notes exactly the loads of the expression with the values read.
"The register map" is the one the phase ends in OR ANY MAP EXTENDING IT (`RegsRead`); the memory phase and `eval`
(`EmulatorEval`) are stated in the same way.  Also here: the load nodes of an expression (`memNodes`, `regLoads_node`),
which `EmulatorEval` and `EmulatorRefine` locate a stop with.
-/
namespace Mltwist.Lemmas.Emulator
open Mltwist Mltwist.State Mltwist.Overlay Mltwist.Emulator Mltwist.Spec.Overlay

/-- the register loads of an expression, in the order `ReplaceAll` visits them -/
def regLoads : Expr → List (String × Nat)
  | .const _ => []
  | .binary _ a b _ => regLoads a ++ regLoads b
  | .less a b t f _ => regLoads a ++ regLoads b ++ regLoads t ++ regLoads f
  | .memLoad _ a _ => regLoads a
  | .regLoad k w => [(k, w)]

/-- the memory-load nodes of an expression: key, address expression, width -/
def memNodes : Expr → List (String × Expr × Nat)
  | .const _ => []
  | .regLoad _ _ => []
  | .binary _ a b _ => memNodes a ++ memNodes b
  | .less a b t f _ => memNodes a ++ memNodes b ++ memNodes t ++ memNodes f
  | .memLoad k a w => (k, a, w) :: memNodes a

/-- `AllNodes P` (the recursive form the table-wide facts of the lifting are proved in) says `P` of the load nodes -/
theorem allNodes_iff (P : String → Expr → Nat → Prop) : ∀ e : Expr,
    Lemmas.RiscvLift.AllNodes P e ↔ ∀ n ∈ memNodes e, P n.1 n.2.1 n.2.2
  | .const _ | .regLoad _ _ => by simp [Lemmas.RiscvLift.AllNodes, memNodes]
  | .binary _ a b _ => by
    simp only [Lemmas.RiscvLift.AllNodes, memNodes, List.mem_append, allNodes_iff P a, allNodes_iff P b, or_imp,
      forall_and]
  | .less a b t f _ => by
    simp only [Lemmas.RiscvLift.AllNodes, memNodes, List.mem_append, allNodes_iff P a, allNodes_iff P b,
      allNodes_iff P t, allNodes_iff P f, or_imp, forall_and, and_assoc]
  | .memLoad k a w => by
    simp only [Lemmas.RiscvLift.AllNodes, memNodes, List.mem_cons, allNodes_iff P a, forall_eq_or_imp]

theorem regLoads_node {e : Expr} {n : String × Expr × Nat} :
    n ∈ memNodes e → ∀ kw ∈ regLoads n.2.1, kw ∈ regLoads e := by
  induction e with
  | const _ => exact fun h => nomatch h
  | regLoad _ _ => exact fun h => nomatch h
  | binary op a b w iha ihb =>
    intro h kw hk
    simp only [memNodes, regLoads, List.mem_append] at h ⊢
    exact h.imp (iha · kw hk) (ihb · kw hk)
  | less a b t f w iha ihb iht ihf =>
    intro h kw hk
    simp only [memNodes, regLoads, List.mem_append] at h ⊢
    exact h.imp (·.imp (·.imp (iha · kw hk) (ihb · kw hk)) (iht · kw hk)) (ihf · kw hk)
  | memLoad k a w iha =>
    intro h kw hk
    rcases List.mem_cons.1 h with rfl | h
    · exact hk
    · exact iha h kw hk

/-- every load node of `e'` corresponds to a load node of `e`: same key, same width, equal address value -/
def NodesSub (e' e : Expr) : Prop :=
  ∀ n ∈ memNodes e', ∃ n' ∈ memNodes e, n'.1 = n.1 ∧ n'.2.2 = n.2.2 ∧ ∀ ρ, n'.2.1.eval ρ = n.2.1.eval ρ

theorem NodesSub.of_subset {e' e : Expr} (h : ∀ n ∈ memNodes e', n ∈ memNodes e) : NodesSub e' e :=
  fun n hn => ⟨n, h n hn, rfl, rfl, fun _ => rfl⟩

/-- every register load replaced by what the register map holds -/
def substRegs (m : RegMap) : Expr → Expr
  | .const bs => .const bs
  | .binary op a b w => .binary op (substRegs m a) (substRegs m b) w
  | .less a b t f w => .less (substRegs m a) (substRegs m b) (substRegs m t) (substRegs m f) w
  | .memLoad k a w => .memLoad k (substRegs m a) w
  | .regLoad k w => (m.load k w).getD (.regLoad k w)

theorem substRegs_regLoad {m : RegMap} {k : String} {v : List UInt8} (h : assocGet k m = some (.const v)) (w : Nat) :
    substRegs m (.regLoad k w) = .const (cw v w) := by
  rw [substRegs, load_const h]; rfl

def RegsIn (m : RegMap) (l : List (String × Nat)) : Prop := ∀ kw ∈ l, assocGet kw.1 m ≠ none

/-- the (register, bytes) pairs `inputReg` is called with for the loads `l` -/
def readVals (m : RegMap) (l : List (String × Nat)) : List (String × List UInt8) :=
  l.filterMap fun kw => match m.load kw.1 kw.2 with
    | some (.const v) => some (kw.1, v)
    | _ => none

/-- `inputReg` for a list of reads -/
def noteReads (r : Report) (l : List (String × List UInt8)) : Report :=
  l.foldl (fun r kv => r.inputReg kv.1 kv.2) r

theorem noteReads_append (r : Report) (l1 l2 : List (String × List UInt8)) :
    noteReads r (l1 ++ l2) = noteReads (noteReads r l1) l2 := by
  simp [noteReads, List.foldl_append]

theorem RegsIn.append {m : RegMap} {l1 l2 : List (String × Nat)} :
    RegsIn m (l1 ++ l2) ↔ RegsIn m l1 ∧ RegsIn m l2 := by
  unfold RegsIn
  constructor
  · intro h
    exact ⟨fun kw hk => h kw (List.mem_append_left _ hk), fun kw hk => h kw (List.mem_append_right _ hk)⟩
  · rintro ⟨h1, h2⟩ kw hk
    rcases List.mem_append.1 hk with h | h
    · exact h1 kw h
    · exact h2 kw h

theorem readVals_append (m : RegMap) (l1 l2 : List (String × Nat)) :
    readVals m (l1 ++ l2) = readVals m l1 ++ readVals m l2 := by
  simp [readVals, List.filterMap_append]

/-- the requests the register phase may issue for an expression: one per load, at the greater of
the load width and the width of the register in the code (REPAIR F44) -/
def RegReqOf (code : CodeView) (l : List (String × Nat)) (r : Req) : Prop :=
  ∃ kw ∈ l, r = .reg kw.1 (max kw.2 (code.regWidth kw.1))

theorem RegReqOf.mono {code : CodeView} {l l' : List (String × Nat)} (h : ∀ kw ∈ l, kw ∈ l') (r : Req) :
    RegReqOf code l r → RegReqOf code l' r :=
  fun ⟨kw, hk, e⟩ => ⟨kw, h kw hk, e⟩

/-- What reading the registers `ls`, in this order, guarantees.  Nothing is said of the register map the reads end in
that is not said of EVERY map extending it (`up`): later fills only extend, so what holds here holds in every later
state, and two reads in a row compose without any lemma on how `readVals` or `substRegs` change under extension. -/
structure RegsRead (p : Provider) (code : CodeView) (ls : List (String × Nat)) (c c' : Ctx) : Prop where
  log : Fills p (RegReqOf code ls) c c'
  regsConst : RegsConst c'.st.regs
  up : ∀ m, RExt c'.st.regs m → RegsIn m ls ∧ c'.rep = noteReads c.rep (readVals m ls)

theorem RegsRead.nil (p : Provider) (code : CodeView) {c : Ctx} (hr : RegsConst c.st.regs) :
    RegsRead p code [] c c :=
  ⟨Fills.refl _ _ _, hr, fun _ _ => ⟨(fun _ h => nomatch h), rfl⟩⟩

theorem RegsRead.trans {p : Provider} {code : CodeView} {ls1 ls2 : List (String × Nat)} {c c1 c2 : Ctx}
    (o1 : RegsRead p code ls1 c c1) (o2 : RegsRead p code ls2 c1 c2) : RegsRead p code (ls1 ++ ls2) c c2 := by
  refine ⟨o1.log.trans o2.log (RegReqOf.mono fun _ => List.mem_append_left _)
      (RegReqOf.mono fun _ => List.mem_append_right _), o2.regsConst, fun m hm => ?_⟩
  obtain ⟨i1, r1⟩ := o1.up m (o2.log.rext.trans hm)
  obtain ⟨i2, r2⟩ := o2.up m hm
  exact ⟨RegsIn.append.2 ⟨i1, i2⟩, by rw [r2, r1, readVals_append, noteReads_append]⟩

theorem regValue_known (p : Provider) (code : CodeView) (c : Ctx) (key : String) (w : Nat) (v : List UInt8)
    (h : assocGet key c.st.regs = some (.const v)) : regValue p code c key w = .ok (cw v w, c) := by
  unfold regValue
  rw [load_const h]

theorem regValue_spec (p : Provider) (code : CodeView) (c : Ctx) (key : String) (w : Nat)
    (hr : RegsConst c.st.regs) :
    (∃ v, assocGet key c.st.regs = some (.const v) ∧ regValue p code c key w = .ok (cw v w, c)) ∨
    (assocGet key c.st.regs = none ∧
      regValue p code c key w =
        .ok (Const.withWidth (Const.withWidth (p.reg key (max w (code.regWidth key))) (max w (code.regWidth key))) w,
          { c with st := fillReg p c.st key (max w (code.regWidth key))
                   log := c.log ++ [.reg key (max w (code.regWidth key))] })) := by
  by_cases hg : assocGet key c.st.regs = none
  · refine Or.inr ⟨hg, ?_⟩
    unfold regValue
    rw [load_none hg]
    rfl
  · obtain ⟨v, hv⟩ := hr.get hg
    exact Or.inl ⟨v, hv, regValue_known p code c key w v hv⟩

theorem regLoad_spec (p : Provider) (code : CodeView) (c : Ctx) (k : String) (w : Nat) (hr : RegsConst c.st.regs) :
    ∃ v0 c', regValue p code c k w = .ok (cw v0 w, c') ∧ assocGet k c'.st.regs = some (.const v0) ∧ c'.rep = c.rep ∧
      Fills p (RegReqOf code [(k, w)]) c c' ∧ RegsConst c'.st.regs := by
  rcases regValue_spec p code c k w hr with ⟨v, hv, hreg⟩ | ⟨hn, hreg⟩
  · exact ⟨v, c, hreg, hv, rfl, Fills.refl _ _ c, hr⟩
  · rw [withWidth_eq_cw _ w] at hreg
    refine ⟨_, _, hreg, supplied_fillReg p c.st k _, rfl, ⟨[.reg k _], rfl, Fill.single_reg hn, fun r hr' => ?_⟩,
      regsConst_store hr k _ _⟩
    cases List.mem_singleton.1 hr'
    exact ⟨(k, w), List.mem_singleton.2 rfl, rfl⟩

theorem evalRegs_spec (p : Provider) (code : CodeView) (e : Expr) : ∀ c : Ctx, RegsConst c.st.regs →
    ∃ r c', evalRegs p code e c = .ok (r, c') ∧ RegsRead p code (regLoads e) c c' ∧
      ∀ m, RExt c'.st.regs m → r = substRegs m e := by
  induction e with
  | const bs => exact fun c hr => ⟨_, c, rfl, RegsRead.nil p code hr, fun _ _ => rfl⟩
  | regLoad k w =>
    intro c hr
    obtain ⟨v0, c', hreg, hv, hrep, hf, hc⟩ := regLoad_spec p code c k w hr
    have hl : ∀ m, RExt c'.st.regs m → m.load k w = some (.const (cw v0 w)) := fun m hm => load_const (hm k _ hv) w
    refine ⟨.const (cw v0 w), { c' with rep := c'.rep.inputReg k (cw v0 w) }, by simp only [evalRegs, hreg],
      ⟨hf, hc, fun m hm => ⟨fun kw hk => ?_, ?_⟩⟩,
      fun m hm => by simp only [substRegs, hl m hm, Option.getD]⟩
    · cases List.mem_singleton.1 hk
      exact fun h => nomatch (hm k _ hv).symm.trans h
    · simp only [readVals, regLoads, List.filterMap_cons, List.filterMap_nil, hl m hm, noteReads, List.foldl_cons,
        List.foldl_nil, hrep]
  | memLoad k a w iha =>
    intro c hr
    obtain ⟨a', c1, h1, o1, e1⟩ := iha c hr
    exact ⟨.memLoad k a' w, c1, by simp only [evalRegs, h1], o1, fun m hm => by rw [e1 m hm]; rfl⟩
  | binary op a b w iha ihb =>
    intro c hr
    obtain ⟨a', c1, h1, o1, e1⟩ := iha c hr
    obtain ⟨b', c2, h2, o2, e2⟩ := ihb c1 o1.regsConst
    exact ⟨.binary op a' b' w, c2, by simp only [evalRegs, h1, h2], o1.trans o2,
      fun m hm => by rw [e1 m (o2.log.rext.trans hm), e2 m hm]; rfl⟩
  | less a b t f w iha ihb iht ihf =>
    intro c hr
    obtain ⟨a', c1, h1, o1, e1⟩ := iha c hr
    obtain ⟨b', c2, h2, o2, e2⟩ := ihb c1 o1.regsConst
    obtain ⟨t', c3, h3, o3, e3⟩ := iht c2 o2.regsConst
    obtain ⟨f', c4, h4, o4, e4⟩ := ihf c3 o3.regsConst
    refine ⟨.less a' b' t' f' w, c4, by simp only [evalRegs, h1, h2, h3, h4], ((o1.trans o2).trans o3).trans o4,
      fun m hm => ?_⟩
    have m3 := o4.log.rext.trans hm
    have m2 := o3.log.rext.trans m3
    rw [e1 m (o2.log.rext.trans m2), e2 m m2, e3 m m3, e4 m hm]
    rfl

end Mltwist.Lemmas.Emulator
