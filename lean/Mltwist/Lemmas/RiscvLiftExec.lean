import Mltwist.Spec.Riscv
/-
C01 library: the reference `Spec.Rv.exec` / `Spec.Rv.accessRange` in closed form.  The local definitions of `exec`
(`fall`, `wr`, `br`, `csrOp`, `amo`, `w32`) made global, with names for what it writes out (`jump`, `ldAddr`, `stAddr`); the
instruction classes `Desc` with the reference's meaning of each (`Desc.run`, `Desc.access`); `classify_spec`: `exec` and
`accessRange` at every mnemonic are `run` and `access` of its class; `Desc.ok W`: the classes that exist on the variant with
`W`-byte registers.
-/
namespace Mltwist.Lemmas.RiscvLift
open Mltwist Mltwist.Spec.Rv

/-- `t` with the program counter of the instruction following the one at `s.pc` -/
def fall (xlen : Nat) (s t : St) : St := { t with pc := (s.pc + 4) % 2 ^ xlen }
/-- write `v mod 2^xlen` to `rd`, fall through -/
def wr (xlen w : Nat) (s : St) (v : Nat) : Option St := some (fall xlen s (s.set (rd w) (v % 2 ^ xlen)))
/-- write the sign extension of the low 32 bits of `v` to `rd`, fall through (the `…w` forms) -/
def w32 (xlen w : Nat) (s : St) (v : Nat) : Option St := wr xlen w s (Spec.Rv.sext xlen 32 v)
def br (xlen w : Nat) (s : St) (c : Bool) : Option St :=
  some (if c then { s with pc := wrap xlen ((s.pc : Int) + immB w) } else fall xlen s s)
/-- link in `rd`, continue at `T` (`jal`, `jalr`) -/
def jump (xlen w : Nat) (s : St) (T : Nat) : Option St :=
  some { (s.set (rd w) ((s.pc + 4) % 2 ^ xlen)) with pc := T }
/-- effective address of a load / `jalr` (`rs1 + immI`) and of a store (`rs1 + immS`) -/
def ldAddr (xlen w : Nat) (s : St) : Nat := wrap xlen ((s.get (rs1 w) : Int) + immI w)
def stAddr (xlen w : Nat) (s : St) : Nat := wrap xlen ((s.get (rs1 w) : Int) + immS w)
/-- shift amount of `slli/srli/srai` -/
def shamt (xlen w : Nat) : Nat := if xlen = 32 then bits w 20 5 else bits w 20 6
/-- CSR read-modify-write: `t` = old CSR value goes to `rd`, `f t` to the CSR -/
def csrOp (xlen w : Nat) (s : St) (f : Nat → Nat) : Option St :=
  some (fall xlen s ((s.setCsr (csrNum w) (f (s.csr (csrNum w)) % 2 ^ xlen)).set (rd w) (s.csr (csrNum w))))
/-- AMO on `n` bytes at `x[rs1]` -/
def amo (xlen w : Nat) (s : St) (n : Nat) (f : Nat → Nat → Nat) : Option St :=
  some (fall xlen s ((s.store (s.get (rs1 w))
      (f (s.load (s.get (rs1 w)) n) (s.get (rs2 w) % 2 ^ (8 * n)) % 2 ^ (8 * n)) n).set (rd w)
    (Spec.Rv.sext xlen (8 * n) (s.load (s.get (rs1 w)) n))))
def smin (n : Nat) (p q : Nat) : Nat := if sx n p < sx n q then p else q
def smax (n : Nat) (p q : Nat) : Nat := if sx n p < sx n q then q else p

@[simp] theorem shamt_32 (w : Nat) : shamt 32 w = bits w 20 5 := rfl
@[simp] theorem shamt_64 (w : Nat) : shamt 64 w = bits w 20 6 := rfl
@[simp] theorem fall_pc (xlen : Nat) (s t : St) : (fall xlen s t).pc = (s.pc + 4) % 2 ^ xlen := rfl
@[simp] theorem fall_x (xlen : Nat) (s t : St) : (fall xlen s t).x = t.x := rfl
@[simp] theorem fall_csr (xlen : Nat) (s t : St) : (fall xlen s t).csr = t.csr := rfl
@[simp] theorem fall_mem (xlen : Nat) (s t : St) : (fall xlen s t).mem = t.mem := rfl

/-! The instruction classes: what the instruction listing of the ISA manual distinguishes.  `exec` is keyed by mnemonic;
its alternatives, one per mnemonic, are instances of the classes `Desc`, and so are the rows of the instruction tables
(`Desc.lift`, `RiscvLiftSchema.lean`).  Everything table-wide is proved per class. -/

inductive Alu where
  | add | sub | sll | srl | sra | slt | sltu | xor | or | and
  | mul | mulh | mulhsu | mulhu | div | divu | rem | remu
inductive Cmp where
  | eq | lt | ltu
inductive AmoOp where
  | swap | add | xor | and | or | min | max | minu | maxu
inductive CsrOp where
  | write | set | clear

/-- `neg`: branch when the comparison fails (`bne`, `bge`, `bgeu`); `n`: bytes accessed; `imm`: the second operand is
the I-immediate (`addi`, `slli`); `word`: the `…w` forms of RV64, which compute on the low 32 bits -/
inductive Desc where
  | lui | auipc | jal | jalr
  | br (c : Cmp) (neg : Bool)
  | load (n : Nat) (signed : Bool)
  | store (n : Nat)
  | alu (op : Alu) (imm word : Bool)
  | nop
  | csr (op : CsrOp) (imm : Bool)
  | lr (n : Nat)
  | sc (n : Nat)
  | amo (op : AmoOp) (n : Nat)

namespace Alu

/-- the operations that have an immediate form, and those that have a `…w` form -/
def hasImm : Alu → Bool
  | .add | .slt | .sltu | .xor | .or | .and | .sll | .srl | .sra => true
  | _ => false
def hasWord : Alu → Bool
  | .add | .sub | .sll | .srl | .sra | .mul | .div | .divu | .rem | .remu => true
  | _ => false

end Alu

def AmoOp.val (n : Nat) : AmoOp → Nat → Nat → Nat
  | .swap => fun _ q => q | .add => (· + ·) | .xor => (· ^^^ ·) | .and => (· &&& ·) | .or => (· ||| ·)
  | .min => smin (8 * n) | .max => smax (8 * n) | .minu => Min.min | .maxu => Max.max

namespace Desc

/-- What the reference does for an instruction of the class: the right-hand sides of `exec`, with its own way of writing
each (`a + b` for `add` but `wrap xlen (a + immI)` for `addi`, `a % 2 ^ 32` only where a `…w` shift needs it), so that
`classify_spec` holds by unfolding. -/
def run (xlen w : Nat) (s : St) : Desc → Option St :=
  let a := s.get (rs1 w)
  let b := s.get (rs2 w)
  fun
  | .lui => wr xlen w s (wrap xlen (immU w))
  | .auipc => wr xlen w s (wrap xlen ((s.pc : Int) + immU w))
  | .jal => jump xlen w s (wrap xlen ((s.pc : Int) + immJ w))
  | .jalr => jump xlen w s (ldAddr xlen w s / 2 * 2)
  | .br c neg =>
    let p := match c with
      | .eq => a == b | .lt => decide (sx xlen a < sx xlen b) | .ltu => decide (a < b)
    RiscvLift.br xlen w s (if neg then !p else p)
  | .load n signed =>
    wr xlen w s (if signed then Spec.Rv.sext xlen (8 * n) (s.load (ldAddr xlen w s) n) else s.load (ldAddr xlen w s) n)
  | .store n => some (fall xlen s (s.store (stAddr xlen w s) b n))
  | .alu op imm word =>
    let m := if word then 32 else xlen
    let al := if word then a % 2 ^ 32 else a
    let sh := if imm then (if word then bits w 20 5 else shamt xlen w) else b % m
    let bi := if imm then wrap xlen (immI w) else b
    (if word then w32 xlen w s else wr xlen w s) (match op with
      | .add => if imm then wrap m ((a : Int) + immI w) else a + b
      | .sub => wrap m ((a : Int) - b)
      | .sll => al * 2 ^ sh | .srl => al / 2 ^ sh | .sra => sra m a sh
      | .slt => if imm then (if sx xlen a < immI w then 1 else 0) else (if sx xlen a < sx xlen b then 1 else 0)
      | .sltu => if a < bi then 1 else 0
      | .xor => a ^^^ bi | .or => a ||| bi | .and => a &&& bi
      | .mul => a * b
      | .mulh => wrap xlen (sx xlen a * sx xlen b / ((2 ^ xlen : Nat) : Int))
      | .mulhsu => wrap xlen (sx xlen a * (b : Int) / ((2 ^ xlen : Nat) : Int))
      | .mulhu => a * b / 2 ^ xlen
      | .div => sdiv m a b | .divu => udiv m a b | .rem => srem m a b | .remu => urem m a b)
  | .nop => some (fall xlen s s)
  | .csr op imm =>
    let v := if imm then zimm w else a
    csrOp xlen w s (match op with
      | .write => fun _ => v | .set => fun t => t ||| v | .clear => fun t => t &&& (2 ^ xlen - 1 - v))
  | .lr n => wr xlen w s (if n = 8 then s.load a n else Spec.Rv.sext xlen (8 * n) (s.load a n))
  | .sc n => some (fall xlen s ((s.store a b n).set (rd w) 0))
  | .amo op n => RiscvLift.amo xlen w s n (op.val n)

/-- the memory range an instruction of the class accesses -/
def access (xlen w : Nat) (s : St) : Desc → Option (Nat × Nat)
  | .load n _ => some (ldAddr xlen w s, n)
  | .store n => some (stAddr xlen w s, n)
  | .lr n | .sc n | .amo _ n => some (s.get (rs1 w), n)
  | _ => none

/-- the class is an instruction of the variant with `W`-byte registers: accesses of at most `W` bytes, no zero-extending
load of a whole register (`lwu` is RV64 only), `…w` forms only on RV64 -/
def ok (W : Nat) : Desc → Bool
  | .load n signed => 1 ≤ n && n ≤ W && (signed || n < W)
  | .store n | .lr n | .sc n | .amo _ n => 1 ≤ n && n ≤ W
  | .alu op imm word => (!imm || op.hasImm) && (!word || op.hasWord && W == 8)
  | _ => true

section
variable {W n : Nat}

theorem ok_load {signed : Bool} :
    (load n signed).ok W = true ↔ 1 ≤ n ∧ n ≤ W ∧ (signed = true ∨ n < W) := by
  simp [ok, and_assoc]
theorem ok_store : (store n).ok W = true ↔ 1 ≤ n ∧ n ≤ W := by simp [ok]
theorem ok_lr : (lr n).ok W = true ↔ 1 ≤ n ∧ n ≤ W := by simp [ok]
theorem ok_sc : (sc n).ok W = true ↔ 1 ≤ n ∧ n ≤ W := by simp [ok]
theorem ok_amo {op : AmoOp} : (amo op n).ok W = true ↔ 1 ≤ n ∧ n ≤ W := by simp [ok]
theorem ok_word {op : Alu} {imm : Bool} (h : (alu op imm true).ok W = true) : W = 8 := by
  simp [ok] at h; exact h.2.2

end

end Desc

/-- The class of every mnemonic, one row per mnemonic.  The ORDER is that of the Go tables `integer64`, `mul64`, `atomic64`,
and the RV32 tables must list the rows with `Desc.ok 4` in the same order, as a subsequence: `tables64`, `tables32`
(`RiscvLiftTables.lean`) and `flags64`, `flags32` (`RiscvTextTables.lean`) compare position by position, and a row out of
place makes them fail without naming it. -/
def classify : List (String × Desc) := [
  ("lui", .lui), ("auipc", .auipc), ("jal", .jal), ("jalr", .jalr), ("beq", .br .eq false),
  ("bne", .br .eq true), ("blt", .br .lt false), ("bge", .br .lt true), ("bltu", .br .ltu false),
  ("bgeu", .br .ltu true), ("lb", .load 1 true), ("lh", .load 2 true), ("lw", .load 4 true),
  ("ld", .load 8 true), ("lbu", .load 1 false), ("lhu", .load 2 false), ("lwu", .load 4 false),
  ("sb", .store 1), ("sh", .store 2), ("sw", .store 4), ("sd", .store 8), ("addi", .alu .add true false),
  ("slti", .alu .slt true false), ("sltiu", .alu .sltu true false), ("xori", .alu .xor true false),
  ("ori", .alu .or true false), ("andi", .alu .and true false), ("slli", .alu .sll true false),
  ("srli", .alu .srl true false), ("srai", .alu .sra true false), ("add", .alu .add false false),
  ("sub", .alu .sub false false), ("slt", .alu .slt false false), ("sltu", .alu .sltu false false),
  ("or", .alu .or false false), ("and", .alu .and false false), ("xor", .alu .xor false false),
  ("sll", .alu .sll false false), ("srl", .alu .srl false false), ("sra", .alu .sra false false),
  ("fence", .nop), ("fence.i", .nop), ("ecall", .nop), ("ebreak", .nop), ("csrrw", .csr .write false),
  ("csrrs", .csr .set false), ("csrrc", .csr .clear false), ("csrrwi", .csr .write true),
  ("csrrsi", .csr .set true), ("csrrci", .csr .clear true), ("addiw", .alu .add true true),
  ("slliw", .alu .sll true true), ("srliw", .alu .srl true true), ("sraiw", .alu .sra true true),
  ("addw", .alu .add false true), ("subw", .alu .sub false true), ("sllw", .alu .sll false true),
  ("srlw", .alu .srl false true), ("sraw", .alu .sra false true), ("mul", .alu .mul false false),
  ("mulh", .alu .mulh false false), ("mulhu", .alu .mulhu false false), ("mulhsu", .alu .mulhsu false false),
  ("div", .alu .div false false), ("divu", .alu .divu false false), ("rem", .alu .rem false false),
  ("remu", .alu .remu false false), ("mulw", .alu .mul false true), ("divw", .alu .div false true),
  ("divuw", .alu .divu false true), ("remw", .alu .rem false true), ("remuw", .alu .remu false true),
  ("lr.d", .lr 8), ("sc.d", .sc 8), ("amoswap.d", .amo .swap 8), ("amoadd.d", .amo .add 8),
  ("amoxor.d", .amo .xor 8), ("amoand.d", .amo .and 8), ("amoor.d", .amo .or 8), ("amomin.d", .amo .min 8),
  ("amomax.d", .amo .max 8), ("amominu.d", .amo .minu 8), ("amomaxu.d", .amo .maxu 8), ("lr.w", .lr 4),
  ("sc.w", .sc 4), ("amoswap.w", .amo .swap 4), ("amoadd.w", .amo .add 4), ("amoxor.w", .amo .xor 4),
  ("amoand.w", .amo .and 4), ("amoor.w", .amo .or 4), ("amomin.w", .amo .min 4), ("amomax.w", .amo .max 4),
  ("amominu.w", .amo .minu 4), ("amomaxu.w", .amo .maxu 4)]

/-- `exec` and `accessRange` at every mnemonic.  `exec` is one big `match` on the mnemonic string, i.e. a chain of
tests `name = "…"`, one per mnemonic: never unfold `exec`/`accessRange` in a proof, use this.  All equations are proved in ONE
declaration: deciding `name = "lit"` needs the byte list of the literal, which the checker computes once per declaration. -/
theorem classify_spec (xlen w : Nat) (s : St) : ∀ p ∈ classify,
    exec xlen p.1 w s = p.2.run xlen w s ∧ accessRange xlen p.1 w s = p.2.access xlen w s := by
  simp only [classify, List.forall_mem_cons, List.not_mem_nil, false_imp_iff, implies_true, and_true]
  and_intros <;> rfl

theorem le_of_noWrap {xlen w : Nat} {s : St} {name : String} {A n : Nat}
    (ha : accessRange xlen name w s = some (A, n)) (h : noWrap xlen name w s = true) :
    A + n ≤ 2 ^ xlen := by
  unfold noWrap at h
  rw [ha] at h
  exact of_decide_eq_true h

/-! `classify_spec` read off at the three shift-immediate mnemonics (by their positions in `classify`), whose shift amount
depends on the variant. -/
section
variable (xlen w : Nat) (s : St)

theorem exec_slli : exec xlen "slli" w s = wr xlen w s (s.get (rs1 w) * 2 ^ shamt xlen w) :=
  (classify_spec xlen w s _ (List.mem_of_getElem? (i := 27) rfl)).1
theorem exec_srli : exec xlen "srli" w s = wr xlen w s (s.get (rs1 w) / 2 ^ shamt xlen w) :=
  (classify_spec xlen w s _ (List.mem_of_getElem? (i := 28) rfl)).1
theorem exec_srai : exec xlen "srai" w s = wr xlen w s (sra xlen (s.get (rs1 w)) (shamt xlen w)) :=
  (classify_spec xlen w s _ (List.mem_of_getElem? (i := 29) rfl)).1

end

end Mltwist.Lemmas.RiscvLift
