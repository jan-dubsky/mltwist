import Mltwist.Model.Render
/-
Proofs for C24: the loop of `Composite.distributeLines`, as the code is (`dec = false`) and with `remLines--`
(`dec = true`).  The fuel of the model suffices for every input (`rounds` bounds the rounds still to go); what a round
keeps (`Inv`) is carried to the result by `distLoop_run`.
-/
namespace Mltwist.Lemmas.Render
open Mltwist.Render

theorem getD_set_eq (l : List Int) (i : Nat) (v d : Int) (h : i < l.length) : (l.set i v).getD i d = v := by
  simp [List.getD_eq_getElem?_getD, h]

theorem getD_set_ne (l : List Int) (i j : Nat) (v d : Int) (h : i ≠ j) : (l.set i v).getD j d = l.getD j d := by
  simp [List.getD_eq_getElem?_getD, List.getElem?_set_ne h]

theorem sumInts_set : ∀ (l : List Int) (i : Nat) (w : Int), i < l.length →
    sumInts (l.set i w) = sumInts l - l.getD i 0 + w
  | x :: xs, 0, w, _ => by simp only [List.set_cons_zero, sumInts, List.getD_cons_zero]; omega
  | x :: xs, i + 1, w, h => by
    have := sumInts_set xs i w (Nat.lt_of_succ_lt_succ h)
    simp only [List.set_cons_succ, sumInts, List.getD_cons_succ]; omega

theorem posSum_set : ∀ (l : List Int) (i : Nat) (w : Int), i < l.length →
    posSum (l.set i w) + (l.getD i 0).toNat = posSum l + w.toNat
  | x :: xs, 0, w, _ => by simp only [List.set_cons_zero, posSum, List.getD_cons_zero]; omega
  | x :: xs, i + 1, w, h => by
    have := posSum_set xs i w (Nat.lt_of_succ_lt_succ h)
    simp only [List.set_cons_succ, posSum, List.getD_cons_succ]; omega

theorem countPositive_set : ∀ (l : List Int) (i : Nat) (w : Int), i < l.length →
    countPositive (l.set i w) + (if l.getD i 0 > 0 then 1 else 0) = countPositive l + (if w > 0 then 1 else 0)
  | x :: xs, 0, w, _ => by simp only [List.set_cons_zero, countPositive, List.getD_cons_zero]; omega
  | x :: xs, i + 1, w, h => by
    have := countPositive_set xs i w (Nat.lt_of_succ_lt_succ h)
    simp only [List.set_cons_succ, countPositive, List.getD_cons_succ]; omega

theorem countPositive_nonneg : ∀ l : List Int, 0 ≤ countPositive l
  | [] => Int.le_refl 0
  | x :: xs => by have := countPositive_nonneg xs; simp only [countPositive]; split <;> omega

theorem countPositive_pos_any : ∀ l : List Int, 0 < countPositive l → l.any (fun v => decide (0 < v)) = true
  | [], h => absurd h (by decide)
  | x :: xs, h => by
    simp only [countPositive] at h
    rw [List.any_cons, Bool.or_eq_true, decide_eq_true_eq]
    by_cases hx : 0 < x
    · exact Or.inl hx
    · exact Or.inr (countPositive_pos_any xs (by rw [if_neg hx] at h; omega))

theorem countPositive_zero : ∀ (l : List Int), countPositive l ≤ 0 → ∀ j, l.getD j 0 ≤ 0
  | [], _, _ => by simp
  | x :: xs, h, j => by
    have := countPositive_nonneg xs
    simp only [countPositive] at h
    cases j with
    | zero =>
      rw [List.getD_cons_zero]
      by_cases hx : x ≤ 0
      · exact hx
      · rw [if_pos (by omega)] at h; omega
    | succ j => rw [List.getD_cons_succ]; exact countPositive_zero xs (by split at h <;> omega) j

theorem posSum_nonpos : ∀ (l : List Int), posSum l ≤ 0 → ∀ j, l.getD j 0 ≤ 0
  | [], _, _ => by simp
  | x :: xs, h, 0 => by simp only [posSum] at h; rw [List.getD_cons_zero]; omega
  | x :: xs, h, j + 1 => posSum_nonpos xs (by simp only [posSum] at h; omega) j

theorem ext_getD : ∀ {l m : List Int}, l.length = m.length → (∀ j, l.getD j 0 = m.getD j 0) → l = m
  | [], [], _, _ => rfl
  | x :: xs, y :: ys, hl, h => by
    rw [show x = y from h 0, ext_getD (Nat.succ.inj hl) (fun j => h (j + 1))]

theorem any_pos_posSum (l : List Int) (h : l.any (fun v => decide (0 < v)) = true) : 0 < posSum l := by
  induction l with
  | nil => simp at h
  | cons x xs ih =>
    simp only [List.any_cons, Bool.or_eq_true, decide_eq_true_eq] at h
    simp only [posSum]
    rcases h with h | h
    · omega
    · have := ih h; omega

/-- the loop condition -/
abbrev Cont (st : LoopSt) : Prop := st.remLines > 0 ∧ st.positiveDiffs > 0

theorem Cont.none_positive {st : LoopSt} (hnc : ¬ Cont st) (hr : 0 < st.remLines) : st.positiveDiffs ≤ 0 :=
  Int.not_lt.mp fun hp => hnc ⟨hr, hp⟩

/-- the post statement of the loop -/
def nextIdx (len i : Nat) : Nat := (i + 1) % len

/-- body and post statement of the loop -/
def step (dec : Bool) (len : Nat) (st : LoopSt) : LoopSt :=
  let d := st.diffs.getD st.i 0
  if d ≤ 0 then { st with i := nextIdx len st.i }
  else
    { i := nextIdx len st.i
      remLines := if dec then st.remLines - 1 else st.remLines
      positiveDiffs := if d - 1 = 0 then st.positiveDiffs - 1 else st.positiveDiffs
      diffs := st.diffs.set st.i (d - 1)
      lineCnts := st.lineCnts.set st.i (st.lineCnts.getD st.i 0 + 1) }

theorem step_skip (dec : Bool) (len : Nat) {st : LoopSt} (hd : st.diffs.getD st.i 0 ≤ 0) :
    step dec len st = { st with i := nextIdx len st.i } :=
  if_pos hd

theorem step_grant (dec : Bool) (len : Nat) {st : LoopSt} (hd : 0 < st.diffs.getD st.i 0) :
    step dec len st =
      { i := nextIdx len st.i
        remLines := if dec then st.remLines - 1 else st.remLines
        positiveDiffs := if st.diffs.getD st.i 0 - 1 = 0 then st.positiveDiffs - 1 else st.positiveDiffs
        diffs := st.diffs.set st.i (st.diffs.getD st.i 0 - 1)
        lineCnts := st.lineCnts.set st.i (st.lineCnts.getD st.i 0 + 1) } :=
  if_neg (Int.not_le.2 hd)

theorem distLoop_succ (dec : Bool) (len fuel : Nat) (st : LoopSt) :
    distLoop dec len (fuel + 1) st = if Cont st then distLoop dec len fuel (step dec len st) else some st := by
  rw [distLoop]
  unfold Cont step nextIdx
  by_cases h : st.remLines > 0 ∧ st.positiveDiffs > 0
  · rw [if_pos h, if_pos h]
    simp only
    by_cases hd : st.diffs.getD st.i 0 ≤ 0
    · rw [if_pos hd, if_pos hd]
    · rw [if_neg hd, if_neg hd]
  · rw [if_neg h, if_neg h]

/-- structural invariant: index in range, `positiveDiffs` is the number of positive entries -/
structure Shape (len : Nat) (st : LoopSt) : Prop where
  idx : 0 < len → st.i < len
  dlen : st.diffs.length = len
  pos : st.positiveDiffs = countPositive st.diffs

/-- must the loop variable at `i` wrap around before it meets a positive entry of `l`? -/
def wrap (l : List Int) (i : Nat) : Nat := if (l.drop i).any (fun v => decide (0 < v)) then 0 else 1

theorem wrap_le (l : List Int) (i : Nat) : wrap l i ≤ 1 := by unfold wrap; split <;> omega

theorem wrap_succ {l : List Int} {i : Nat} (hi : i < l.length) (hd : l.getD i 0 ≤ 0) : wrap l (i + 1) = wrap l i := by
  have e : l.getD i 0 = l[i] := by simp [List.getD_eq_getElem?_getD, hi]
  unfold wrap
  rw [List.drop_eq_getElem_cons hi, List.any_cons, ← e, decide_eq_false (Int.not_lt.2 hd), Bool.false_or]

theorem wrap_length (l : List Int) : wrap l l.length = 1 := by simp [wrap]

theorem wrap_zero {l : List Int} (h : l.any (fun v => decide (0 < v)) = true) : wrap l 0 = 0 := by simp [wrap, h]

/-- The termination measure, a bound on the rounds still to go: a granted row costs `2·len + 1`, enough for the two other summands, which count the rounds
until the loop variable meets the next positive entry. -/
def rounds (len : Nat) (st : LoopSt) : Nat :=
  posSum st.diffs * (2 * len + 1) + wrap st.diffs st.i * (len + 1) + (len - st.i)

theorem rounds_ub (len : Nat) (st : LoopSt) : rounds len st ≤ posSum st.diffs * (2 * len + 1) + (2 * len + 1) := by
  unfold rounds
  have := Nat.mul_le_mul_right (len + 1) (wrap_le st.diffs st.i)
  omega

theorem rounds_lb (len : Nat) (st : LoopSt) (h : st.i < len) : posSum st.diffs * (2 * len + 1) + 1 ≤ rounds len st := by
  unfold rounds; omega

theorem cont_len {len : Nat} {st : LoopSt} (hs : Shape len st) (hc : Cont st) :
    0 < len ∧ st.diffs.any (fun v => decide (0 < v)) = true := by
  have h2 := countPositive_pos_any _ (hs.pos ▸ hc.2)
  refine ⟨?_, h2⟩
  rw [← hs.dlen]
  cases hd : st.diffs with
  | nil => rw [hd] at h2; cases h2
  | cons x xs => exact Nat.succ_pos _

theorem step_shape {dec : Bool} {len : Nat} {st : LoopSt} (hs : Shape len st) (hc : Cont st) :
    Shape len (step dec len st) := by
  obtain ⟨hlen, _⟩ := cont_len hs hc
  have hil : st.i < st.diffs.length := hs.dlen ▸ hs.idx hlen
  rcases Int.lt_or_le 0 (st.diffs.getD st.i 0) with hd | hd
  · rw [step_grant dec len hd]
    refine ⟨fun _ => Nat.mod_lt _ hlen, by simp [hs.dlen], ?_⟩
    have := countPositive_set st.diffs st.i (st.diffs.getD st.i 0 - 1) hil
    rw [if_pos hd] at this
    simp only [hs.pos]
    split <;> split at this <;> omega
  · rw [step_skip dec len hd]
    exact ⟨fun _ => Nat.mod_lt _ hlen, hs.dlen, hs.pos⟩

theorem step_rounds {dec : Bool} {len : Nat} {st : LoopSt} (hs : Shape len st) (hc : Cont st) :
    rounds len (step dec len st) < rounds len st := by
  obtain ⟨hlen, hany⟩ := cont_len hs hc
  have hi := hs.idx hlen
  have hil : st.i < st.diffs.length := hs.dlen ▸ hi
  rcases Int.lt_or_le 0 (st.diffs.getD st.i 0) with hd | hd
  · -- a row is granted: `posSum` falls by one, whatever becomes of the other summands
    refine Nat.lt_of_le_of_lt (rounds_ub len _) (Nat.lt_of_lt_of_le ?_ (rounds_lb len st hi))
    rw [step_grant dec len hd]
    have := posSum_set st.diffs st.i (st.diffs.getD st.i 0 - 1) hil
    have e : posSum st.diffs = posSum (st.diffs.set st.i (st.diffs.getD st.i 0 - 1)) + 1 := by omega
    rw [e, Nat.add_mul]
    exact Nat.lt_succ_of_le (Nat.le_of_eq (by rw [Nat.one_mul]))
  · -- the loop variable moves on: nearer to the next positive entry, or from the last index (behind which
    -- there is none) to the first
    rw [step_skip dec len hd]
    unfold rounds nextIdx
    simp only
    have hw := wrap_succ hil hd
    rcases Nat.lt_or_ge (st.i + 1) len with hlt | hge
    · rw [Nat.mod_eq_of_lt hlt, hw]
      generalize posSum st.diffs * (2 * len + 1) + wrap st.diffs st.i * (len + 1) = A
      omega
    · have e : st.i + 1 = len := by omega
      have h1 : wrap st.diffs len = 1 := hs.dlen ▸ wrap_length st.diffs
      rw [← hw, e, Nat.mod_self, wrap_zero hany, h1]
      generalize posSum st.diffs * (2 * len + 1) = A
      omega

theorem distLoop_run (dec : Bool) (len : Nat) (P : LoopSt → Prop) (hshape : ∀ st, P st → Shape len st)
    (hstep : ∀ st, P st → Cont st → P (step dec len st)) :
    ∀ (fuel : Nat) (st : LoopSt), P st → rounds len st < fuel →
      ∃ st', distLoop dec len fuel st = some st' ∧ P st' ∧ ¬ Cont st'
  | 0, _, _, hf => absurd hf (Nat.not_lt_zero _)
  | fuel + 1, st, h0, hf => by
    rw [distLoop_succ]
    by_cases hc : Cont st
    · rw [if_pos hc]
      exact distLoop_run dec len P hshape hstep fuel _ (hstep st h0 hc)
        (by have := step_rounds (dec := dec) (hshape st h0) hc; omega)
    · rw [if_neg hc]
      exact ⟨st, rfl, h0, hc⟩

/-- the state in which `distributeLines` enters its loop -/
def initSt (els : List View) (remLines : Int) : LoopSt :=
  { i := 0, remLines := remLines, positiveDiffs := countPositive (diffLinesMax els (mins els) remLines),
    diffs := diffLinesMax els (mins els) remLines, lineCnts := mins els }

theorem distributeLines_eq (dec : Bool) (els : List View) (remLines : Int) :
    distributeLines dec els remLines =
      (distLoop dec els.length (distFuel els.length (diffLinesMax els (mins els) remLines))
        (initSt els remLines)).map (·.lineCnts) := rfl

theorem diffLinesMax_length (els : List View) (ms : List Int) (maxDiff : Int) :
    (diffLinesMax els ms maxDiff).length = els.length := by
  induction els generalizing ms with
  | nil => rfl
  | cons e es ih => simp [diffLinesMax, ih]

theorem initSt_shape (els : List View) (remLines : Int) : Shape els.length (initSt els remLines) :=
  ⟨fun h => h, diffLinesMax_length _ _ _, rfl⟩

theorem initSt_fuel (els : List View) (remLines : Int) :
    rounds els.length (initSt els remLines) < distFuel els.length (diffLinesMax els (mins els) remLines) := by
  refine Nat.lt_of_le_of_lt (rounds_ub _ _) ?_
  show posSum (diffLinesMax els (mins els) remLines) * _ + _ < distFuel _ _
  unfold distFuel
  rw [Nat.add_mul]
  omega

theorem distributeLines_isSome (dec : Bool) (els : List View) (remLines : Int) :
    (distributeLines dec els remLines).isSome = true := by
  obtain ⟨st', h, _⟩ := distLoop_run dec _ (Shape els.length) (fun _ h => h) (fun _ hs hc => step_shape hs hc)
    _ _ (initSt_shape els remLines) (initSt_fuel els remLines)
  rw [distributeLines_eq, h]
  rfl

/-- What the rounds keep, relative to the initial minimums `ms` and differences `ds`:
the grant of an element plus its remaining difference is constant, differences stay non-negative,
grants never fall below the minimum, and (with `remLines--`) grants handed out plus remaining lines are
constant with the remaining lines non-negative. -/
structure Inv (dec : Bool) (len : Nat) (ms ds : List Int) (rem0 : Int) (st : LoopSt) : Prop where
  shape : Shape len st
  clen : st.lineCnts.length = len
  bal : ∀ j, st.lineCnts.getD j 0 + st.diffs.getD j 0 = ms.getD j 0 + ds.getD j 0
  dnn : ∀ j, 0 ≤ st.diffs.getD j 0
  lo : ∀ j, ms.getD j 0 ≤ st.lineCnts.getD j 0
  budget : if dec then sumInts st.lineCnts + st.remLines = sumInts ms + rem0 ∧ 0 ≤ st.remLines
           else st.remLines = rem0

theorem step_inv {dec : Bool} {len : Nat} {ms ds : List Int} {rem0 : Int} {st : LoopSt}
    (hI : Inv dec len ms ds rem0 st) (hc : Cont st) : Inv dec len ms ds rem0 (step dec len st) := by
  have hshape := step_shape (dec := dec) hI.shape hc
  obtain ⟨hlen, _⟩ := cont_len hI.shape hc
  have hid : st.i < st.diffs.length := hI.shape.dlen ▸ hI.shape.idx hlen
  have hic : st.i < st.lineCnts.length := hI.clen ▸ hI.shape.idx hlen
  rcases Int.lt_or_le 0 (st.diffs.getD st.i 0) with hd | hd
  · rw [step_grant dec len hd] at hshape ⊢
    -- one unit moves from the difference of element `i` to its grant; the other entries stay
    have hpt : ∀ j,
        (st.lineCnts.set st.i (st.lineCnts.getD st.i 0 + 1)).getD j 0 +
            (st.diffs.set st.i (st.diffs.getD st.i 0 - 1)).getD j 0 = st.lineCnts.getD j 0 + st.diffs.getD j 0 ∧
          0 ≤ (st.diffs.set st.i (st.diffs.getD st.i 0 - 1)).getD j 0 ∧
          st.lineCnts.getD j 0 ≤ (st.lineCnts.set st.i (st.lineCnts.getD st.i 0 + 1)).getD j 0 := by
      intro j
      by_cases hj : st.i = j
      · subst hj
        rw [getD_set_eq _ _ _ _ hic, getD_set_eq _ _ _ _ hid]; omega
      · rw [getD_set_ne _ _ _ _ _ hj, getD_set_ne _ _ _ _ _ hj]
        exact ⟨rfl, hI.dnn j, Int.le_refl _⟩
    refine ⟨hshape, by simp [hI.clen], fun j => (hpt j).1.trans (hI.bal j), fun j => (hpt j).2.1,
      fun j => Int.le_trans (hI.lo j) (hpt j).2.2, ?_⟩
    have hb := hI.budget
    cases dec with
    | false => exact hb
    | true =>
      simp only [if_true] at hb ⊢
      rw [sumInts_set _ _ _ hic]
      have := hc.1
      omega
  · rw [step_skip dec len hd] at hshape ⊢
    exact ⟨hshape, hI.clen, hI.bal, hI.dnn, hI.lo, hI.budget⟩

/-- the rows left over once all remaining differences are granted never become fewer -/
theorem step_slack {dec : Bool} {len : Nat} {st : LoopSt} (hil : st.i < st.diffs.length) :
    st.remLines - posSum st.diffs ≤ (step dec len st).remLines - posSum (step dec len st).diffs := by
  rcases Int.lt_or_le 0 (st.diffs.getD st.i 0) with hd | hd
  · rw [step_grant dec len hd]
    have := posSum_set st.diffs st.i (st.diffs.getD st.i 0 - 1) hil
    cases dec
    · show _ ≤ st.remLines - (posSum (st.diffs.set st.i (st.diffs.getD st.i 0 - 1)) : Int)
      omega
    · show _ ≤ st.remLines - 1 - (posSum (st.diffs.set st.i (st.diffs.getD st.i 0 - 1)) : Int)
      omega
  · rw [step_skip dec len hd]
    exact Int.le_refl _

theorem diffOf_bounds (min max maxDiff : Int) (h : 0 ≤ maxDiff) :
    0 ≤ diffOf min max maxDiff ∧ diffOf min max maxDiff ≤ maxDiff := by
  unfold diffOf; simp only
  split
  · omega
  · split <;> omega

theorem diffOf_le_max (min max maxDiff : Int) (hm : 0 ≤ max) :
    min + diffOf min max maxDiff ≤ (if max < min then min else max) := by
  unfold diffOf
  simp only
  split
  · split <;> omega
  · split <;> split <;> omega

theorem diffLinesMax_nonneg {maxDiff : Int} (h : 0 ≤ maxDiff) :
    ∀ (els : List View) (ms : List Int) (j : Nat), 0 ≤ (diffLinesMax els ms maxDiff).getD j 0
  | [], _, _ => by simp [diffLinesMax]
  | _ :: _, _, 0 => (diffOf_bounds _ _ _ h).1
  | _ :: es, ms, j + 1 => diffLinesMax_nonneg h es ms.tail j

theorem mins_length (els : List View) : (mins els).length = els.length := by simp [mins]

theorem init_inv (dec : Bool) (els : List View) (rem0 : Int) (h : 0 ≤ rem0) :
    Inv dec els.length (mins els) (diffLinesMax els (mins els) rem0) rem0 (initSt els rem0) := by
  refine ⟨initSt_shape els rem0, mins_length els, fun j => rfl, diffLinesMax_nonneg h els _,
    fun j => Int.le_refl _, ?_⟩
  cases dec <;> simp [initSt, h]

theorem distributeLines_run (dec : Bool) (els : List View) (rem0 : Int) (h : 0 ≤ rem0) :
    ∃ st', distLoop dec els.length (distFuel els.length (diffLinesMax els (mins els) rem0)) (initSt els rem0) = some st' ∧
      Inv dec els.length (mins els) (diffLinesMax els (mins els) rem0) rem0 st' ∧ ¬ Cont st' ∧
      rem0 - posSum (diffLinesMax els (mins els) rem0) ≤ st'.remLines - posSum st'.diffs := by
  obtain ⟨st', hst', ⟨hI, hs⟩, hnc⟩ := distLoop_run dec els.length
    (fun st => Inv dec els.length (mins els) (diffLinesMax els (mins els) rem0) rem0 st ∧
      rem0 - posSum (diffLinesMax els (mins els) rem0) ≤ st.remLines - posSum st.diffs)
    (fun _ hP => hP.1.shape)
    (fun st hP hc => ⟨step_inv hP.1 hc, Int.le_trans hP.2
      (step_slack (hP.1.shape.dlen ▸ hP.1.shape.idx (cont_len hP.1.shape hc).1))⟩)
    _ _ ⟨init_inv dec els rem0 h, Int.le_refl _⟩ (initSt_fuel els rem0)
  exact ⟨st', hst', hI, hnc, hs⟩

/-- every element has its full difference -/
def Full (els : List View) (rem0 : Int) (gs : List Int) : Prop :=
  ∀ j, gs.getD j 0 = (mins els).getD j 0 + (diffLinesMax els (mins els) rem0).getD j 0

/-- **What `distributeLines` computes** (`remLines = rem0 ≥ 0`, as guaranteed by `Composite.Print`):
a grant per element, at least its minimum and at most minimum + difference; with `remLines--` (`dec = true`) the grants
exceed the minimums by at most `rem0` in total, and by exactly `rem0` unless every element got
its full difference; as the code is (`dec = false`) every element gets its full difference as soon as
`rem0 > 0`. -/
structure Grants (dec : Bool) (els : List View) (rem0 : Int) (gs : List Int) : Prop where
  len : gs.length = els.length
  lo : ∀ j, (mins els).getD j 0 ≤ gs.getD j 0
  hi : ∀ j, gs.getD j 0 ≤ (mins els).getD j 0 + (diffLinesMax els (mins els) rem0).getD j 0
  sum_le : dec = true → sumInts gs ≤ sumInts (mins els) + rem0
  sum_or_full : dec = true → sumInts gs = sumInts (mins els) + rem0 ∨ Full els rem0 gs
  full_of_pos : dec = false → 0 < rem0 → Full els rem0 gs
  eq_mins : rem0 = 0 → gs = mins els

theorem distributeLines_spec (dec : Bool) (els : List View) (rem0 : Int) (h : 0 ≤ rem0) :
    ∃ gs, distributeLines dec els rem0 = some gs ∧ Grants dec els rem0 gs := by
  obtain ⟨st', hst', hI, hnc, _⟩ := distributeLines_run dec els rem0 h
  rw [distributeLines_eq]
  -- once no difference is positive every element has its full difference
  have hfull : st'.positiveDiffs ≤ 0 → Full els rem0 st'.lineCnts := fun hp j => by
    have := countPositive_zero _ (hI.shape.pos ▸ hp) j
    have := hI.dnn j; have := hI.bal j
    omega
  have hb := hI.budget
  refine ⟨st'.lineCnts, by rw [hst']; rfl, hI.clen, hI.lo, fun j => ?_, ?_, ?_, ?_, ?_⟩
  · have := hI.bal j; have := hI.dnn j
    omega
  · rintro rfl
    simp only [if_true] at hb
    omega
  · rintro rfl
    simp only [if_true] at hb
    by_cases hr : st'.remLines ≤ 0
    · exact Or.inl (by omega)
    · exact Or.inr (hfull (Cont.none_positive hnc (by omega)))
  · rintro rfl hpos
    simp only [Bool.false_eq_true, if_false] at hb
    exact hfull (Cont.none_positive hnc (by omega))
  · rintro rfl
    -- the loop is not entered
    unfold distFuel at hst'
    rw [distLoop_succ, if_neg (by simp [initSt])] at hst'
    cases hst'; rfl

/-- as the code is and with `remLines--`: the rows left over never become fewer (`step_slack`), so when `remLines`
reaches `0` no difference is left -/
theorem distributeLines_full (dec : Bool) (els : List View) (rem0 : Int) (h : 0 ≤ rem0)
    (hs : (posSum (diffLinesMax els (mins els) rem0) : Int) ≤ rem0) :
    ∃ gs, distributeLines dec els rem0 = some gs ∧ gs.length = els.length ∧ Full els rem0 gs := by
  obtain ⟨st', hst', hI, hnc, hsl⟩ := distributeLines_run dec els rem0 h
  refine ⟨st'.lineCnts, by rw [distributeLines_eq, hst']; rfl, hI.clen, fun j => ?_⟩
  have hle : st'.diffs.getD j 0 ≤ 0 := by
    by_cases hr : st'.remLines ≤ 0
    · exact posSum_nonpos _ (by omega) j
    · exact countPositive_zero _ (hI.shape.pos ▸ Cont.none_positive hnc (by omega)) j
  have := hI.dnn j; have := hI.bal j
  omega

/-- the missing `remLines--` does not matter while the rows left suffice for all differences -/
theorem distribute_agree (els : List View) (rem0 : Int) (h : 0 ≤ rem0)
    (hs : (posSum (diffLinesMax els (mins els) rem0) : Int) ≤ rem0) :
    distributeLines false els rem0 = distributeLines true els rem0 := by
  obtain ⟨gp, hp, lp, fp⟩ := distributeLines_full false els rem0 h hs
  obtain ⟨gr, hr, lr, fr⟩ := distributeLines_full true els rem0 h hs
  rw [hp, hr, ext_getD (lp.trans lr.symm) (fun j => (fp j).trans (fr j).symm)]

end Mltwist.Lemmas.Render
