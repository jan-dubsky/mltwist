import Mltwist.Spec.Opcode
import Mltwist.Lemmas.SortSearch
/-
Proofs for C19: the matcher of `internal/opcode`.

The byte level: `byteEQ`, the strict total order `byteLT` (length first, then the library's lexicographic order:
`lexLT_iff`), `applyMask` (a `zipWith`), and the decidable conflict criterion (`conflict_iff`).  What the model puts in place
of the library calls: the insertion sort `sortBy` (a permutation, sorted w.r.t. a key with a strict total order),
`searchFirst` (`List.findIdx`), the lookup of `matchInstruction` (a `find?`) in a strictly sorted group.  What the stages of
`NewMatcher` hand on is that the entries are pairwise `Apart` (no byte string matched by two of them); `group_cases`: `group`
succeeds exactly on such entries, and then partitions them into sorted groups of one mask.  `Built` is what a successful run
has established, `Match` on it is exact; `Outcome` (`newMatcher_outcome`) classifies all outcomes, and the statements of C19
are read off it.
-/
namespace Mltwist.Lemmas.Opcode
open Mltwist.Opcode

theorem u8_ext {a b : UInt8} (h : ∀ i, a.toBitVec.getLsbD i = b.toBitVec.getLsbD i) : a = b :=
  UInt8.toBitVec_inj.1 (BitVec.eq_of_getLsbD_eq (fun i _ => h i))

theorem u8_bit {a b : UInt8} (h : a = b) (i : Nat) :
    a.toBitVec.getLsbD i = b.toBitVec.getLsbD i := by rw [h]

theorem xor_and_eq_zero_iff (a b m n : UInt8) :
    (a ^^^ b) &&& m &&& n = 0 ↔ a &&& m &&& n = b &&& m &&& n := by
  -- bit by bit: on four Booleans the two sides say the same
  have bit : ∀ x y z w : Bool, (((x ^^ y) && z && w) = false) = ((x && z && w) = (y && z && w)) := by
    decide
  have ext : ∀ {c d : UInt8}, c = d ↔ ∀ i, c.toBitVec.getLsbD i = d.toBitVec.getLsbD i := ⟨u8_bit, u8_ext⟩
  rw [ext, ext]
  simp only [UInt8.toBitVec_and, UInt8.toBitVec_xor, BitVec.getLsbD_and, BitVec.getLsbD_xor,
    UInt8.toBitVec_zero, BitVec.getLsbD_zero, bit]

theorem common_of_both {s a b m n : UInt8} (h1 : s &&& m = a &&& m) (h2 : s &&& n = b &&& n) :
    a &&& m &&& n = b &&& m &&& n := by
  rw [← h1, UInt8.and_assoc b, UInt8.and_comm m n, ← UInt8.and_assoc, ← h2, UInt8.and_assoc s n,
    UInt8.and_comm n m, ← UInt8.and_assoc]

theorem witness_left {a b m n : UInt8} (h : a &&& m &&& n = b &&& m &&& n) :
    ((a &&& m) ||| (b &&& n)) &&& m = a &&& m := by
  -- bit by bit, a statement about four Booleans
  apply u8_ext; intro i
  have h := u8_bit h i
  simp only [UInt8.toBitVec_and, UInt8.toBitVec_or, BitVec.getLsbD_and, BitVec.getLsbD_or] at h ⊢
  revert h
  generalize a.toBitVec.getLsbD i = x; generalize b.toBitVec.getLsbD i = y
  generalize m.toBitVec.getLsbD i = z; generalize n.toBitVec.getLsbD i = w
  revert x y z w
  decide

theorem witness_right {a b m n : UInt8} (h : a &&& m &&& n = b &&& m &&& n) :
    ((a &&& m) ||| (b &&& n)) &&& n = b &&& n := by
  rw [UInt8.or_comm]
  apply witness_left
  rw [UInt8.and_assoc, UInt8.and_comm n m, ← UInt8.and_assoc, ← h, UInt8.and_assoc, UInt8.and_comm m n,
    ← UInt8.and_assoc]

theorem and_and_self (a m : UInt8) : a &&& m &&& m = a &&& m := by
  rw [UInt8.and_assoc, UInt8.and_self]

theorem byteEQ_iff (a b : List UInt8) : byteEQ a b = true ↔ a = b := by
  induction a generalizing b with
  | nil => cases b <;> simp [byteEQ]
  | cons x xs ih =>
    cases b with
    | nil => simp [byteEQ]
    | cons y ys =>
      simp only [byteEQ, List.cons.injEq]
      by_cases hxy : x = y
      · simp [hxy, ih]
      · simp [hxy]

theorem byteEQ_refl (a : List UInt8) : byteEQ a a = true := (byteEQ_iff a a).2 rfl

theorem byteEQ_false_iff (a b : List UInt8) : byteEQ a b = false ↔ a ≠ b := by
  rw [← Bool.not_eq_true, Ne, byteEQ_iff]

/-- on lists of one length the loop of `byteLT` is the lexicographic order of the library -/
theorem lexLT_iff : ∀ {a b : List UInt8}, a.length = b.length → (lexLT a b = true ↔ a < b)
  | [], [], _ => by simp [lexLT]
  | [], _ :: _, h => by simp at h
  | _ :: _, [], h => by simp at h
  | x :: xs, y :: ys, h => by
    rw [lexLT, List.cons_lt_cons_iff, ← lexLT_iff (Nat.succ.inj h)]
    by_cases hxy : x < y
    · simp [hxy]
    · by_cases hyx : y < x
      · simp [hxy, hyx, show x ≠ y from fun e => hxy (e ▸ hyx)]
      · obtain rfl : x = y := UInt8.le_antisymm (UInt8.not_lt.1 hyx) (UInt8.not_lt.1 hxy)
        simp [hxy]

theorem byteLT_iff (a b : List UInt8) :
    byteLT a b = true ↔ a.length < b.length ∨ (a.length = b.length ∧ a < b) := by
  unfold byteLT
  rcases Nat.lt_trichotomy a.length b.length with h | h | h
  · simp [h]
  · simp [h, lexLT_iff h]
  · simp [Nat.lt_asymm h, h, Nat.ne_of_gt h]

theorem byteLT_irrefl (a : List UInt8) : byteLT a a = false := by
  simp [← Bool.not_eq_true, byteLT_iff, List.lt_irrefl]

theorem byteLT_trans {a b c : List UInt8} (h1 : byteLT a b = true) (h2 : byteLT b c = true) :
    byteLT a c = true := by
  rw [byteLT_iff] at h1 h2 ⊢
  rcases h1 with h1 | ⟨e1, l1⟩ <;> rcases h2 with h2 | ⟨e2, l2⟩
  · exact Or.inl (by omega)
  · exact Or.inl (by omega)
  · exact Or.inl (by omega)
  · exact Or.inr ⟨by omega, List.lt_trans l1 l2⟩

theorem byteLT_total {a b : List UInt8} (h1 : byteLT a b = false) (h2 : byteLT b a = false) :
    a = b := by
  rw [← Bool.not_eq_true, byteLT_iff, not_or, not_and] at h1 h2
  have hl : a.length = b.length := by omega
  exact List.le_antisymm (List.not_lt.1 (h2.2 hl.symm)) (List.not_lt.1 (h1.2 hl))

theorem byteLT_ne {a b : List UInt8} (h : byteLT a b = true) : a ≠ b := by
  intro e; subst e; rw [byteLT_irrefl] at h; cases h

theorem applyMask_eq_zipWith (a b : List UInt8) : applyMask a b = List.zipWith (· &&& ·) a b := by
  induction a generalizing b with
  | nil => cases b <;> simp [applyMask]
  | cons x xs ih => cases b <;> simp [applyMask, ih]

theorem zipWith_take_left {α β γ} {f : α → β → γ} (l : List α) {l' : List β} {n : Nat} (h : l'.length ≤ n) :
    List.zipWith f (l.take n) l' = List.zipWith f l l' := by
  have := @List.take_zipWith _ _ _ f l l' n
  rw [List.take_of_length_le h] at this
  rw [← this]
  exact List.take_of_length_le (by rw [List.length_zipWith]; omega)

theorem applyMask_take (bs m : List UInt8) : applyMask (bs.take m.length) m = applyMask bs m := by
  rw [applyMask_eq_zipWith, applyMask_eq_zipWith, zipWith_take_left bs (Nat.le_refl _)]

theorem applyMask_eq_iff (m b1 b2 : List UInt8) (h1 : m.length ≤ b1.length)
    (h2 : m.length ≤ b2.length) :
    applyMask b1 m = applyMask b2 m ↔
      ∀ i, i < m.length → b1.getD i 0 &&& m.getD i 0 = b2.getD i 0 &&& m.getD i 0 := by
  induction m generalizing b1 b2 with
  | nil => cases b1 <;> cases b2 <;> simp [applyMask]
  | cons x xs ih =>
    cases b1 with
    | nil => simp at h1
    | cons y ys =>
      cases b2 with
      | nil => simp at h2
      | cons z zs =>
        simp only [applyMask, List.cons.injEq, List.length_cons, Nat.forall_lt_succ_left,
          List.getD_cons_zero, List.getD_cons_succ,
          ih ys zs (Nat.le_of_succ_le_succ h1) (Nat.le_of_succ_le_succ h2)]

theorem matches_iff_masked (p : Pat) (bs : List UInt8) (hl : p.bytes.length = p.mask.length) :
    Matches p bs ↔ p.mask.length ≤ bs.length ∧
      applyMask (bs.take p.mask.length) p.mask = applyMask p.bytes p.mask := by
  unfold Matches
  constructor
  · rintro ⟨h1, h2⟩
    refine ⟨h1, ?_⟩
    rw [applyMask_take]
    exact (applyMask_eq_iff _ _ _ h1 (by omega)).2 h2
  · rintro ⟨h1, h2⟩
    refine ⟨h1, ?_⟩
    rw [applyMask_take] at h2
    exact (applyMask_eq_iff _ _ _ h1 (by omega)).1 h2

theorem matches_append {p : Pat} {bs : List UInt8} (h : Matches p bs) (t : List UInt8) :
    Matches p (bs ++ t) := by
  refine ⟨by rw [List.length_append]; exact Nat.le_add_right_of_le h.1, fun i hi => ?_⟩
  rw [List.getD_eq_getElem?_getD, List.getElem?_append_left (Nat.lt_of_lt_of_le hi h.1),
    ← List.getD_eq_getElem?_getD]
  exact h.2 i hi

theorem conflictB_iff (p q : Pat) : conflictB p q = true ↔
    ∀ k, k < min p.mask.length q.mask.length →
      (p.bytes.getD k 0 ^^^ q.bytes.getD k 0) &&& p.mask.getD k 0 &&& q.mask.getD k 0 = 0 := by
  simp only [conflictB, List.all_eq_true, List.mem_range, beq_iff_eq]

theorem getD_of_le {l : List UInt8} {n : Nat} (h : l.length ≤ n) : l.getD n 0 = 0 := by
  rw [List.getD_eq_getElem?_getD, List.getElem?_eq_none h]
  rfl

theorem getD_map_range {α} (f : Nat → α) (n i : Nat) (d : α) (h : i < n) :
    ((List.range n).map f).getD i d = f i := by
  simp [List.getD, h]

theorem conflict_iff (p q : Pat) : Conflict p q ↔ conflictB p q = true := by
  rw [conflictB_iff]
  constructor
  · rintro ⟨bs, ⟨_, hp⟩, ⟨_, hq⟩⟩ k hk
    rw [xor_and_eq_zero_iff]
    exact common_of_both (hp k (by omega)) (hq k (by omega))
  · intro h
    -- agreement on the common mask holds at every index (beyond a mask its bytes count as 0)
    have hall : ∀ k, p.bytes.getD k 0 &&& p.mask.getD k 0 &&& q.mask.getD k 0 =
        q.bytes.getD k 0 &&& p.mask.getD k 0 &&& q.mask.getD k 0 := by
      intro k
      by_cases hk : k < min p.mask.length q.mask.length
      · exact (xor_and_eq_zero_iff _ _ _ _).1 (h k hk)
      · rcases Nat.lt_or_ge k p.mask.length with hp | hp
        · rw [getD_of_le (l := q.mask) (by omega), UInt8.and_zero, UInt8.and_zero]
        · rw [getD_of_le hp, UInt8.and_zero, UInt8.and_zero, UInt8.zero_and]
    let f : Nat → UInt8 := fun k =>
      (p.bytes.getD k 0 &&& p.mask.getD k 0) ||| (q.bytes.getD k 0 &&& q.mask.getD k 0)
    refine ⟨(List.range (max p.mask.length q.mask.length)).map f, ⟨?_, ?_⟩, ⟨?_, ?_⟩⟩
    · simp; omega
    · intro i hi
      rw [getD_map_range f _ i 0 (by omega)]
      exact witness_left (hall i)
    · simp; omega
    · intro i hi
      rw [getD_map_range f _ i 0 (by omega)]
      exact witness_right (hall i)

theorem conflict_loop_iff (b1 m1 b2 m2 : List UInt8) (h1 : b1.length = m1.length)
    (h2 : b2.length = m2.length) :
    conflict b1 m1 b2 m2 = true ↔
      ∀ k, k < min m1.length m2.length →
        (b1.getD k 0 ^^^ b2.getD k 0) &&& m1.getD k 0 &&& m2.getD k 0 = 0 := by
  induction m1 generalizing b1 b2 m2 with
  | nil => cases b1 <;> simp [conflict]
  | cons x xs ih =>
    cases b1 with
    | nil => simp at h1
    | cons y ys =>
      cases m2 with
      | nil =>
        cases b2 with
        | nil => simp [conflict]
        | cons _ _ => simp at h2
      | cons z zs =>
        cases b2 with
        | nil => simp at h2
        | cons w ws =>
          simp only [List.length_cons, Nat.succ_min_succ, Nat.forall_lt_succ_left,
            List.getD_cons_zero, List.getD_cons_succ,
            ← ih ys ws zs (Nat.succ.inj h1) (Nat.succ.inj h2), conflict]
          by_cases hc : (y ^^^ w) &&& x &&& z = 0 <;> simp [hc]

theorem conflictPat_eq (p q : Pat) (hp : p.bytes.length = p.mask.length)
    (hq : q.bytes.length = q.mask.length) : conflictPat p q = conflictB p q := by
  rw [Bool.eq_iff_iff, conflictB_iff]
  exact conflict_loop_iff _ _ _ _ hp hq

theorem conflictB_same_mask (p q : Pat) (hp : p.bytes.length = p.mask.length)
    (hq : q.bytes.length = q.mask.length) (hm : p.mask = q.mask) :
    conflictB p q = true ↔ applyMask p.bytes p.mask = applyMask q.bytes q.mask := by
  rw [conflictB_iff, ← hm, applyMask_eq_iff _ _ _ (by omega) (by simp [hq, hm]), Nat.min_self]
  constructor
  · intro h i hi
    have := (xor_and_eq_zero_iff _ _ _ _).1 (h i hi)
    simpa [and_and_self] using this
  · intro h i hi
    rw [xor_and_eq_zero_iff, and_and_self, and_and_self]
    exact h i hi

theorem validate_iff (p : Pat) : validate p = true ↔ WellFormed p := by
  unfold validate WellFormed
  by_cases hb : p.bytes = []
  · simp [hb]
  · by_cases hl : p.bytes.length = p.mask.length
    · have hm : p.mask ≠ [] := by
        intro h; rw [h] at hl; exact hb (List.length_eq_zero_iff.1 hl)
      obtain ⟨x, hx⟩ : ∃ x, p.mask.getLast? = some x := by
        cases h : p.mask.getLast? with
        | none => exact absurd (List.getLast?_eq_none_iff.1 h) hm
        | some x => exact ⟨x, rfl⟩
      simp [hb, hl, hx, hm, List.getLastD_eq_getLast?]
    · simp [hb, hl]

/-- `insertBy lt` is the insertion function of `Lemmas/SortSearch.lean` for the test "`y` is not smaller than `x`" -/
theorem insertBy_cons {α} (lt : α → α → Bool) (x y : α) (ys : List α) :
    insertBy lt x (y :: ys) = if lt y x = false then x :: y :: ys else y :: insertBy lt x ys := by
  cases h : lt y x <;> simp [insertBy, h]

theorem sortBy_perm {α} (lt : α → α → Bool) (l : List α) : (sortBy lt l).Perm l :=
  InsertSort.rec_perm (p := fun x y => lt y x = false) (ins := insertBy lt) (fun _ => rfl) (insertBy_cons lt) rfl
    (fun _ _ => rfl) l

theorem mem_sortBy {α} (lt : α → α → Bool) (l : List α) (a : α) : a ∈ sortBy lt l ↔ a ∈ l :=
  (sortBy_perm lt l).mem_iff

structure StrictTotal {K} (klt : K → K → Bool) : Prop where
  irrefl : ∀ a, klt a a = false
  trans : ∀ {a b c}, klt a b = true → klt b c = true → klt a c = true
  total : ∀ {a b}, klt a b = false → klt b a = false → a = b

theorem byteLT_strictTotal : StrictTotal byteLT :=
  ⟨byteLT_irrefl, byteLT_trans, byteLT_total⟩

theorem StrictTotal.asymm {K} {klt : K → K → Bool} (h : StrictTotal klt) {a b : K}
    (hab : klt a b = true) : klt b a = false := by
  cases hb : klt b a with
  | false => rfl
  | true => have := h.trans hab hb; rw [h.irrefl] at this; cases this

theorem byteLT_asymm {a b : List UInt8} (h : byteLT a b = true) : byteLT b a = false :=
  byteLT_strictTotal.asymm h

theorem StrictTotal.negTrans {K} {klt : K → K → Bool} (h : StrictTotal klt) {a b c : K}
    (h1 : klt c b = false) (h2 : klt b a = false) : klt c a = false := by
  cases hca : klt c a with
  | false => rfl
  | true =>
    cases hab : klt a b with
    | false =>
      have : b = a := h.total h2 hab
      subst this; rw [hca] at h1; cases h1
    | true => have := h.trans hca hab; rw [h1] at this; cases this

def SortedBy {α K} (klt : K → K → Bool) (f : α → K) (l : List α) : Prop :=
  l.Pairwise (fun a b => klt (f b) (f a) = false)

theorem sortedBy_cons {α K} {klt : K → K → Bool} {f : α → K} {a : α} {l : List α} :
    SortedBy klt f (a :: l) ↔ (∀ b ∈ l, klt (f b) (f a) = false) ∧ SortedBy klt f l :=
  List.pairwise_cons

theorem sortBy_sorted {α K} {klt : K → K → Bool} (hk : StrictTotal klt) (f : α → K)
    (l : List α) : SortedBy klt f (sortBy (fun a b => klt (f a) (f b)) l) :=
  InsertSort.rec_sorted (p := fun x y => klt (f y) (f x) = false)
    (r := fun x y => klt (f y) (f x) = false) (ins := insertBy _) (fun _ => rfl) (insertBy_cons _) id
    (fun h => hk.asymm (by simpa using h)) (fun h1 h2 => hk.negTrans h2 h1) rfl (fun _ _ => rfl) l

theorem searchFirst_eq_findIdx {α} (p : α → Bool) (l : List α) : searchFirst p l = l.findIdx p := by
  induction l with
  | nil => rfl
  | cons x xs ih => rw [searchFirst, List.findIdx_cons, ih]; cases p x <;> rfl

theorem searchFirst_le {α} (p : α → Bool) (l : List α) : searchFirst p l ≤ l.length :=
  searchFirst_eq_findIdx p l ▸ List.findIdx_le_length

theorem mem_take_searchFirst {α} (p : α → Bool) (l : List α) (a : α)
    (h : a ∈ l.take (searchFirst p l)) : p a = false := by
  obtain ⟨i, hi, rfl⟩ := List.mem_take_iff_getElem.1 h
  exact List.not_of_lt_findIdx (by rw [← searchFirst_eq_findIdx]; omega)

def StrictSorted (l : List Opc) : Prop :=
  l.Pairwise (fun a b => byteLT a.masked b.masked = true)

theorem hasAdjDup_cons_cons (a b : Opc) (rest : List Opc) :
    hasAdjDup (a :: b :: rest) = true ↔ a.masked = b.masked ∨ hasAdjDup (b :: rest) = true := by
  rw [hasAdjDup, ← byteEQ_iff]
  cases byteEQ a.masked b.masked <;> simp

/-- in a list sorted by the masked bytes, equal masked bytes stand next to each other -/
theorem noAdjDup_iff : ∀ {l : List Opc}, SortedBy byteLT (fun o : Opc => o.masked) l →
    (hasAdjDup l = false ↔ l.Pairwise fun a b => a.masked ≠ b.masked)
  | [], _ => by simp [hasAdjDup]
  | [_], _ => by simp [hasAdjDup]
  | a :: b :: rest, hs => by
    obtain ⟨hs1, hs2⟩ := sortedBy_cons.1 hs
    rw [← Bool.not_eq_true, hasAdjDup_cons_cons, not_or, Bool.not_eq_true, noAdjDup_iff hs2,
      List.pairwise_cons (a := a), List.forall_mem_cons]
    refine and_congr_left fun hp => (and_iff_left_of_imp fun hab c hc hac => hab ?_).symm
    -- `a = c` lies behind `b`, so `b` is neither below nor above `a`
    exact byteLT_total (hac ▸ (sortedBy_cons.1 hs2).1 c hc) (hs1 b List.mem_cons_self)

/-- the part of `matchInstruction` after `masked` is computed: the first member that is not below `masked`, if it is
`masked` -/
def lookup (masked : List UInt8) (l : List Opc) : Option Opc :=
  (l.find? fun o => byteLT masked o.masked || byteEQ masked o.masked).filter fun o => byteEQ masked o.masked

theorem matchInstruction_eq (g : Group) (bs : List UInt8) :
    matchInstruction g bs =
      if g.mask.length > bs.length then none
      else lookup (applyMask (bs.take g.mask.length) g.mask) g.opcodes := by
  unfold matchInstruction lookup
  simp only [searchFirst_eq_findIdx, ← List.find?_eq_getElem?_findIdx]
  split
  · rfl
  · cases List.find? _ g.opcodes with
    | none => rfl
    | some o => cases h : byteEQ (applyMask (bs.take g.mask.length) g.mask) o.masked <;> simp [Option.filter, h]

/-- in a strictly sorted group nothing in front of the member with the masked bytes sought stops the search -/
theorem lookup_eq_some_iff {masked : List UInt8} {l : List Opc} (hs : StrictSorted l) {o : Opc} :
    lookup masked l = some o ↔ o ∈ l ∧ o.masked = masked := by
  rw [lookup, Option.filter_eq_some_iff, byteEQ_iff, eq_comm (a := masked)]
  refine ⟨fun h => ⟨List.mem_of_find?_eq_some h.1, h.2⟩, fun ⟨ho, hm⟩ => ⟨?_, hm⟩⟩
  subst hm
  exact find?_of_pairwise hs ho (by simp [byteEQ_refl]) fun b hb => by
    simp [byteLT_asymm hb, (byteEQ_false_iff _ _).2 (byteLT_ne hb).symm]

/-- what `newOpcodes` makes of the pattern at position `i` -/
def entry (i : Nat) (p : Pat) : Opc := { id := i, pat := p, masked := applyMask p.bytes p.mask }

theorem newOpcodesFrom_eq (i : Nat) (ps : List Pat) :
    newOpcodesFrom i ps = (ps.zipIdx i).map fun x => entry x.2 x.1 := by
  induction ps generalizing i with
  | nil => rfl
  | cons p ps ih => rw [newOpcodesFrom, ih]; rfl

theorem mem_newOpcodes (ps : List Pat) (o : Opc) :
    o ∈ newOpcodes ps ↔
      ps[o.id]? = some o.pat ∧ o.masked = applyMask o.pat.bytes o.pat.mask := by
  rw [newOpcodes, newOpcodesFrom_eq, List.mem_map]
  constructor
  · rintro ⟨⟨p, k⟩, h, rfl⟩
    exact ⟨List.mem_zipIdx_iff_getElem?.1 h, rfl⟩
  · rintro ⟨h1, h2⟩
    exact ⟨(o.pat, o.id), List.mem_zipIdx_iff_getElem?.2 h1, by cases o; simp_all [entry]⟩

theorem newOpcodes_pats (ps : List Pat) : (newOpcodes ps).map (·.pat) = ps := by
  rw [newOpcodes, newOpcodesFrom_eq, List.map_map]
  exact List.zipIdx_map_fst ..

theorem conflict_symm {p q : Pat} : Conflict p q → Conflict q p := fun ⟨bs, h1, h2⟩ => ⟨bs, h2, h1⟩

/-- for a symmetric relation, "at any two different positions" is `Pairwise` -/
theorem noConflict_iff (ps : List Pat) :
    (∀ (i j : Nat) (p q : Pat), i ≠ j → ps[i]? = some p → ps[j]? = some q → ¬ Conflict p q) ↔
      ps.Pairwise fun p q => ¬ Conflict p q :=
  (pairwise_iff_getElem?_ne (fun h hc => h (conflict_symm hc)) ps).symm

/-- No byte string is matched by the patterns of both entries.  `NewMatcher` succeeds exactly when its entries are
pairwise apart, and every stage hands this on as a `Pairwise`: a symmetric relation, so it passes through the sorts
(`List.Perm.pairwise_iff`), to the runs of one mask (`List.Pairwise.sublist`) and to the groups (`List.pairwise_flatMap`). -/
def Apart (a b : Opc) : Prop := ¬ Conflict a.pat b.pat

theorem Apart.symm {a b : Opc} (h : Apart a b) : Apart b a := fun hc => h (conflict_symm hc)

theorem pairwise_apart_iff (ps : List Pat) :
    (newOpcodes ps).Pairwise Apart ↔ ps.Pairwise fun p q => ¬ Conflict p q := by
  conv => rhs; rw [← newOpcodes_pats ps, List.pairwise_map]
  rfl

/-- an entry as `newOpcodes` makes it of a well-formed pattern -/
structure Sound (o : Opc) : Prop where
  len : o.pat.bytes.length = o.pat.mask.length
  masked : o.masked = applyMask o.pat.bytes o.pat.mask

theorem sound_newOpcodes {ps : List Pat} (hwf : ∀ p ∈ ps, WellFormed p) : ∀ o ∈ newOpcodes ps, Sound o :=
  fun o ho => ⟨(hwf _ (List.mem_of_getElem? ((mem_newOpcodes ps o).1 ho).1)).2.1,
    ((mem_newOpcodes ps o).1 ho).2⟩

theorem apart_same_mask {a b : Opc} (ha : Sound a) (hb : Sound b) (hm : a.pat.mask = b.pat.mask) :
    Apart a b ↔ a.masked ≠ b.masked := by
  rw [Apart, conflict_iff, conflictB_same_mask _ _ ha.len hb.len hm, ha.masked, hb.masked]

theorem apart_iff_conflictPat {a b : Opc} (ha : Sound a) (hb : Sound b) :
    Apart a b ↔ conflictPat a.pat b.pat = false := by
  rw [Apart, conflict_iff, conflictPat_eq _ _ ha.len hb.len, Bool.not_eq_true]

/-- what `newMaskGroup` establishes: one mask, and members strictly sorted by their masked bytes (so the binary
search of `matchInstruction` is exact) -/
structure GroupOK (g : Group) : Prop where
  mask : ∀ o ∈ g.opcodes, o.pat.mask = g.mask
  sorted : StrictSorted g.opcodes

/-- the members of a group as `newMaskGroup` leaves it are apart: one mask, different masked bytes -/
theorem GroupOK.apart {g : Group} (h : GroupOK g) (hS : ∀ o ∈ g.opcodes, Sound o) : g.opcodes.Pairwise Apart :=
  h.sorted.imp_of_mem fun ha hb hlt =>
    (apart_same_mask (hS _ ha) (hS _ hb) ((h.mask _ ha).trans (h.mask _ hb).symm)).2 (byteLT_ne hlt)

theorem newMaskGroup_spec (run : List Opc) (mk : List UInt8) (hmk : ∀ o ∈ run, o.pat.mask = mk)
    (hne : run ≠ []) :
    match newMaskGroup run with
    | .ok g => g.opcodes.Perm run ∧ GroupOK g
    | .error e => e = .ambiguous ∧ ¬ run.Pairwise fun a b => a.masked ≠ b.masked := by
  unfold newMaskGroup
  have hp := sortBy_perm (fun a b : Opc => byteLT a.masked b.masked) run
  have hsd := sortBy_sorted byteLT_strictTotal (fun o : Opc => o.masked) run
  simp only []
  generalize sortBy (fun a b : Opc => byteLT a.masked b.masked) run = sorted at hp hsd
  have hdup := noAdjDup_iff hsd
  cases sorted with
  | nil => exact absurd hp.symm.eq_nil hne
  | cons o rest =>
    simp only []
    by_cases hd : hasAdjDup (o :: rest) = true
    · rw [if_pos hd]
      exact ⟨rfl, fun h => absurd (hdup.2 ((hp.pairwise_iff fun h => Ne.symm h).2 h)) (by simp [hd])⟩
    · rw [if_neg hd]
      refine ⟨hp, fun o' ho' => ?_, ?_⟩
      · rw [hmk o' (hp.mem_iff.1 ho'), hmk o (hp.mem_iff.1 (List.mem_cons_self ..))]
      · -- not above and not equal is below
        refine hsd.imp₂ (fun a b h1 h2 => ?_) (hdup.1 (by simpa using hd))
        cases h : byteLT a.masked b.masked with
        | true => rfl
        | false => exact absurd (byteLT_total h h1) h2

theorem groupLoop_spec (fuel : Nat) (l : List Opc) (hf : l.length ≤ fuel) :
    match groupLoop fuel l with
    | .ok gs => (gs.flatMap (·.opcodes)).Perm l ∧ ∀ g ∈ gs, GroupOK g
    | .error e => e = .ambiguous ∧
        ¬ l.Pairwise fun a b => a.pat.mask = b.pat.mask → a.masked ≠ b.masked := by
  induction fuel generalizing l with
  | zero =>
    cases l with
    | nil => simp [groupLoop]
    | cons _ _ => simp at hf
  | succ fuel ih =>
    cases l with
    | nil => simp [groupLoop]
    | cons o os =>
      rw [groupLoop]
      have hend : 1 ≤ searchFirst (fun x : Opc => !byteEQ x.pat.mask o.pat.mask) (o :: os) := by
        simp [searchFirst, byteEQ_refl]
      have hmem := mem_take_searchFirst (fun x : Opc => !byteEQ x.pat.mask o.pat.mask) (o :: os)
      generalize searchFirst (fun x : Opc => !byteEQ x.pat.mask o.pat.mask) (o :: os) = n
        at hend hmem
      have hmk : ∀ x ∈ (o :: os).take n, x.pat.mask = o.pat.mask := fun x hx =>
        (byteEQ_iff _ _).1 (by simpa using hmem x hx)
      have h1 := newMaskGroup_spec _ _ hmk (by cases n with | zero => omega | succ n => simp)
      have h2 := ih ((o :: os).drop n)
        (by simp only [List.length_drop, List.length_cons] at hf ⊢; omega)
      cases hg : newMaskGroup ((o :: os).take n) with
      | error e =>
        rw [hg] at h1
        exact ⟨h1.1, fun h => h1.2 ((h.sublist (List.take_sublist n _)).imp_of_mem
          fun ha hb hab => hab ((hmk _ ha).trans (hmk _ hb).symm))⟩
      | ok g =>
        rw [hg] at h1
        cases hr : groupLoop fuel ((o :: os).drop n) with
        | error e =>
          rw [hr] at h2
          exact ⟨h2.1, fun h => h2.2 (h.sublist (List.drop_sublist n _))⟩
        | ok gs =>
          rw [hr] at h2
          refine ⟨?_, fun g' hg' => ?_⟩
          · have := List.Perm.append h1.1 h2.1
            rwa [List.take_append_drop] at this
          · rcases List.mem_cons.1 hg' with rfl | hg'
            · exact h1.2
            · exact h2.2 g' hg'

theorem checkConflicts_iff (gs : List Group) (hS : ∀ g ∈ gs, ∀ o ∈ g.opcodes, Sound o) :
    checkConflicts gs = true ↔
      gs.Pairwise fun g g' => ∀ a ∈ g.opcodes, ∀ b ∈ g'.opcodes, Apart a b := by
  rw [pairwise_iff_getElem?_ne (fun h b hb a ha => (h a ha b hb).symm)]
  unfold checkConflicts
  simp only [List.all_eq_true, List.mem_zipIdx_iff_getElem?, Prod.forall, Bool.or_eq_true,
    beq_iff_eq, Bool.not_eq_true']
  constructor
  · intro h i j gi gj hij hi hj a ha b hb
    exact (apart_iff_conflictPat (hS gi (List.mem_of_getElem? hi) a ha) (hS gj (List.mem_of_getElem? hj) b hb)).2
      ((h gj j hj gi i hi).resolve_left (Ne.symm hij) a ha b hb)
  · intro h gi i hi gj j hj
    by_cases hij : i = j
    · exact Or.inl hij
    · exact Or.inr fun o ho opc hopc =>
        (apart_iff_conflictPat (hS gj (List.mem_of_getElem? hj) o ho) (hS gi (List.mem_of_getElem? hi) opc hopc)).1
          (h j i gj gi (Ne.symm hij) hj hi o ho opc hopc)

/-- **`group` succeeds exactly on entries that are pairwise apart**, and then partitions them into groups of one
mask each, strictly sorted by the masked bytes.  In one run of equal masks, apart means different masked bytes
(the duplicate scan of `newMaskGroup`); across groups it is what `checkConflicts` tests. -/
theorem group_cases (os : List Opc) (hS : ∀ o ∈ os, Sound o) :
    match group os with
    | .ok gs => ((gs.flatMap (·.opcodes)).Perm os ∧ ∀ g ∈ gs, GroupOK g) ∧ os.Pairwise Apart
    | .error e => e = .ambiguous ∧ ¬ os.Pairwise Apart := by
  unfold group
  simp only []
  have hp := sortBy_perm (fun a b : Opc => byteLT a.pat.mask b.pat.mask) os
  generalize sortBy (fun a b : Opc => byteLT a.pat.mask b.pat.mask) os = sorted at hp
  have hs := groupLoop_spec sorted.length sorted (Nat.le_refl _)
  cases hg : groupLoop sorted.length sorted with
  | error e =>
    rw [hg] at hs
    exact ⟨hs.1, fun h => hs.2 (((hp.pairwise_iff Apart.symm).2 h).imp_of_mem fun ha hb hab hm =>
      (apart_same_mask (hS _ (hp.mem_iff.1 ha)) (hS _ (hp.mem_iff.1 hb)) hm).1 hab)⟩
  | ok gs =>
    rw [hg] at hs
    have hperm := hs.1.trans hp
    have hS' : ∀ g ∈ gs, ∀ o ∈ g.opcodes, Sound o := fun g hg o ho =>
      hS o (hperm.mem_iff.1 (List.mem_flatMap.2 ⟨g, hg, ho⟩))
    -- the members of one group are apart anyway, so what is left to test is across groups
    have key : os.Pairwise Apart ↔ checkConflicts gs = true := by
      rw [← hperm.pairwise_iff Apart.symm, List.pairwise_flatMap, checkConflicts_iff gs hS']
      exact and_iff_right fun g hg => (hs.2 g hg).apart (hS' g hg)
    simp only
    by_cases hc : checkConflicts gs = true
    · rw [if_pos hc]
      exact ⟨⟨hperm, hs.2⟩, key.2 hc⟩
    · rw [if_neg hc]
      exact ⟨rfl, fun h => hc (key.1 h)⟩

/-- what a successful `newMatcher ps` has established about its groups `gs` -/
structure Built (ps : List Pat) (gs : List Group) : Prop where
  wf : ∀ p ∈ ps, WellFormed p
  nc : ps.Pairwise fun p q => ¬ Conflict p q
  perm : (gs.flatMap (·.opcodes)).Perm (newOpcodes ps)
  ok : ∀ g ∈ gs, GroupOK g

theorem all_validate_iff (ps : List Pat) : ps.all validate = true ↔ ∀ p ∈ ps, WellFormed p := by
  simp only [List.all_eq_true, validate_iff]

theorem matchGroups_eq (gs : List Group) (bs : List UInt8) :
    matchGroups gs bs = (gs.findSome? (matchInstruction · bs)).map (·.id) := by
  induction gs with
  | nil => rfl
  | cons g gs ih =>
    simp only [matchGroups, List.findSome?_cons]
    cases matchInstruction g bs with
    | none => exact ih
    | some o => rfl

theorem Built.mem_flat {ps gs} (hb : Built ps gs) (o : Opc) :
    (∃ g ∈ gs, o ∈ g.opcodes) ↔ o ∈ newOpcodes ps := by
  rw [← hb.perm.mem_iff, List.mem_flatMap]

theorem Built.sound {ps gs} (hb : Built ps gs) {g : Group} (hg : g ∈ gs) : ∀ o ∈ g.opcodes, Sound o :=
  fun o ho => sound_newOpcodes hb.wf o ((hb.mem_flat o).1 ⟨g, hg, ho⟩)

/-- a group of one mask, strictly sorted, answers with exactly the member that matches: for a member, matching is
equality of the masked bytes -/
theorem matchInstruction_iff {g : Group} (hg : GroupOK g) (hS : ∀ o ∈ g.opcodes, Sound o)
    (bs : List UInt8) (o : Opc) :
    matchInstruction g bs = some o ↔ o ∈ g.opcodes ∧ Matches o.pat bs := by
  obtain ⟨hmask, hsorted⟩ := hg
  have key : ∀ o ∈ g.opcodes, (Matches o.pat bs ↔ g.mask.length ≤ bs.length ∧
      o.masked = applyMask (bs.take g.mask.length) g.mask) := by
    intro o ho
    rw [matches_iff_masked _ _ (hS o ho).len, ← (hS o ho).masked, hmask o ho, eq_comm]
  rw [matchInstruction_eq]
  by_cases hl : g.mask.length > bs.length
  · rw [if_pos hl]
    exact ⟨nofun, fun ⟨ho, hm⟩ => absurd ((key o ho).1 hm).1 (by omega)⟩
  · rw [if_neg hl]
    rw [lookup_eq_some_iff hsorted]
    exact and_congr_right fun ho => ((key o ho).trans (and_iff_right (by omega))).symm

theorem Built.match_sound {ps gs} (hb : Built ps gs) (bs : List UInt8) (i : Nat)
    (h : matchGroups gs bs = some i) : ∃ p, ps[i]? = some p ∧ Matches p bs := by
  rw [matchGroups_eq, Option.map_eq_some_iff] at h
  obtain ⟨o, ho, rfl⟩ := h
  obtain ⟨g, hg, hmi⟩ := List.exists_of_findSome?_eq_some ho
  obtain ⟨hmem, hmt⟩ := (matchInstruction_iff (hb.ok g hg) (hb.sound hg) bs o).1 hmi
  exact ⟨o.pat, ((mem_newOpcodes ps o).1 ((hb.mem_flat o).1 ⟨g, hg, hmem⟩)).1, hmt⟩

theorem Built.unique {ps gs} (hb : Built ps gs) {bs : List UInt8} {i j : Nat} {p q : Pat} (hp : ps[i]? = some p)
    (hq : ps[j]? = some q) (h1 : Matches p bs) (h2 : Matches q bs) : i = j :=
  Decidable.byContradiction fun hij => (noConflict_iff ps).2 hb.nc i j p q hij hp hq ⟨bs, h1, h2⟩

theorem Built.match_complete {ps gs} (hb : Built ps gs) (bs : List UInt8) (i : Nat) (p : Pat)
    (hp : ps[i]? = some p) (hmt : Matches p bs) : matchGroups gs bs = some i := by
  obtain ⟨g, hg, ho⟩ := (hb.mem_flat (entry i p)).2 ((mem_newOpcodes ps _).2 ⟨hp, rfl⟩)
  cases hj : matchGroups gs bs with
  | none =>
    rw [matchGroups_eq, Option.map_eq_none_iff, List.findSome?_eq_none_iff] at hj
    have := (matchInstruction_iff (hb.ok g hg) (hb.sound hg) bs _).2 ⟨ho, hmt⟩
    rw [hj g hg] at this
    cases this
  | some j =>
    obtain ⟨q, hq, hmq⟩ := hb.match_sound bs j hj
    rw [hb.unique hp hq hmt hmq]

theorem Built.match_some_iff {ps gs} (hb : Built ps gs) (bs : List UInt8) (i : Nat) :
    matchGroups gs bs = some i ↔ ∃ p, ps[i]? = some p ∧ Matches p bs :=
  ⟨hb.match_sound bs i, fun ⟨p, hp, hm⟩ => hb.match_complete bs i p hp hm⟩

theorem Built.match_none_iff {ps gs} (hb : Built ps gs) (bs : List UInt8) :
    matchGroups gs bs = none ↔ ∀ p ∈ ps, ¬ Matches p bs := by
  rw [Option.eq_none_iff_forall_ne_some]
  constructor
  · intro hn p hp hm
    obtain ⟨i, hi⟩ := List.mem_iff_getElem?.1 hp
    exact hn i (hb.match_complete bs i p hi hm)
  · intro hall i hi
    obtain ⟨p, hp, hmt⟩ := hb.match_sound bs i hi
    exact hall p (List.mem_of_getElem? hp) hmt

/-- **The outcomes of `newMatcher`**: `invalid` for an ill-formed pattern; otherwise a matcher with the properties
`Built`, or `ambiguous` with two conflicting patterns (`group_cases`). -/
inductive Outcome (ps : List Pat) : Except ErrClass Matcher → Prop
  | invalid (hn : ¬ ∀ p ∈ ps, WellFormed p) : Outcome ps (.error .invalid)
  | built (m : Matcher) (hb : Built ps m.groups) : Outcome ps (.ok m)
  | ambiguous (hwf : ∀ p ∈ ps, WellFormed p) (hc : ¬ ps.Pairwise fun p q => ¬ Conflict p q) :
    Outcome ps (.error .ambiguous)

theorem newMatcher_outcome (ps : List Pat) : Outcome ps (newMatcher ps) := by
  unfold newMatcher
  by_cases hv : ps.all validate = true
  · have hwf := (all_validate_iff ps).1 hv
    simp only [hv, Bool.not_true, Bool.false_eq_true, if_false]
    have hs := group_cases (newOpcodes ps) (sound_newOpcodes hwf)
    cases hg : group (newOpcodes ps) with
    | error e =>
      rw [hg, pairwise_apart_iff] at hs
      obtain ⟨rfl, hs⟩ := hs
      exact .ambiguous hwf hs
    | ok gs =>
      rw [hg, pairwise_apart_iff] at hs
      obtain ⟨⟨hperm, hok⟩, hnc⟩ := hs
      exact .built ⟨gs⟩ ⟨hwf, hnc, hperm, hok⟩
  · rw [if_pos (by simp [hv])]
    exact .invalid fun h => hv ((all_validate_iff ps).2 h)

theorem built_of_ok (ps : List Pat) (m : Matcher) (h : newMatcher ps = .ok m) :
    Built ps m.groups := by
  have ho := newMatcher_outcome ps
  rw [h] at ho
  cases ho with
  | built _ hb => exact hb

theorem newMatcher_ok_of (ps : List Pat) (hwf : ∀ p ∈ ps, WellFormed p)
    (hnc : ps.Pairwise fun p q => ¬ Conflict p q) : ∃ m, newMatcher ps = .ok m := by
  have ho := newMatcher_outcome ps
  generalize newMatcher ps = r at ho ⊢
  cases ho with
  | invalid hn => exact absurd hwf hn
  | built m _ => exact ⟨m, rfl⟩
  | ambiguous _ hc => exact absurd hnc hc

end Mltwist.Lemmas.Opcode
