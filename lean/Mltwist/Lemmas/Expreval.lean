import Mltwist.Model.Expreval
import Mltwist.Lemmas.Bytes
/-
C10: the byte-level algorithms of `expreval` compute the reference semantics `evalBin` / unsigned `<` on truncated operands
(`binary_length`, `binary_value`, `ltu_iff`), one value lemma per loop underneath.
-/
namespace Mltwist.Lemmas.Expreval
open Mltwist
open Mltwist.Lemmas.Bytes

/-- induction on two lists of the same length, as the byte loops of `expreval` walk them -/
theorem zip_induction {α β : Type} {motive : (l1 : List α) → (l2 : List β) → l1.length = l2.length → Prop}
    (nil : motive [] [] rfl)
    (cons : ∀ a b l1 l2 (h : l1.length = l2.length), motive l1 l2 h →
      motive (a :: l1) (b :: l2) (congrArg Nat.succ h)) :
    ∀ l1 l2 h, motive l1 l2 h := by
  intro l1
  induction l1 with
  | nil =>
    intro l2 h
    cases l2 with
    | nil => exact nil
    | cons _ _ => cases h
  | cons a l1 ih =>
    intro l2 h
    cases l2 with
    | nil => cases h
    | cons b l2 => exact cons a b l1 l2 (Nat.succ.inj h) (ih l2 (Nat.succ.inj h))

theorem addLoop_length (l1 l2 : List UInt8) (c : Bool) (h : l1.length = l2.length) :
    (Expreval.addLoop l1 l2 c).length = l1.length := by
  induction l1, l2, h using zip_induction generalizing c with
  | nil => rfl
  | cons b1 b2 r1 r2 h ih => simp [Expreval.addLoop, ih]

/-- a carry out of a sum below 512 -/
theorem toNat_decide_le {n : Nat} (h : n < 512) : (decide (256 ≤ n)).toNat = n / 256 := by
  by_cases h' : 256 ≤ n <;> simp only [h', decide_true, decide_false, Bool.toNat_true, Bool.toNat_false] <;>
    omega

/-- one step of the carry loop: result byte and carry out -/
theorem add_byte (b1 b2 : UInt8) (c : Bool) :
    (if c then b1 + b2 + 1 else b1 + b2).toNat = (b1.toNat + b2.toNat + c.toNat) % 256 ∧
    ((b1 + b2 < b1 || (c && b1 + b2 == 255)).toNat = (b1.toNat + b2.toNat + c.toNat) / 256) := by
  have h1 := b1.toNat_lt
  have h2 := b2.toNat_lt
  have hs : (b1 + b2).toNat = (b1.toNat + b2.toNat) % 256 := UInt8.toNat_add b1 b2
  -- the byte sum has wrapped round iff it is below an operand
  have hlt : decide (b1 + b2 < b1) = decide (256 ≤ b1.toNat + b2.toNat) :=
    decide_eq_decide.mpr (by rw [UInt8.lt_iff_toNat_lt, hs]; omega)
  cases c with
  | false =>
    simp only [Bool.false_eq_true, if_false, Bool.false_and, Bool.or_false, Bool.toNat_false,
      Nat.add_zero, hlt]
    exact ⟨hs, toNat_decide_le (by omega)⟩
  | true =>
    have heq : (b1 + b2 == 255) = decide ((b1.toNat + b2.toNat) % 256 = 255) := by
      rw [← hs, Bool.beq_eq_decide_eq]
      congr 1
      rw [← UInt8.toNat_inj]
      rfl
    have hor : (decide (256 ≤ b1.toNat + b2.toNat) || decide ((b1.toNat + b2.toNat) % 256 = 255))
        = decide (256 ≤ b1.toNat + b2.toNat + 1) := by
      rw [← Bool.decide_or]
      exact decide_eq_decide.mpr (by omega)
    simp only [if_true, Bool.true_and, Bool.toNat_true, hlt, heq, hor]
    refine ⟨?_, toNat_decide_le (by omega)⟩
    rw [UInt8.toNat_add, hs]
    show (_ + 1) % 2 ^ 8 = _
    omega

theorem leToNat_addLoop (l1 l2 : List UInt8) (c : Bool) (h : l1.length = l2.length) :
    leToNat (Expreval.addLoop l1 l2 c) =
      (leToNat l1 + leToNat l2 + c.toNat) % 256 ^ l1.length := by
  induction l1, l2, h using zip_induction generalizing c with
  | nil => simp [Expreval.addLoop, Nat.mod_one]
  | cons b1 b2 r1 r2 h ih =>
    obtain ⟨hb, hc⟩ := add_byte b1 b2 c
    simp only [Expreval.addLoop, leToNat_cons, List.length_cons]
    rw [ih, hb, hc, pow256_succ, Nat.mod_mul]
    have e1 : (b1.toNat + 256 * leToNat r1 + (b2.toNat + 256 * leToNat r2) + c.toNat) % 256
        = (b1.toNat + b2.toNat + c.toNat) % 256 := by omega
    have e2 : (b1.toNat + 256 * leToNat r1 + (b2.toNat + 256 * leToNat r2) + c.toNat) / 256
        = leToNat r1 + leToNat r2 + (b1.toNat + b2.toNat + c.toNat) / 256 := by omega
    rw [e1, e2]

theorem nandLoop_eq_zipWith : ∀ l1 l2 : List UInt8,
    Expreval.nandLoop l1 l2 = (List.zipWith (fun a b => a &&& b) l1 l2).map (~~~ ·)
  | [], _ => by simp [Expreval.nandLoop]
  | _ :: _, [] => by simp [Expreval.nandLoop]
  | b1 :: r1, b2 :: r2 => by
    rw [Expreval.nandLoop, nandLoop_eq_zipWith r1 r2, List.zipWith_cons_cons, List.map_cons]

theorem nandLoop_length (l1 l2 : List UInt8) (h : l1.length = l2.length) :
    (Expreval.nandLoop l1 l2).length = l1.length := by
  rw [nandLoop_eq_zipWith, List.length_map, List.length_zipWith, ← h, Nat.min_self]

theorem leToNat_nandLoop (l1 l2 : List UInt8) (h : l1.length = l2.length) :
    leToNat (Expreval.nandLoop l1 l2) =
      256 ^ l1.length - 1 - (leToNat l1 &&& leToNat l2) := by
  rw [nandLoop_eq_zipWith, leToNat_map_not, List.length_zipWith, leToNat_zipWith_and, ← h, Nat.min_self]

/-! For `s ≤ 8`, `256 = 2^(8-s) * 2^s`: shifting a byte up by `s` keeps its low `8 - s` bits in the byte and
spills the rest into the next one.  The bit shifts below need nothing else about powers of two. -/

theorem two_pow_compl (s : Nat) (h : s ≤ 8) : 2 ^ (8 - s) * 2 ^ s = 256 :=
  two_pow_sub_mul h

theorem shl_mod (b s : Nat) (h : s ≤ 8) : b * 2 ^ s % 256 = b % 2 ^ (8 - s) * 2 ^ s := by
  rw [← two_pow_compl s h, Nat.mul_mod_mul_right]

theorem shl_div (b s : Nat) (h : s ≤ 8) : b * 2 ^ s / 256 = b / 2 ^ (8 - s) := by
  rw [← two_pow_compl s h, Nat.mul_div_mul_right _ _ (Nat.two_pow_pos s)]

theorem spill_lt (p s : Nat) (h : s ≤ 8) (hp : p < 256) : p / 2 ^ (8 - s) < 2 ^ s :=
  Nat.div_lt_of_lt_mul (by rw [two_pow_compl s h]; exact hp)

/-- the spill of the byte below fits under the shifted byte: no carry -/
theorem shl_add_spill_lt (b p s : Nat) (h : s ≤ 8) (hp : p < 256) :
    b * 2 ^ s % 256 + p / 2 ^ (8 - s) < 256 := by
  have hc := spill_lt p s h hp
  have hb : b % 2 ^ (8 - s) + 1 ≤ 2 ^ (8 - s) := Nat.mod_lt _ (Nat.two_pow_pos _)
  have := Nat.mul_le_mul_right (2 ^ s) hb
  rw [two_pow_compl s h, Nat.add_mul, Nat.one_mul] at this
  rw [shl_mod b s h]
  omega

theorem shr_add (b N s : Nat) (h : s ≤ 8) : (b + 256 * N) / 2 ^ s = b / 2 ^ s + N * 2 ^ (8 - s) := by
  rw [Nat.mul_comm 256, ← two_pow_compl s h, ← Nat.mul_assoc,
    Nat.add_mul_div_right _ _ (Nat.two_pow_pos s)]

theorem bitLshAux_length (s : Nat) (prev : UInt8) (l : List UInt8) :
    (Expreval.bitLshAux s prev l).length = l.length := by
  induction l generalizing prev with
  | nil => rfl
  | cons b bs ih => simp [Expreval.bitLshAux, ih]

theorem bitRsh_length (s : Nat) (l : List UInt8) :
    (Expreval.bitRsh s l).length = l.length := by
  induction l with
  | nil => rfl
  | cons b bs ih =>
    cases bs with
    | nil => rfl
    | cons c bs => simp only [Expreval.bitRsh, List.length_cons] at ih ⊢; rw [ih]

theorem ofNat_toNat_mod8 (s : Nat) (hs : s < 8) : (UInt8.ofNat s).toNat % 8 = s := by
  rw [UInt8.toNat_ofNat']; omega

/-- the byte produced by `bitLsh`/`bitRsh` out of the shifted byte and its neighbour's spill -/
theorem shl_or_shr_byte (s : Nat) (h0 : 0 < s) (h8 : s < 8) (b p : UInt8) :
    ((b <<< UInt8.ofNat s) ||| (p >>> UInt8.ofNat (8 - s))).toNat =
      (b.toNat * 2 ^ s) % 256 + p.toNat / 2 ^ (8 - s) := by
  rw [UInt8.toNat_or, UInt8.toNat_shiftLeft, UInt8.toNat_shiftRight,
    ofNat_toNat_mod8 s h8, ofNat_toNat_mod8 (8 - s) (by omega), Nat.shiftLeft_eq,
    Nat.shiftRight_eq_div_pow]
  show b.toNat * 2 ^ s % 256 ||| _ = _
  -- a multiple of `2^s` and a value below `2^s` share no bit
  rw [shl_mod _ s (by omega), Nat.mul_comm,
    Nat.two_pow_add_eq_or_of_lt (spill_lt _ s (by omega) p.toNat_lt)]

theorem shr_or_shl_byte (s : Nat) (h0 : 0 < s) (h8 : s < 8) (b c : UInt8) :
    ((b >>> UInt8.ofNat s) ||| (c <<< UInt8.ofNat (8 - s))).toNat =
      b.toNat / 2 ^ s + (c.toNat * 2 ^ (8 - s)) % 256 := by
  have := shl_or_shr_byte (8 - s) (by omega) (by omega) c b
  have e : 8 - (8 - s) = s := by omega
  rw [e] at this
  rw [UInt8.toNat_or, Nat.or_comm, ← UInt8.toNat_or, this, Nat.add_comm]

theorem leToNat_bitLshAux (s : Nat) (h0 : 0 < s) (h8 : s < 8) (prev : UInt8) (l : List UInt8) :
    leToNat (Expreval.bitLshAux s prev l) =
      (leToNat l * 2 ^ s + prev.toNat / 2 ^ (8 - s)) % 256 ^ l.length := by
  induction l generalizing prev with
  | nil => simp [Expreval.bitLshAux, Nat.mod_one]
  | cons b bs ih =>
    have hc := shl_add_spill_lt b.toNat prev.toNat s (by omega) prev.toNat_lt
    have hd := Nat.div_add_mod (b.toNat * 2 ^ s) 256
    rw [shl_div _ s (by omega)] at hd
    simp only [Expreval.bitLshAux, leToNat_cons, List.length_cons]
    rw [ih b, shl_or_shr_byte s h0 h8, pow256_succ, Nat.mod_mul, Nat.add_mul, Nat.mul_assoc]
    generalize prev.toNat / 2 ^ (8 - s) = c at hc ⊢
    have e1 : (b.toNat * 2 ^ s + 256 * (leToNat bs * 2 ^ s) + c) % 256 = b.toNat * 2 ^ s % 256 + c := by
      omega
    have e2 : (b.toNat * 2 ^ s + 256 * (leToNat bs * 2 ^ s) + c) / 256
        = leToNat bs * 2 ^ s + b.toNat / 2 ^ (8 - s) := by omega
    rw [e1, e2]

theorem leToNat_bitLsh (s : Nat) (h0 : 0 < s) (h8 : s < 8) (l : List UInt8) :
    leToNat (Expreval.bitLsh l s) = (leToNat l * 2 ^ s) % 256 ^ l.length := by
  rw [Expreval.bitLsh, leToNat_bitLshAux s h0 h8]
  simp

theorem leToNat_bitRsh (s : Nat) (h0 : 0 < s) (h8 : s < 8) (l : List UInt8) :
    leToNat (Expreval.bitRsh s l) = leToNat l / 2 ^ s := by
  induction l with
  | nil => simp [Expreval.bitRsh]
  | cons b bs ih =>
    cases bs with
    | nil =>
      simp only [Expreval.bitRsh, leToNat_cons, leToNat_nil, Nat.mul_zero, Nat.add_zero]
      rw [UInt8.toNat_shiftRight, ofNat_toNat_mod8 s h8, Nat.shiftRight_eq_div_pow]
    | cons c bs =>
      have hd := Nat.div_add_mod (c.toNat * 2 ^ (8 - s)) 256
      rw [shl_div _ (8 - s) (by omega), (by omega : 8 - (8 - s) = s)] at hd
      simp only [Expreval.bitRsh, leToNat_cons] at ih ⊢
      rw [ih, shr_or_shl_byte s h0 h8, shr_add _ _ s (by omega), shr_add _ _ s (by omega), Nat.add_mul,
        Nat.mul_add, Nat.mul_assoc]
      omega

theorem shiftUint64_eq (v : List UInt8) (w : Nat) :
    Expreval.shiftUint64 v w =
      if trunc w (leToNat v) ≥ 2 ^ 64 then none
      else if trunc w (leToNat v) / 8 ≥ w then none
      else some (trunc w (leToNat v) / 8, trunc w (leToNat v) % 8) := by
  simp only [Expreval.shiftUint64, bigInt_eq]

/-- the one use of `w ≤ 255` in C10 (and, through `binary_value`, C09): an amount beyond 64 bits is beyond `8 * w ≤ 2040` -/
theorem shiftUint64_none (v : List UInt8) (w : Nat) (hw : w ≤ 255)
    (h : Expreval.shiftUint64 v w = none) : trunc w (leToNat v) ≥ 8 * w := by
  rw [shiftUint64_eq] at h
  split at h
  · rename_i h64
    have : (2 : Nat) ^ 64 = 18446744073709551616 := by decide
    omega
  · split at h
    · omega
    · cases h

theorem shiftUint64_some (v : List UInt8) (w k s : Nat)
    (h : Expreval.shiftUint64 v w = some (k, s)) :
    trunc w (leToNat v) = 8 * k + s ∧ k < w ∧ s < 8 := by
  rw [shiftUint64_eq] at h
  split at h
  · cases h
  · split at h
    · cases h
    · simp only [Option.some.injEq, Prod.mk.injEq] at h
      omega

/-- the byte-shifted operand of `lsh` before the bit shift -/
theorem lsh_bytes_length (v : List UInt8) {w k : Nat} (hk : k < w) :
    (List.replicate k (0 : UInt8) ++ (Expreval.setWidth v w).take (w - k)).length = w := by
  rw [List.length_append, List.length_replicate, List.length_take, setWidth_length]; omega

theorem lsh_length (v1 v2 : List UInt8) (w : Nat) : (Expreval.lsh v1 v2 w).length = w := by
  unfold Expreval.lsh
  split
  · simp
  · rename_i k s h
    obtain ⟨_, hk, _⟩ := shiftUint64_some _ _ _ _ h
    simp only []
    split
    · rw [Expreval.bitLsh, bitLshAux_length, lsh_bytes_length v1 hk]
    · exact lsh_bytes_length v1 hk

theorem rsh_length (v1 v2 : List UInt8) (w : Nat) : (Expreval.rsh v1 v2 w).length = w := by
  unfold Expreval.rsh
  split
  · simp
  · rename_i k s h
    obtain ⟨_, hk, _⟩ := shiftUint64_some _ _ _ _ h
    simp only []
    rw [List.length_append, List.length_replicate]
    split
    · rw [bitRsh_length, List.length_drop, setWidth_length]; omega
    · rw [List.length_drop, setWidth_length]; omega

theorem two_pow_split (k s : Nat) : 2 ^ (8 * k + s) = 256 ^ k * 2 ^ s := by
  rw [Nat.pow_add, two_pow_eight_mul]

theorem leToNat_lsh (v1 v2 : List UInt8) (w : Nat) (hw : w ≤ 255) :
    leToNat (Expreval.lsh v1 v2 w) =
      evalBin .lsh w (trunc w (leToNat v1)) (trunc w (leToNat v2)) := by
  unfold Expreval.lsh evalBin
  split
  · rename_i h
    have := shiftUint64_none _ _ hw h
    simp only [leToNat_replicate_zero]
    rw [if_pos this]
  · rename_i k s h
    obtain ⟨hy, hk, hs⟩ := shiftUint64_some _ _ _ _ h
    have hlt : ¬ (trunc w (leToNat v2) ≥ 8 * w) := by omega
    simp only []
    rw [if_neg hlt, hy, two_pow_split, two_pow_eight_mul]
    have hv : leToNat (List.replicate k (0 : UInt8) ++ (Expreval.setWidth v1 w).take (w - k)) =
        (256 ^ k * trunc w (leToNat v1)) % 256 ^ w := by
      rw [leToNat_append, leToNat_replicate_zero, List.length_replicate, leToNat_take,
        leToNat_setWidth, Nat.zero_add, ← Nat.mul_mod_mul_left, ← pow256_add]
      congr 2; omega
    split
    · rename_i hs0
      rw [leToNat_bitLsh s (by omega) hs, lsh_bytes_length v1 hk, hv, Nat.mod_mul_mod]
      congr 1
      rw [Nat.mul_comm (256 ^ k), Nat.mul_assoc]
    · rename_i hs0
      have : s = 0 := by omega
      subst this
      rw [hv, Nat.pow_zero, Nat.mul_one, Nat.mul_comm]

theorem leToNat_rsh (v1 v2 : List UInt8) (w : Nat) (hw : w ≤ 255) :
    leToNat (Expreval.rsh v1 v2 w) =
      evalBin .rsh w (trunc w (leToNat v1)) (trunc w (leToNat v2)) := by
  unfold Expreval.rsh evalBin
  split
  · rename_i h
    have := shiftUint64_none _ _ hw h
    simp only [leToNat_replicate_zero]
    rw [if_pos this]
  · rename_i k s h
    obtain ⟨hy, hk, hs⟩ := shiftUint64_some _ _ _ _ h
    have hlt : ¬ (trunc w (leToNat v2) ≥ 8 * w) := by omega
    simp only []
    rw [if_neg hlt, hy, two_pow_split, leToNat_append, leToNat_replicate_zero, Nat.mul_zero,
      Nat.add_zero, ← Nat.div_div_eq_div_mul]
    split
    · rename_i hs0
      rw [leToNat_bitRsh s (by omega) hs, leToNat_drop, leToNat_setWidth]
    · rename_i hs0
      have : s = 0 := by omega
      subst this
      rw [leToNat_drop, leToNat_setWidth, Nat.pow_zero, Nat.div_one]

theorem binary_length (op : BinOp) (c1 c2 : List UInt8) (w : Nat) :
    (Expreval.binary op c1 c2 w).length = w := by
  cases op with
  | add => rw [Expreval.binary, Expreval.add, addLoop_length _ _ _ (by simp), setWidth_length]
  | lsh => exact lsh_length c1 c2 w
  | rsh => exact rsh_length c1 c2 w
  | mul => exact natToLE_length _ _
  | div =>
    rw [Expreval.binary, Expreval.div]
    split
    · exact List.length_replicate
    · exact natToLE_length _ _
  | nand => rw [Expreval.binary, Expreval.nand, nandLoop_length _ _ (by simp), setWidth_length]

theorem binary_value (op : BinOp) (c1 c2 : List UInt8) (w : Nat) (hw : w ≤ 255) :
    leToNat (Expreval.binary op c1 c2 w) =
      evalBin op w (trunc w (leToNat c1)) (trunc w (leToNat c2)) := by
  cases op with
  | add =>
    rw [Expreval.binary, Expreval.add, leToNat_addLoop _ _ _ (by simp), setWidth_length, leToNat_setWidth,
      leToNat_setWidth, evalBin, two_pow_eight_mul]
    rfl
  | lsh => exact leToNat_lsh c1 c2 w hw
  | rsh => exact leToNat_rsh c1 c2 w hw
  | mul =>
    rw [Expreval.binary, Expreval.mul, leToNat_natToLE, bigInt_eq, bigInt_eq]
    rfl
  | div =>
    rw [Expreval.binary, Expreval.div, evalBin, bigInt_eq, bigInt_eq]
    split
    · rw [leToNat_replicate_255, two_pow_eight_mul]
    · rw [leToNat_natToLE_pow256]
      exact Nat.mod_eq_of_lt (Nat.lt_of_le_of_lt (Nat.div_le_self _ _) (trunc_lt_pow256 w _))
  | nand =>
    rw [Expreval.binary, Expreval.nand, leToNat_nandLoop _ _ (by simp), setWidth_length, leToNat_setWidth,
      leToNat_setWidth, evalBin, nandW, two_pow_eight_mul]

theorem ltuLoop_iff (r1 r2 : List UInt8) (h : r1.length = r2.length) :
    Expreval.ltuLoop r1 r2 = true ↔ leToNat r1.reverse < leToNat r2.reverse := by
  induction r1, r2, h using zip_induction with
  | nil => simp [Expreval.ltuLoop]
  | cons b1 b2 t1 t2 h ih =>
    have hA := leToNat_lt_pow256 t1.reverse
    have hB := leToNat_lt_pow256 t2.reverse
    rw [List.length_reverse] at hA hB
    rw [← h] at hB
    simp only [Expreval.ltuLoop, List.reverse_cons, leToNat_append, List.length_reverse,
      leToNat_cons, leToNat_nil, Nat.mul_zero, Nat.add_zero, ← h]
    by_cases hlt' : b1 < b2
    · rw [if_pos hlt']
      have hlt : b1.toNat < b2.toNat := UInt8.lt_iff_toNat_lt.mp hlt'
      have : 256 ^ t1.length * (b1.toNat + 1) ≤ 256 ^ t1.length * b2.toNat :=
        Nat.mul_le_mul_left _ hlt
      rw [Nat.mul_add, Nat.mul_one] at this
      simp only [true_iff]
      omega
    · rw [if_neg hlt']
      have hlt : ¬ b1.toNat < b2.toNat := fun h => hlt' (UInt8.lt_iff_toNat_lt.mpr h)
      by_cases hgt' : b1 > b2
      · rw [if_pos hgt']
        have hgt : b2.toNat < b1.toNat := UInt8.lt_iff_toNat_lt.mp hgt'
        have : 256 ^ t1.length * (b2.toNat + 1) ≤ 256 ^ t1.length * b1.toNat :=
          Nat.mul_le_mul_left _ hgt
        rw [Nat.mul_add, Nat.mul_one] at this
        simp only [Bool.false_eq_true, false_iff]
        omega
      · rw [if_neg hgt', ih]
        have hgt : ¬ b2.toNat < b1.toNat := fun h => hgt' (UInt8.lt_iff_toNat_lt.mpr h)
        have : b1.toNat = b2.toNat := by omega
        rw [this]
        omega

theorem ltu_iff (c1 c2 : List UInt8) (w : Nat) :
    Expreval.ltu c1 c2 w = true ↔ trunc w (leToNat c1) < trunc w (leToNat c2) := by
  unfold Expreval.ltu
  rw [ltuLoop_iff _ _ (by simp), List.reverse_reverse, List.reverse_reverse, leToNat_setWidth,
    leToNat_setWidth]

end Mltwist.Lemmas.Expreval
