import Mltwist.Model.BytesMem
import Mltwist.Spec.BytesMem
import Mltwist.Lemmas.SortSearch
/-
C15, construction of the byte memory: `dedupBlocks` and `NewBytes` (filter, stable sort, `dedupBlocks`).
The cursor loop of `dedupBlocks` is shown equal to a functional merge `dedupF`, and its specification
(the overlap error iff two blocks overlap, otherwise the block invariant and the same byte map) is
proved on `dedupF`.  The byte map `ofBlocks` of a block list is by definition its head block written
over the map of its tail, so the laws of `write` carry the reasoning about merged blocks.
-/
namespace Mltwist.Lemmas.BytesMem
open Mltwist Mltwist.BytesMem Mltwist.BytesSpec

def Disj (b c : Block) : Prop := ∀ a, ¬ (Covers b a ∧ Covers c a)

theorem Disj.symm {b c : Block} (h : Disj b c) : Disj c b := fun a ⟨h1, h2⟩ => h a ⟨h2, h1⟩

theorem block_pos {b : Block} (h : b.2 ≠ []) : b.1 < bend b :=
  Nat.lt_add_of_pos_right (List.length_pos_iff.2 h)

theorem covers_iff (b : Block) (a : Nat) : Covers b a ↔ b.1 ≤ a ∧ a < bend b := Iff.rfl

theorem covers_getElem {b : Block} {a : Nat} (h : Covers b a) : ∃ v, b.2[a - b.1]? = some v := by
  have : a - b.1 < b.2.length := by unfold Covers at h; omega
  exact ⟨b.2[a - b.1], List.getElem?_eq_getElem this⟩

theorem ofBlocks_cons (b : Block) (l : List Block) (a : Nat) :
    ofBlocks (b :: l) a = if Covers b a then b.2[a - b.1]? else ofBlocks l a := rfl

theorem ofBlocks_eq_none_iff (l : List Block) (a : Nat) :
    ofBlocks l a = none ↔ ∀ b ∈ l, ¬ Covers b a := by
  induction l with
  | nil => simp [ofBlocks]
  | cons b l ih =>
    rw [ofBlocks_cons]
    by_cases h : Covers b a
    · obtain ⟨v, hv⟩ := covers_getElem h
      simp [h, hv]
    · simp [h, ih]

theorem ofBlocks_ne_none_iff (l : List Block) (a : Nat) :
    ofBlocks l a ≠ none ↔ ∃ b ∈ l, Covers b a := by
  rw [Ne, ofBlocks_eq_none_iff]
  simp

theorem ofBlocks_append (l r : List Block) (a : Nat) :
    ofBlocks (l ++ r) a = (ofBlocks l a).or (ofBlocks r a) := by
  induction l with
  | nil => simp [ofBlocks]
  | cons b l ih =>
    rw [List.cons_append, ofBlocks_cons, ofBlocks_cons]
    by_cases h : Covers b a
    · obtain ⟨v, hv⟩ := covers_getElem h
      simp [h, hv]
    · simp [h, ih]

theorem ofBlocks_eq_of_mem {l : List Block} (hd : l.Pairwise Disj) {b : Block} (hb : b ∈ l)
    {a : Nat} (hc : Covers b a) : ofBlocks l a = b.2[a - b.1]? := by
  induction l with
  | nil => cases hb
  | cons c l ih =>
    rw [ofBlocks_cons]
    rw [List.pairwise_cons] at hd
    rcases List.mem_cons.1 hb with rfl | hb'
    · simp [hc]
    · have : ¬ Covers c a := fun h => hd.1 b hb' a ⟨h, hc⟩
      simp [this, ih hd.2 hb']

theorem ofBlocks_some_iff {l : List Block} (hd : l.Pairwise Disj) (a : Nat) (v : UInt8) :
    ofBlocks l a = some v ↔ ∃ b ∈ l, Covers b a ∧ b.2[a - b.1]? = some v := by
  constructor
  · intro h
    have hne : ofBlocks l a ≠ none := by rw [h]; simp
    obtain ⟨b, hb, hc⟩ := (ofBlocks_ne_none_iff l a).1 hne
    exact ⟨b, hb, hc, by rw [← ofBlocks_eq_of_mem hd hb hc, h]⟩
  · rintro ⟨b, hb, hc, hv⟩
    rw [ofBlocks_eq_of_mem hd hb hc, hv]

theorem write_apply (m : ByteMap) (a : Nat) (d : List UInt8) (x : Nat) :
    write m a d x = if a ≤ x ∧ x < a + d.length then d[x - a]? else m x := rfl

theorem write_of_lt (m : ByteMap) {a x : Nat} (d : List UInt8) (h : x < a) : write m a d x = m x :=
  if_neg fun h' => Nat.not_le.2 h h'.1

theorem write_add (m : ByteMap) (a : Nat) (d : List UInt8) (j : Nat) :
    write m a d (a + j) = d[j]?.or (m (a + j)) := by
  simp only [write_apply, Nat.le_add_right, true_and, Nat.add_lt_add_iff_left, Nat.add_sub_cancel_left]
  split
  · next h => rw [List.getElem?_eq_getElem h, Option.some_or]
  · next h => rw [List.getElem?_eq_none (Nat.le_of_not_lt h), Option.none_or]

theorem write_append (m : ByteMap) (a : Nat) (d₁ d₂ : List UInt8) (x : Nat) :
    write m a (d₁ ++ d₂) x = write (write m (a + d₁.length) d₂) a d₁ x := by
  rcases Nat.lt_or_ge x a with h | h
  · rw [write_of_lt _ _ h, write_of_lt _ _ h, write_of_lt _ _ (Nat.lt_add_right _ h)]
  · obtain ⟨j, rfl⟩ := Nat.exists_eq_add_of_le h
    rw [write_add, write_add]
    rcases Nat.lt_or_ge j d₁.length with h1 | h1
    · rw [List.getElem?_append_left h1, List.getElem?_eq_getElem h1, Option.some_or, Option.some_or]
    · obtain ⟨i, rfl⟩ := Nat.exists_eq_add_of_le h1
      rw [List.getElem?_append_right h1, List.getElem?_eq_none h1, Option.none_or, ← Nat.add_assoc,
        write_add, Nat.add_sub_cancel_left]

theorem write_comm (m : ByteMap) {a a' : Nat} (d d' : List UInt8) (h : a + d.length ≤ a') (x : Nat) :
    write (write m a d) a' d' x = write (write m a' d') a d x := by
  simp only [write_apply]
  by_cases h1 : a ≤ x ∧ x < a + d.length
  · have h2 : ¬ (a' ≤ x ∧ x < a' + d'.length) := fun h2 => by omega
    simp only [if_pos h1, if_neg h2]
  · simp only [if_neg h1]

/-- functional form of the `dedupBlocks` loop: `p` is the block `bs[j-1]`, the list is `bs[i:]` -/
def dedupF : Block → List Block → Except Fail (List Block)
  | p, [] => .ok [p]
  | p, c :: rest =>
    if bend p > c.1 then .error .overlap
    else if bend p = c.1 then dedupF (p.1, p.2 ++ c.2) rest
    else match dedupF c rest with
      | .ok r => .ok (p :: r)
      | .error e => .error e

def mapOk (pre : List Block) : Except Fail (List Block) → Except Fail (List Block)
  | .ok r => .ok (pre ++ r)
  | .error e => .error e

theorem mapOk_mapOk (a b : List Block) (x : Except Fail (List Block)) :
    mapOk a (mapOk b x) = mapOk (a ++ b) x := by
  cases x <;> simp [mapOk]

/-- The loop at `i` and `j + 1` (the Go `j`): `p = bs[j]` is the last block written, `bs[:j]` is final, `bs[i:]`
is still to be read; the blocks between are stale and never read again. -/
theorem dedupLoop_eq : ∀ (f : Nat) (bs : List Block) (i j : Nat) (p : Block), j < i → i + f = bs.length →
    bs[j]? = some p → dedupLoop f bs i (j + 1) = mapOk (bs.take j) (dedupF p (bs.drop i))
  | 0, bs, i, j, p, _, hi, hp => by
    rw [Nat.add_zero] at hi
    rw [dedupLoop, List.drop_eq_nil_of_le (Nat.le_of_eq hi.symm), dedupF, mapOk, List.take_add_one, hp]
    rfl
  | f + 1, bs, i, j, p, hji, hi, hp => by
    obtain ⟨c, hc⟩ : ∃ c, bs[i]? = some c := ⟨bs[i]'(by omega), List.getElem?_eq_getElem _⟩
    have hd : bs.drop i = c :: bs.drop (i + 1) := by
      rw [List.drop_eq_getElem?_toList_append, hc]; rfl
    have hlen : ∀ k x, i + 1 + f = (bs.set k x).length := fun k x => by rw [List.length_set]; omega
    simp only [dedupLoop, Nat.add_sub_cancel, hp, hc, hd, dedupF]
    by_cases hov : bend p > c.1
    · simp only [hov, if_true, mapOk]
    · simp only [hov, if_false]
      by_cases hadj : bend p = c.1
      · simp only [hadj, if_true]
        rw [dedupLoop_eq f _ (i + 1) j _ (Nat.lt_succ_of_lt hji) (hlen _ _) (List.getElem?_set_self (by omega)),
          List.take_set_of_le (Nat.le_refl _), List.drop_set_of_lt (Nat.lt_succ_of_lt hji)]
      · -- `bs[j+1] = bs[i]` overwrites the first stale block, or `c` itself if there is none
        simp only [hadj, if_false]
        rw [dedupLoop_eq f _ (i + 1) (j + 1) c (Nat.succ_lt_succ hji) (hlen _ _) (List.getElem?_set_self (by omega)),
          List.take_set_of_le (Nat.le_refl _), List.drop_set_of_lt (Nat.succ_lt_succ hji), List.take_add_one, hp]
        cases dedupF c (bs.drop (i + 1)) <;> simp [mapOk]

theorem dedupBlocks_eq (bs : List Block) :
    dedupBlocks bs = match bs with
      | [] => .ok []
      | p :: rest => dedupF p rest := by
  unfold dedupBlocks
  match bs with
  | [] => rfl
  | [p] => rfl
  | p :: c :: rest =>
    rw [if_neg (by simp), dedupLoop_eq _ _ 1 0 p Nat.one_pos (by simp; omega) rfl]
    show mapOk [] (dedupF p (c :: rest)) = dedupF p (c :: rest)
    cases dedupF p (c :: rest) <;> rfl

theorem covers_merge {p c : Block} (h : bend p = c.1) (a : Nat) :
    Covers (p.1, p.2 ++ c.2) a ↔ Covers p a ∨ Covers c a := by
  unfold Covers bend at *
  simp only [List.length_append]
  omega

theorem ofBlocks_merge {p c : Block} (h : bend p = c.1) (rest : List Block) (a : Nat) :
    ofBlocks ((p.1, p.2 ++ c.2) :: rest) a = ofBlocks (p :: c :: rest) a := by
  -- `ofBlocks (b :: l)` is by definition `write (ofBlocks l) b.1 b.2`
  have := write_append (ofBlocks rest) p.1 p.2 c.2 a
  rw [show p.1 + p.2.length = c.1 from h] at this
  exact this

/-- `∀ y ∈ r, p.1 ≤ y.1` is there for the induction: a block kept in front of the result lies before all of it -/
theorem dedupF_spec (rest : List Block) : ∀ (p : Block), (p :: rest).Pairwise (fun x y => x.1 ≤ y.1) →
    (∀ x ∈ p :: rest, x.2 ≠ []) →
    (dedupF p rest = .error .overlap ∧ ¬ (p :: rest).Pairwise Disj) ∨
    (∃ r, dedupF p rest = .ok r ∧ (p :: rest).Pairwise Disj ∧ Inv r ∧ (∀ y ∈ r, p.1 ≤ y.1) ∧
      ∀ a, ofBlocks r a = ofBlocks (p :: rest) a) := by
  induction rest with
  | nil =>
    intro p _ hne
    right
    refine ⟨[p], rfl, by simp, ⟨by simp, hne⟩, by simp, fun _ => rfl⟩
  | cons c rest ih =>
    intro p hsorted hne
    have hp := hne p List.mem_cons_self
    have hc := hne c (List.mem_cons_of_mem _ List.mem_cons_self)
    have hne' : ∀ x ∈ c :: rest, x.2 ≠ [] := fun x hx => hne x (List.mem_cons_of_mem _ hx)
    rw [List.pairwise_cons] at hsorted
    unfold dedupF
    by_cases hov : bend p > c.1
    · left
      refine ⟨by simp [hov], ?_⟩
      intro hd
      rw [List.pairwise_cons] at hd
      refine hd.1 c (List.mem_cons_self ..) c.1 ⟨?_, ?_⟩
      · exact ⟨hsorted.1 c List.mem_cons_self, hov⟩
      · exact ⟨Nat.le_refl _, block_pos hc⟩
    · rw [if_neg hov]
      by_cases hadj : bend p = c.1
      · rw [if_pos hadj]
        have key : (p :: c :: rest).Pairwise Disj ↔ ((p.1, p.2 ++ c.2) :: rest).Pairwise Disj := by
          simp only [List.pairwise_cons, List.mem_cons, forall_eq_or_imp]
          constructor
          · rintro ⟨⟨_, h1⟩, h2, h3⟩
            refine ⟨fun x hx a ⟨ha, hb⟩ => ?_, h3⟩
            rcases (covers_merge hadj a).1 ha with h | h
            · exact h1 x hx a ⟨h, hb⟩
            · exact h2 x hx a ⟨h, hb⟩
          · rintro ⟨h1, h3⟩
            refine ⟨⟨?_, fun x hx a ⟨ha, hb⟩ => h1 x hx a ⟨(covers_merge hadj a).2 (Or.inl ha), hb⟩⟩,
              fun x hx a ⟨ha, hb⟩ => h1 x hx a ⟨(covers_merge hadj a).2 (Or.inr ha), hb⟩, h3⟩
            intro a ⟨ha, hb⟩
            exact Nat.lt_irrefl a (Nat.lt_of_lt_of_le ha.2 (Nat.le_trans (Nat.le_of_eq hadj) hb.1))
        have := ih (p.1, p.2 ++ c.2)
          (List.pairwise_cons.2 ⟨fun x hx => hsorted.1 x (List.mem_cons_of_mem _ hx),
            (List.pairwise_cons.1 hsorted.2).2⟩)
          (List.forall_mem_cons.2 ⟨List.append_ne_nil_of_left_ne_nil hp _,
            fun x hx => hne' x (List.mem_cons_of_mem _ hx)⟩)
        rcases this with ⟨he, hnd⟩ | ⟨r, hr, hd, hinv, hle, hm⟩
        · left; exact ⟨he, fun h => hnd (key.1 h)⟩
        · right
          exact ⟨r, hr, key.2 hd, hinv, hle, fun a => (hm a).trans (ofBlocks_merge hadj rest a)⟩
      · rw [if_neg hadj]
        have hgap : bend p < c.1 := by omega
        have hpd : ∀ x ∈ c :: rest, Disj p x := by
          intro x hx a ⟨ha, hb⟩
          have : c.1 ≤ x.1 := by
            rcases List.mem_cons.1 hx with rfl | hx'
            · exact Nat.le_refl _
            · exact (List.pairwise_cons.1 hsorted.2).1 x hx'
          exact Nat.lt_irrefl a (Nat.lt_of_lt_of_le ha.2 (Nat.le_trans (Nat.le_of_lt hgap)
            (Nat.le_trans this hb.1)))
        rcases ih c hsorted.2 hne' with ⟨he, hnd⟩ | ⟨r, hr, hd, hinv, hle, hm⟩
        · left
          refine ⟨by rw [he], fun h => hnd ?_⟩
          exact (List.pairwise_cons.1 h).2
        · right
          refine ⟨p :: r, by rw [hr], List.pairwise_cons.2 ⟨hpd, hd⟩, ⟨?_, ?_⟩, ?_, ?_⟩
          · exact List.pairwise_cons.2 ⟨fun y hy => Nat.lt_of_lt_of_le hgap (hle y hy), hinv.1⟩
          · exact List.forall_mem_cons.2 ⟨hp, hinv.2⟩
          · exact List.forall_mem_cons.2 ⟨Nat.le_refl _, fun y hy =>
              Nat.le_trans (hsorted.1 c List.mem_cons_self) (hle y hy)⟩
          · intro a
            rw [ofBlocks_cons, ofBlocks_cons, hm a]

theorem dedupBlocks_spec (bs : List Block) (hs : bs.Pairwise (fun x y => x.1 ≤ y.1))
    (hne : ∀ x ∈ bs, x.2 ≠ []) :
    (dedupBlocks bs = .error .overlap ∧ ¬ bs.Pairwise Disj) ∨
    (∃ r, dedupBlocks bs = .ok r ∧ bs.Pairwise Disj ∧ Inv r ∧ ∀ a, ofBlocks r a = ofBlocks bs a) := by
  rw [dedupBlocks_eq]
  match bs, hs, hne with
  | [], _, _ => exact Or.inr ⟨[], rfl, List.Pairwise.nil, ⟨List.Pairwise.nil, by simp⟩, fun _ => rfl⟩
  | p :: rest, hs, hne =>
    rcases dedupF_spec rest p hs hne with h | ⟨r, hr, hd, hinv, _, hm⟩
    · exact Or.inl h
    · exact Or.inr ⟨r, hr, hd, hinv, hm⟩

theorem sortByBegin_perm (l : List Block) : (sortByBegin l).Perm l :=
  InsertSort.sort_perm (p := fun a b : Block => a.1 < b.1) (ins := insertByBegin) (fun _ => rfl)
    (fun _ _ _ => rfl) l

theorem sortByBegin_sorted (l : List Block) :
    (sortByBegin l).Pairwise (fun a b : Block => a.1 ≤ b.1) :=
  InsertSort.sort_sorted (p := fun a b : Block => a.1 < b.1) (ins := insertByBegin) (fun _ => rfl)
    (fun _ _ _ => rfl) Nat.le_of_lt Nat.le_of_not_lt Nat.le_trans l

theorem nonempty_of_covers {b : Block} {a : Nat} (h : Covers b a) : b.2 ≠ [] :=
  List.ne_nil_of_length_pos (Nat.pos_of_lt_add_right (Nat.lt_of_le_of_lt h.1 h.2))

theorem not_overlap_iff (l : List Block) : ¬ Overlap l ↔ l.Pairwise Disj := by
  rw [List.pairwise_iff_getElem]
  constructor
  · intro hno i j hi hj hij a hab
    exact hno ⟨i, j, hij, l[i], l[j], List.getElem?_eq_getElem hi, List.getElem?_eq_getElem hj, a, hab⟩
  · rintro hp ⟨i, j, hij, bi, bj, hbi, hbj, a, hab⟩
    obtain ⟨hi, rfl⟩ := List.getElem?_eq_some_iff.1 hbi
    obtain ⟨hj, rfl⟩ := List.getElem?_eq_some_iff.1 hbj
    exact hp i j hi hj hij a hab

theorem pairwise_disj_filter (l : List Block) :
    (l.filter fun b => !b.2.isEmpty).Pairwise Disj ↔ l.Pairwise Disj := by
  induction l with
  | nil => simp
  | cons b l ih =>
    by_cases hb : b.2 = []
    · rw [List.filter_cons_of_neg (by simp [hb]), List.pairwise_cons, ih]
      constructor
      · intro h; exact ⟨fun x _ a hab => nonempty_of_covers hab.1 hb, h⟩
      · intro h; exact h.2
    · rw [List.filter_cons_of_pos (by simp [hb]), List.pairwise_cons, List.pairwise_cons, ih]
      constructor
      · rintro ⟨h1, h2⟩
        refine ⟨fun x hx a hab => ?_, h2⟩
        have hxn : x.2 ≠ [] := nonempty_of_covers hab.2
        exact h1 x (List.mem_filter.2 ⟨hx, by simp [hxn]⟩) a hab
      · rintro ⟨h1, h2⟩
        exact ⟨fun x hx => h1 x (List.mem_filter.1 hx).1, h2⟩

theorem newBytes_spec (l : List Block) :
    (newBytes l = .error .overlap ∧ Overlap l) ∨
    (∃ bs, newBytes l = .ok bs ∧ ¬ Overlap l ∧ Inv bs ∧ ∀ a, ofBlocks bs a = ofBlocks l a) := by
  have hperm := sortByBegin_perm (l.filter fun b => !b.2.isEmpty)
  have hmem : ∀ b, b ∈ sortByBegin (l.filter fun b => !b.2.isEmpty) ↔ b ∈ l ∧ b.2 ≠ [] := by
    intro b
    rw [hperm.mem_iff, List.mem_filter]
    simp
  have hdisj : (sortByBegin (l.filter fun b => !b.2.isEmpty)).Pairwise Disj ↔ ¬ Overlap l := by
    rw [not_overlap_iff]
    exact (List.Perm.pairwise_iff (R := Disj) (fun h => Disj.symm h) hperm).trans
      (pairwise_disj_filter l)
  have hmap : (sortByBegin (l.filter fun b => !b.2.isEmpty)).Pairwise Disj →
      ∀ a, ofBlocks (sortByBegin (l.filter fun b => !b.2.isEmpty)) a = ofBlocks l a := by
    intro hd a
    have hd' : l.Pairwise Disj := (not_overlap_iff l).1 (hdisj.1 hd)
    apply Option.ext
    intro v
    rw [ofBlocks_some_iff hd, ofBlocks_some_iff hd']
    constructor
    · rintro ⟨b, hb, hc, hv⟩; exact ⟨b, ((hmem b).1 hb).1, hc, hv⟩
    · rintro ⟨b, hb, hc, hv⟩; exact ⟨b, (hmem b).2 ⟨hb, nonempty_of_covers hc⟩, hc, hv⟩
  unfold newBytes
  rcases dedupBlocks_spec _ (sortByBegin_sorted _) (fun b hb => ((hmem b).1 hb).2) with
    ⟨he, hnd⟩ | ⟨r, hr, hd, hinv, hm⟩
  · exact Or.inl ⟨he, Classical.byContradiction fun hno => hnd (hdisj.2 hno)⟩
  · exact Or.inr ⟨r, hr, hdisj.1 hd, hinv, fun a => (hm a).trans (hmap hd a)⟩

theorem newBytes_ok {l bs : List Block} (h : newBytes l = .ok bs) :
    ¬ Overlap l ∧ Inv bs ∧ ∀ a, ofBlocks bs a = ofBlocks l a := by
  rcases newBytes_spec l with ⟨he, _⟩ | ⟨bs', hb, hrest⟩
  · rw [he] at h; cases h
  · rw [hb] at h; cases h; exact hrest

end Mltwist.Lemmas.BytesMem
