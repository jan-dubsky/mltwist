import Mltwist.Lemmas.SparseTree
/-
C14: `Store` (`sparse.go`).  What `Store` leaves of an overlapped interval `o`, and what `Load` reads of one, is `o`
restricted to a sub-range (`restrict`; the cuts of `cut.go` compute it), which is a `Piece` of `o`: the same
expression and, address by address, the same byte.  The second loop re-inserts the pieces (`LoopInv`); `store_shape`
says where each interval of the new tree comes from (`Origin`), `store_ok` reads off its byte map.  `Store` commutes with the abstraction only
up to `SpecEq` (a piece does not remember the width of the store that made it); at the end: `SpecEq` is transitive
and respected by `store` and `loadVal`.
-/
namespace Mltwist.Lemmas.Sparse
open Mltwist Mltwist.Sparse Mltwist.Spec.Sparse

/-- `y` keeps a sub-range of `o`: the same expression, and byte `x` of `y` is byte `x` of `o` -/
def Piece (y o : KV) : Prop :=
  y.val.ex = o.val.ex ∧
    ∀ x, Contains y x → Contains o x ∧ y.val.begin + (x - y.low) = o.val.begin + (x - o.low)

theorem Piece.refl (o : KV) : Piece o o := ⟨rfl, fun _ hx => ⟨hx, rfl⟩⟩

theorem Piece.cellEq {y o : KV} (h : Piece y o) (hy : y.Good) (ho : o.Good) {x : Nat}
    (hx : Contains y x) : CellEq (some (y.cell x)) (some (o.cell x)) :=
  ⟨h.1, (h.2 x hx).2, cell_lt hy hx, cell_lt ho (h.2 x hx).1⟩

/-- the part `[lo, hi)` of the stored interval `o`, for `o.low ≤ lo` and `hi ≤ o.high`: what `Store` leaves of an
overlapped interval on either side of the stored range, and what `Load` reads of an interval -/
def restrict (o : KV) (lo hi : Nat) : KV :=
  ⟨lo, hi, { ex := o.val.ex, begin := o.val.begin + (lo - o.low), end_ := o.val.begin + (hi - o.low) }⟩

theorem restrict_good {o : KV} (ho : o.Good) {lo hi : Nat} (h1 : o.low ≤ lo) (h2 : lo < hi) (h3 : hi ≤ o.high) :
    (restrict o lo hi).Good := by
  have ho := good_lin ho
  obtain ⟨i, rfl⟩ := Nat.exists_eq_add_of_le h1
  obtain ⟨j, rfl⟩ := Nat.exists_eq_add_of_le (Nat.le_trans h1 (Nat.le_of_lt h2))
  rw [restrict, Nat.add_sub_cancel_left, Nat.add_sub_cancel_left]
  unfold KV.Good
  simp only
  omega

theorem restrict_piece {o : KV} {lo hi : Nat} (h1 : o.low ≤ lo) (h3 : hi ≤ o.high) : Piece (restrict o lo hi) o := by
  refine ⟨rfl, fun x hx => ?_⟩
  simp only [restrict, Contains] at hx ⊢
  omega

theorem restrict_self {o : KV} (ho : o.Good) : restrict o o.low o.high = o := by
  have ho := good_lin ho
  obtain ⟨low, high, ex, b, e⟩ := o
  simp only [restrict, KV.mk.injEq, CutExpr.mk.injEq, true_and] at ho ⊢
  omega

theorem cutBegin_restrict {o : KV} (ho : o.Good) {lo : Nat} (h1 : o.low ≤ lo) (h2 : lo < o.high) :
    o.val.cutBegin (sub64 o.high lo % 256) = .ok (restrict o lo o.high).val := by
  have hg := good_lin ho
  rw [sub64_eq (Nat.le_of_lt h2) hg.2.1, cutBegin_ok _ (by omega) (good_wok ho) _ (by omega)]
  simp only [restrict, Except.ok.injEq, CutExpr.mk.injEq, true_and]
  omega

theorem cutEnd_restrict {o : KV} (ho : o.Good) {lo hi : Nat} (h1 : o.low ≤ lo) (h2 : lo < hi) (h3 : hi ≤ o.high) :
    (restrict o lo o.high).val.cutEnd (sub64 hi lo % 256) = .ok (restrict o lo hi).val := by
  have hr := restrict_good ho h1 (Nat.lt_of_lt_of_le h2 h3) (Nat.le_refl _)
  rw [sub64_eq (Nat.le_of_lt h2) (Nat.lt_of_le_of_lt h3 ho.2.1),
    cutEnd_ok _ (Nat.le_of_lt hr.2.2.1) (good_wok hr) _ (hr.2.2.2.2 ▸ Nat.sub_le_sub_right h3 lo)]
  simp only [restrict, Except.ok.injEq, CutExpr.mk.injEq, true_and]
  omega

theorem step_left (a : Nat) (o : KV) (ho : o.Good) (h2 : a < o.high) (t : Tree) :
    storeLeft a o t = .ok (if o.low < a then Sparse.insert false (restrict o o.low a) t else t) := by
  unfold storeLeft
  split
  · next h1 =>
    have := cutEnd_restrict ho (Nat.le_refl _) h1 (Nat.le_of_lt h2)
    rw [restrict_self ho] at this
    rw [this]
    simp only [bind, Except.bind, add]
    rw [if_neg (by omega)]
    rfl
  · rfl

theorem step_right (e : Nat) (o : KV) (ho : o.Good) (h1 : o.low < e) (t : Tree) :
    storeRight e o t = .ok (if e < o.high then Sparse.insert true (restrict o e o.high) t else t) := by
  unfold storeRight
  split
  · next h2 =>
    rw [cutBegin_restrict ho (Nat.le_of_lt h1) h2]
    simp only [bind, Except.bind, put]
    rw [if_neg (by omega)]
    rfl
  · rfl

/-- the state of the second loop of `Store`: the tree so far lies outside the stored range (`out`) and is disjoint
from the overlapped intervals still to be cut (`disj`), so that no insertion meets an equal `low` -/
structure LoopInv (a e : Nat) (os : List KV) (t : Tree) : Prop where
  ord : Ordered t
  good : ∀ y ∈ t, y.Good
  out : ∀ y ∈ t, y.high ≤ a ∨ e ≤ y.low
  disj : ∀ y ∈ t, ∀ o ∈ os, y.high ≤ o.low ∨ o.high ≤ y.low

/-- `storeLeft` and `storeRight` are both of this shape -/
theorem LoopInv.insertIf {a e : Nat} {os : List KV} {t : Tree} (h : LoopInv a e os t)
    (c : Prop) [Decidable c] (ow : Bool) (p : KV)
    (hp : c → p.Good ∧ (∀ o' ∈ os, p.high ≤ o'.low) ∧ (p.high ≤ a ∨ e ≤ p.low) ∧
      ∀ y ∈ t, p.high ≤ y.low ∨ y.high ≤ p.low) :
    LoopInv a e os (if c then Sparse.insert ow p t else t) ∧
      ∀ y, y ∈ (if c then Sparse.insert ow p t else t) ↔ (c ∧ y = p) ∨ y ∈ t := by
  split
  · rename_i hc
    obtain ⟨hg, hos, hout, hnew⟩ := hp hc
    have hm := insert_spec ow p t h.ord (fun y hy => (h.good y hy).1) hg.1 hnew
    simp only [hc, true_and]
    exact ⟨⟨hm.1, fun y hy => ((hm.2 y).1 hy).elim (· ▸ hg) (h.good y),
      fun y hy => ((hm.2 y).1 hy).elim (· ▸ hout) (h.out y),
      fun y hy o' ho' => ((hm.2 y).1 hy).elim (· ▸ .inl (hos o' ho')) (h.disj y · o' ho')⟩, hm.2⟩
  · rename_i hc
    exact ⟨h, fun y => by simp only [hc, false_and, false_or]⟩

theorem LoopInv.tail {a e : Nat} {o : KV} {os : List KV} {t : Tree} (h : LoopInv a e (o :: os) t) :
    LoopInv a e os t :=
  ⟨h.ord, h.good, h.out, fun y hy o' ho' => h.disj y hy o' (List.mem_cons_of_mem _ ho')⟩

/-- the pieces `Store` keeps of the overlapped intervals `os` -/
def IsPiece (a e : Nat) (os : List KV) (y : KV) : Prop :=
  ∃ o ∈ os, (o.low < a ∧ y = restrict o o.low a) ∨ (e < o.high ∧ y = restrict o e o.high)

theorem isPiece_cons {a e : Nat} {o : KV} {os : List KV} {y : KV} :
    IsPiece a e (o :: os) y ↔
      ((o.low < a ∧ y = restrict o o.low a) ∨ (e < o.high ∧ y = restrict o e o.high)) ∨ IsPiece a e os y := by
  simp only [IsPiece, List.mem_cons, exists_eq_or_imp]

theorem storeLoop_ok (a e : Nat) (hae : a < e) :
    ∀ (os : List KV) (t : Tree), Ordered os → (∀ o ∈ os, o.Good) →
      (∀ o ∈ os, o.low < e ∧ a < o.high) → LoopInv a e os t →
      ∃ t', storeLoop a e os t = .ok t' ∧ LoopInv a e [] t' ∧
        ∀ y, y ∈ t' ↔ y ∈ t ∨ IsPiece a e os y
  | [], t, _, _, _, hinv => ⟨t, rfl, hinv, fun y => by simp [IsPiece]⟩
  | o :: os, t, hord, hgood, hov, hinv => by
    rw [Ordered, List.pairwise_cons] at hord
    have hgo := hgood o List.mem_cons_self
    have hovo := hov o List.mem_cons_self
    have ih := fun t2 => storeLoop_ok a e hae os t2 hord.2
      (fun o' h => hgood o' (List.mem_cons_of_mem _ h)) (fun o' h => hov o' (List.mem_cons_of_mem _ h))
    unfold storeLoop
    by_cases hfull : a ≤ o.low ∧ o.high ≤ e
    · rw [if_pos hfull]
      obtain ⟨t', h1, h2, h3⟩ := ih t hinv.tail
      refine ⟨t', h1, h2, fun y => ?_⟩
      rw [h3 y, isPiece_cons]
      simp only [Nat.not_lt.2 hfull.1, Nat.not_lt.2 hfull.2, false_and, false_or]
    · rw [if_neg hfull, step_left a o hgo hovo.2 t]
      simp only [bind, Except.bind]
      rw [step_right e o hgo hovo.1]
      have hd_t : ∀ y ∈ t, y.high ≤ o.low ∨ o.high ≤ y.low :=
        fun y hy => hinv.disj y hy o List.mem_cons_self
      obtain ⟨i1, m1⟩ := hinv.tail.insertIf (o.low < a) false (restrict o o.low a) fun hl =>
        ⟨restrict_good hgo (Nat.le_refl _) hl (Nat.le_of_lt hovo.2),
          fun o' ho' => Nat.le_trans (Nat.le_of_lt hovo.2) (hord.1 o' ho'), .inl (Nat.le_refl a),
          fun y hy => (hd_t y hy).symm.imp (Nat.le_trans (Nat.le_of_lt hovo.2)) id⟩
      obtain ⟨i2, m2⟩ := i1.insertIf (e < o.high) true (restrict o e o.high) fun hr =>
        ⟨restrict_good hgo (Nat.le_of_lt hovo.1) hr (Nat.le_refl _), hord.1, .inr (Nat.le_refl e), fun y hy => by
          rcases (m1 y).1 hy with ⟨_, rfl⟩ | hy
          · exact .inr (Nat.le_of_lt hae)
          · exact (hd_t y hy).symm.imp id fun h => Nat.le_trans h (Nat.le_of_lt hovo.1)⟩
      obtain ⟨t', h3, h4, h5⟩ := ih _ i2
      refine ⟨t', h3, h4, fun y => ?_⟩
      rw [h5 y, m2 y, m1 y, isPiece_cons]
      simp only [or_comm, or_left_comm]

/-- the interval created by `Store` -/
def newKV (a : Nat) (ex : Expr) (w : Nat) : KV := ⟨a, a + w, { ex := ex, begin := 0, end_ := w }⟩

/-- where an interval `y` of the tree after a `Store` to `[a, e)` comes from -/
inductive Origin (t : Tree) (a e : Nat) (new y : KV) : Prop
  | new (h : y = new)
  | untouched (hy : y ∈ t) (h : y.high ≤ a ∨ e ≤ y.low)
  | left {o : KV} (ho : o ∈ t) (hl : o.low < a) (hh : a < o.high) (h : y = restrict o o.low a)
  | right {o : KV} (ho : o ∈ t) (hl : o.low < e) (hh : e < o.high) (h : y = restrict o e o.high)

theorem store_shape (t : Tree) (hinv : Inv t) (a : Nat) (ex : Expr) (w : Nat) (hd : InDom a w) :
    ∃ t', store t a ex w = .ok t' ∧ Inv t' ∧ ∀ y, y ∈ t' ↔ Origin t a (a + w) (newKV a ex w) y := by
  obtain ⟨hw1, hw2, hlt⟩ := hd
  obtain ⟨hord, hgood⟩ := hinv
  have hmem0 : ∀ y, y ∈ (ovl t a (a + w)).foldl (fun t o => remove t o.low) t ↔
      y ∈ t ∧ (y.high ≤ a ∨ a + w ≤ y.low) := by
    intro y
    rw [mem_foldl_remove]
    constructor
    · rintro ⟨hy, h⟩
      refine ⟨hy, ?_⟩
      by_cases hc : y.low < a + w ∧ a < y.high
      · exact absurd rfl (h y (mem_ovl.2 ⟨hy, hc⟩))
      · omega
    · rintro ⟨hy, h⟩
      refine ⟨hy, fun o ho hlow => ?_⟩
      have ho' := mem_ovl.1 ho
      have hgy := (hgood y hy).1
      have hgo := (hgood o ho'.1).1
      rcases ordered_mem hord hy ho'.1 with rfl | h' | h' <;> omega
  have hinv0 : LoopInv a (a + w) (ovl t a (a + w))
      ((ovl t a (a + w)).foldl (fun t o => remove t o.low) t) := by
    refine ⟨foldl_remove_ordered _ _ hord, fun y hy => hgood y ((hmem0 y).1 hy).1,
      fun y hy => ((hmem0 y).1 hy).2, fun y hy o ho => ?_⟩
    have hy' := (hmem0 y).1 hy
    have ho' := mem_ovl.1 ho
    rcases ordered_mem hord hy'.1 ho'.1 with rfl | h' | h'
    · omega
    · exact .inl h'
    · exact .inr h'
  obtain ⟨t1, h1, h2, h3⟩ := storeLoop_ok a (a + w) (by omega) (ovl t a (a + w)) _
    (ovl_ordered hord _ _) (fun o ho => hgood o (mem_ovl.1 ho).1) (fun o ho => (mem_ovl.1 ho).2) hinv0
  have hnew : (newKV a ex w).Good := by
    unfold KV.Good newKV; simp only; omega
  have hm := insert_spec false (newKV a ex w) t1 h2.ord (fun y hy => (h2.good y hy).1) hnew.1
    (fun y hy => (h2.out y hy).symm)
  refine ⟨Sparse.insert false (newKV a ex w) t1, ?_, ⟨hm.1, ?_⟩, ?_⟩
  · unfold store
    rw [endAddr_eq hlt]
    dsimp only
    rw [overlaps_eq t (by omega)]
    simp only [bind, Except.bind]
    rw [h1]
    simp only [add]
    rw [if_neg (by omega)]
    rfl
  · intro y hy
    rcases (hm.2 y).1 hy with rfl | hy
    · exact hnew
    · exact h2.good y hy
  · intro y
    rw [hm.2 y, h3 y, hmem0 y]
    constructor
    · rintro (h | h | ⟨o, ho, h | h⟩)
      · exact .new h
      · exact .untouched h.1 h.2
      · exact .left (mem_ovl.1 ho).1 h.1 (mem_ovl.1 ho).2.2 h.2
      · exact .right (mem_ovl.1 ho).1 (mem_ovl.1 ho).2.1 h.1 h.2
    · rintro (h | ⟨hy, h⟩ | ⟨ho, hl, hh, h⟩ | ⟨ho, hl, hh, h⟩)
      · exact .inl h
      · exact .inr (.inl ⟨hy, h⟩)
      · exact .inr (.inr ⟨_, mem_ovl.2 ⟨ho, by omega, hh⟩, .inl ⟨hl, h⟩⟩)
      · exact .inr (.inr ⟨_, mem_ovl.2 ⟨ho, hl, by omega⟩, .inr ⟨hh, h⟩⟩)

theorem store_ok (t : Tree) (hinv : Inv t) (a : Nat) (ex : Expr) (w : Nat) (hd : InDom a w) :
    ∃ t', store t a ex w = .ok t' ∧ Inv t' ∧ SpecEq (abs t') ((abs t).store a ex w) := by
  obtain ⟨t', h1, h2, h3⟩ := store_shape t hinv a ex w hd
  refine ⟨t', h1, h2, fun x => ?_⟩
  have key : ∀ {y kv : KV}, y ∈ t' → Piece y kv → kv.Good → Contains y x →
      CellEq (abs t' x) (some (kv.cell x)) := fun hy hp hg hc => by
    rw [abs_eq_some_of_mem h2.1 hy hc]
    exact hp.cellEq (h2.2 _ hy) hg hc
  unfold SpecMem.store
  by_cases hx : a ≤ x ∧ x < a + w
  · rw [if_pos hx, abs_eq_some_of_mem h2.1 ((h3 _).2 (.new rfl)) (show Contains (newKV a ex w) x from hx)]
    exact ⟨rfl, Nat.zero_add _, by simp only [KV.cell, newKV]; omega, by simp only; omega⟩
  · rw [if_neg hx]
    rcases abs_cases t x with ⟨hn, hall⟩ | ⟨kv, hkv, hc, hs⟩
    · rw [hn, (abs_eq_none_iff t' x).2 fun y hy hcy => ?_]
      · trivial
      · cases (h3 y).1 hy with
        | new h => exact hx (h ▸ hcy :)
        | untouched hy' _ => exact hall y hy' hcy
        | left ho _ hh h =>
          exact hall _ ho (((h ▸ restrict_piece (Nat.le_refl _) (Nat.le_of_lt hh) : Piece y _).2 x hcy).1)
        | right ho hl _ h =>
          exact hall _ ho (((h ▸ restrict_piece (Nat.le_of_lt hl) (Nat.le_refl _) : Piece y _).2 x hcy).1)
    · rw [hs]
      have hg := hinv.2 kv hkv
      by_cases hov : kv.low < a + w ∧ a < kv.high
      · by_cases hxa : x < a
        · exact key ((h3 _).2 (.left hkv (by omega) hov.2 rfl)) (restrict_piece (Nat.le_refl _) (Nat.le_of_lt hov.2)) hg
            (show kv.low ≤ x ∧ x < a from ⟨hc.1, hxa⟩)
        · have hr : a + w < kv.high := by omega
          exact key ((h3 _).2 (.right hkv hov.1 hr rfl)) (restrict_piece (Nat.le_of_lt hov.1) (Nat.le_refl _)) hg
            (show a + w ≤ x ∧ x < kv.high from ⟨by omega, hc.2⟩)
      · exact key ((h3 _).2 (.untouched hkv (by omega))) (Piece.refl kv) hg hc

theorem store_ex {P : Expr → Prop} {t t' : Tree} (hinv : Inv t) {a w : Nat} (hd : InDom a w) {ex : Expr}
    (h : store t a ex w = .ok t') (hex : P ex) (ht : ∀ o ∈ t, P o.val.ex) : ∀ y ∈ t', P y.val.ex := by
  obtain ⟨_, h1, _, h3⟩ := store_shape t hinv a ex w hd
  cases h1.symm.trans h
  intro y hy
  cases (h3 y).1 hy with
  | new h => exact h ▸ hex
  | untouched hy _ => exact ht y hy
  | left ho _ _ h | right ho _ _ h => exact h ▸ (ht _ ho :)

theorem cellEq_none_iff {p q : Option Cell} (h : CellEq p q) : p = none ↔ q = none := by
  cases p <;> cases q <;> simp_all [CellEq]

theorem cellEq_byteAt {p q : Option Cell} (h : CellEq p q) (ρ : Env) : byteAt ρ p = byteAt ρ q := by
  cases p with
  | none => cases q with
    | none => rfl
    | some d => exact absurd h (by simp [CellEq])
  | some c => cases q with
    | none => exact absurd h (by simp [CellEq])
    | some d =>
      obtain ⟨h1, h2, h3, h4⟩ := h
      simp only [byteAt]
      rw [byteVal_eq ρ c h3, byteVal_eq ρ d h4, h1, h2]

theorem cellEq_trans {p q r : Option Cell} (h1 : CellEq p q) (h2 : CellEq q r) : CellEq p r := by
  cases p <;> cases q <;> cases r <;> simp_all [CellEq]

theorem SpecEq.trans {s1 s2 s3 : SpecMem} (h1 : SpecEq s1 s2) (h2 : SpecEq s2 s3) : SpecEq s1 s3 :=
  fun x => cellEq_trans (h1 x) (h2 x)

theorem SpecEq.store {s s' : SpecMem} (h : SpecEq s s') (a : Nat) (ex : Expr) (w : Nat) :
    SpecEq (s.store a ex w) (s'.store a ex w) := by
  intro x
  unfold SpecMem.store
  by_cases hx : a ≤ x ∧ x < a + w
  · rw [if_pos hx, if_pos hx]
    exact ⟨rfl, rfl, by simp only; omega, by simp only; omega⟩
  · rw [if_neg hx, if_neg hx]
    exact h x

theorem SpecEq.loadVal {s s' : SpecMem} (h : SpecEq s s') (ρ : Env) (a w : Nat) :
    loadVal ρ s a w = loadVal ρ s' a w := by
  unfold Spec.Sparse.loadVal
  exact sumBytes_congr w (fun i _ => cellEq_byteAt (h (a + i)) ρ)

end Mltwist.Lemmas.Sparse
