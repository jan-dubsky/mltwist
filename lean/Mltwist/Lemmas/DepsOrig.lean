import Mltwist.Lemmas.DepsInv
import Mltwist.Lemmas.DepsPaths
import Mltwist.Lemmas.DepsExec
/-
What the edges mean in every reachable state (C05, C06).  `Orig b0 b` (`DepsInv.lean`): `b` is the freshly
analysed block `b0` after some history (same edges, same instructions up to order and addresses); conflicts only depend
on the static part of instructions.  Hence, in the current order: an edge joins two conflicting
instructions, and two conflicting instructions are joined by a path in the direction of the
current order.  C06: a forward move over instructions that do not conflict with the moved one is
accepted.  C05 (d): an accepted move passes only instructions that do not conflict with the moved
one.

Behaviour (C05): two states of a block that both respect its edges behave alike (`Orig.runSeq_eq`; `runSeq` of
the current order at the current addresses): two instructions that conflict are joined by a
dependency path, and paths go forward in both orders, so the two orders agree on every conflicting
pair (`runFrom_reorder`, `Lemmas/DepsExec.lean`; `sl`, `sOf`, `layout_ids` bring `runSeq b.toS` into the form
`runFrom (layout a ((idsOf b.seq).map g))` of that theorem).
-/
namespace Mltwist.Lemmas.Deps
open Mltwist Mltwist.Deps Mltwist.Deps.Spec

theorem toS_static {x y : Ins} (n : Nat) (h : x.static = y.static) :
    x.toS n = { y.toS n with addr := x.currAddr } := by
  rw [static_eq h]
  rfl

theorem conflict_static {x y x' y' : Ins} (n : Nat) (hx : x.static = x'.static) (hy : y.static = y'.static) :
    Conflict (x.toS n) (y.toS n) ↔ Conflict (x'.toS n) (y'.toS n) := by
  rw [toS_static n hx, toS_static n hy]
  -- `Conflict` does not look at addresses
  exact Iff.rfl

namespace Orig

theorem edge_conflict {b0 b : Block} (ho : Orig b0 b) (i j : Nat)
    (hi : i < b.seq.length) (hj : j < b.seq.length) (he : (b.seq[i].id, b.seq[j].id) ∈ b.edges) :
    Conflict (b.seq[i].toS b.seq.length) (b.seq[j].toS b.seq.length) := by
  obtain ⟨h1, hs1⟩ := ho.static _ (List.getElem_mem hi)
  obtain ⟨h2, hs2⟩ := ho.static _ (List.getElem_mem hj)
  rw [conflict_static _ hs1 hs2, ho.len]
  exact Lemmas.Deps.edge_conflict b0.seq ho.ids b.edges ho.edges _ he h1 h2

/-- the converse of `move_passes_fwd` below: an edge to one of the passed instructions would be a conflict
with it -/
theorem move_fwd_accepted {b0 b : Block} (ho : Orig b0 b) (hb : BInv b) {i j : Nat} (hij : i < j)
    (hi : i < b.seq.length) (hj : j < b.seq.length)
    (hind : ∀ k (hk : k < b.seq.length), i < k → k ≤ j →
      ¬ Conflict (b.seq[i].toS b.seq.length) (b.seq[k].toS b.seq.length)) :
    ∃ b', b.move (i : Int) (j : Int) = .ok b' := by
  have hc : b.checkMove (i : Int) (j : Int) = .ok () := by
    refine (hb.checkMove_iff_edges i j).2 ⟨hi, hj, fun e he h1 => ?_, fun e he h2 => ?_⟩
    · apply Nat.lt_of_not_le
      intro hle
      have hl := List.idxOf_lt_length_of_mem (hb.fwd.mem_snd he)
      have hk : (idsOf b.seq).idxOf e.2 < b.seq.length := idsOf_length b.seq ▸ hl
      have hlt := hb.fwd.lt he
      rw [h1, hb.idxOf_id i hi] at hlt
      refine hind _ hk hlt hle (ho.edge_conflict i _ hi hk ?_)
      rw [← h1, ← idsOf_getElem b.seq _ hk, List.getElem_idxOf hl]
      exact he
    · have := hb.fwd.lt he
      rw [h2, hb.idxOf_id i hi] at this
      omega
  exact hb.move_accepted hc

end Orig

theorem path_fwd {L : List Nat} {E : Edges} (hF : Fwd L E) {a b : Nat} (h : Path E a b) :
    L.idxOf a < L.idxOf b := by
  induction h with
  | edge h => exact hF.lt h
  | cons h1 _ ih => exact Nat.lt_trans (hF.lt h1) ih

namespace Orig
variable {b0 b : Block} (ho : Orig b0 b) (hb : BInv b)
include ho hb

theorem conflict_path {i j : Nat} (hij : i < j) (hi : i < b.seq.length) (hj : j < b.seq.length)
    (hc : Conflict (b.seq[i].toS b.seq.length) (b.seq[j].toS b.seq.length)) :
    Path b.edges b.seq[i].id b.seq[j].id := by
  obtain ⟨h1, hs1⟩ := ho.static _ (List.getElem_mem hi)
  obtain ⟨h2, hs2⟩ := ho.static _ (List.getElem_mem hj)
  have hne : b.seq[i].id ≠ b.seq[j].id := by
    intro h
    have e1 := hb.idxOf_id i hi
    rw [h, hb.idxOf_id j hj] at e1
    exact Nat.ne_of_lt hij e1.symm
  rw [conflict_static _ hs1 hs2, ho.len, conflict_toS_iff] at hc
  rcases Nat.lt_or_gt_of_ne hne with hlt | hgt
  · exact Lemmas.Deps.conflict_path ho.ids ho.edges hlt (List.getElem?_eq_getElem h1)
      (List.getElem?_eq_getElem h2) hc
  · -- the original order is the other way round: the path would go backward in the current order
    exfalso
    rcases mconflict_symm hc with hc' | ht
    · have hp := Lemmas.Deps.conflict_path ho.ids ho.edges hgt (List.getElem?_eq_getElem h2)
        (List.getElem?_eq_getElem h1) hc'
      have := path_fwd hb.fwd hp
      rw [hb.idxOf_id i hi, hb.idxOf_id j hj] at this
      exact Nat.lt_asymm hij this
    · have := ((term_toS _ _).1 ht).1
      have := ho.ids _ h2
      omega

theorem move_passes_fwd {f t k : Nat} (hf : f < b.seq.length) (hk : k < b.seq.length) (hfk : f < k)
    (hkt : k ≤ t) {b' : Block} (hm : b.move (f : Int) (t : Int) = .ok b') :
    ¬ Conflict (b.seq[f].toS b.seq.length) (b.seq[k].toS b.seq.length) := by
  intro hc
  -- the first edge of the path from `f` to `k` ends behind `t`, the path goes forward
  obtain ⟨w, hw, hw'⟩ := path_first (ho.conflict_path hb hfk hf hk hc)
  have h1 : t < (idsOf b.seq).idxOf w := ((hb.checkMove_iff_edges f t).1 (move_ok_check hm)).before _ hw rfl
  have h2 : (idsOf b.seq).idxOf w ≤ k := by
    rcases hw' with rfl | hw'
    · exact Nat.le_of_eq (hb.idxOf_id k hk)
    · have := path_fwd hb.fwd hw'
      rw [hb.idxOf_id k hk] at this
      exact Nat.le_of_lt this
  omega

theorem move_passes_back {f t k : Nat} (hf : f < b.seq.length) (hk : k < b.seq.length) (htk : t ≤ k)
    (hkf : k < f) {b' : Block} (hm : b.move (f : Int) (t : Int) = .ok b') :
    ¬ Conflict (b.seq[k].toS b.seq.length) (b.seq[f].toS b.seq.length) := by
  intro hc
  obtain ⟨w, hw, hw'⟩ := path_last (ho.conflict_path hb hkf hk hf hc)
  have h1 : (idsOf b.seq).idxOf w < t := ((hb.checkMove_iff_edges f t).1 (move_ok_check hm)).behind _ hw rfl
  have h2 : k ≤ (idsOf b.seq).idxOf w := by
    rcases hw' with rfl | hw'
    · exact Nat.le_of_eq (hb.idxOf_id k hk).symm
    · have := path_fwd hb.fwd hw'
      rw [hb.idxOf_id k hk] at this
      exact Nat.le_of_lt this
  omega

end Orig

/-- the specification's instructions of a list of model instructions -/
def sl (n : Nat) (l : List Ins) : List SIns := l.map (Ins.toS n)

theorem layout_of_tiles (n a : Nat) (l : List Ins) (h : TilesI a l) : sl n l = layout a (sl n l) := by
  induction l generalizing a with
  | nil => rfl
  | cons x xs ih =>
    simp only [sl, List.map_cons, layout]
    congr 1
    · simp [Ins.toS, h.1]
    · exact ih (a + x.len) h.2.2

theorem bytes_sl (n : Nat) (l : List Ins) : bytes (sl n l) = bytesI l := by
  simp [bytes, sl, bytesI, Ins.toS, Function.comp_def]

theorem sl_append (n : Nat) (l1 l2 : List Ins) : sl n (l1 ++ l2) = sl n l1 ++ sl n l2 := by
  simp [sl]

theorem runSeq_toS (b : Block) (hb : BInv b) (ρ : Env) :
    runSeq b.toS ρ = runFrom (layout b.begin (sl b.seq.length b.seq)) ρ b.begin := by
  rw [← layout_of_tiles b.seq.length b.begin b.seq hb.tiles]
  obtain ⟨x, xs, hs⟩ := List.exists_cons_of_ne_nil hb.ne
  have ha : x.currAddr = b.begin := by have := hb.tiles; rw [hs] at this; exact this.1
  show runSeq (sl b.seq.length b.seq) ρ = _
  rw [hs]
  exact congrArg (runFrom _ ρ) ha

/-- the specification's instruction behind an id of the block `b0` (its address does not matter) -/
def sOf (b0 : Block) (n : Nat) (i : Nat) : SIns := ((b0.seq[i]?).getD default).toS n

namespace Orig
variable {b0 b b' : Block}

theorem toS_eq (ho : Orig b0 b) (n : Nat) {x : Ins} (hx : x ∈ b.seq) :
    x.toS n = { sOf b0 n x.id with addr := x.currAddr } := by
  obtain ⟨h, hs⟩ := ho.static x hx
  rw [sOf, List.getElem?_eq_getElem h]
  exact toS_static n hs

theorem layout_ids (ho : Orig b0 b) (n a : Nat) :
    layout a (sl n b.seq) = layout a ((idsOf b.seq).map (sOf b0 n)) := by
  have : ∀ l : List Ins, (∀ x ∈ l, x ∈ b.seq) →
      layout a (sl n l) = layout a ((idsOf l).map (sOf b0 n)) := by
    intro l
    induction l generalizing a with
    | nil => intro _; rfl
    | cons x l ih =>
      intro hl
      simp only [sl, idsOf, List.map_cons, layout]
      rw [ho.toS_eq n (hl x List.mem_cons_self)]
      exact congrArg _ (ih _ fun y hy => hl y (List.mem_cons_of_mem _ hy))
  exact this _ fun _ h => h

/-- C05 in every state: two rearrangements of the block `b0` that both keep the order of its edges
behave alike.  Two instructions that stand in different order in `b` and `b'` do not conflict: a
conflict is joined by a dependency path, and paths go forward in both. -/
theorem runSeq_eq (ho : Orig b0 b) (hs : SameBlock b b') (hb : BInv b) (hb' : BInv b') (ρ : Env) :
    runSeq b'.toS ρ = runSeq b.toS ρ := by
  have ho' := ho.same hs
  have hlen : b'.seq.length = b.seq.length := ho'.len.trans ho.len.symm
  rw [runSeq_toS b' hb', runSeq_toS b hb, hs.begin, hlen, ho'.layout_ids, ho.layout_ids]
  have hby : bytes ((idsOf b.seq).map (sOf b0 b.seq.length)) = bytesI b.seq := by
    rw [← bytes_sl b.seq.length, idsOf, List.map_map]
    unfold bytes sl
    rw [List.map_map, List.map_map]
    exact congrArg _ (List.map_congr_left fun x hx => by
      show _ = (x.toS b.seq.length).len
      rw [ho.toS_eq _ hx]; rfl)
  have hperm : (idsOf b'.seq).Perm (idsOf b.seq) := by
    have := hs.static.map Prod.fst
    rwa [List.map_map, List.map_map] at this
  refine runFrom_reorder _ _ _ hperm ?_ _ (by rw [hby]; exact hb.top) ?_ ρ _
  · intro i j hij hji hc
    have hi : i ∈ idsOf b.seq := hij.subset (by simp)
    have hj : j ∈ idsOf b.seq := hij.subset (by simp)
    have hpi := List.idxOf_lt_length_of_mem hi
    have hpj := List.idxOf_lt_length_of_mem hj
    rw [idsOf_length] at hpi hpj
    have ei : b.seq[(idsOf b.seq).idxOf i].id = i := by rw [← idsOf_getElem, List.getElem_idxOf]
    have ej : b.seq[(idsOf b.seq).idxOf j].id = j := by rw [← idsOf_getElem, List.getElem_idxOf]
    have hp := ho.conflict_path hb (idxOf_lt_of_sublist hij hb.nodup) hpi hpj (by
      rw [ho.toS_eq _ (List.getElem_mem hpi), ho.toS_eq _ (List.getElem_mem hpj), ei, ej]
      exact hc)
    rw [ei, ej, ← hs.edges] at hp
    exact Nat.lt_asymm (path_fwd hb'.fwd hp) (idxOf_lt_of_sublist hji hb'.nodup)
  · intro i hi
    obtain ⟨x, hx, rfl⟩ := List.mem_map.1 hi
    have := tilesI_pos _ _ hb.tiles x hx
    rwa [show x.len = (x.toS b.seq.length).len from rfl, ho.toS_eq _ hx] at this

end Orig

end Mltwist.Lemmas.Deps
