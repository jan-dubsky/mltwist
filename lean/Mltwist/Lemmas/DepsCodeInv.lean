import Mltwist.Lemmas.DepsInv
/-
The invariant of a whole code of the model (`CInv`): every block object satisfies the block
invariant, pointers are positions in `blocksByAddr` (`store`), `blocks` is a permutation of all
pointers, block indices are positions in `blocks`, and the block objects are sorted by address and
pairwise disjoint.
-/
namespace Mltwist.Lemmas.Deps
open Mltwist Mltwist.Deps Mltwist.Deps.Spec

/-- everything of a block except its index -/
def frozen (b : Block) : Nat × Nat × Nat × List Ins × Edges := (b.ptr, b.begin, b.end_, b.seq, b.edges)

structure CInv (c : Code) : Prop where
  blocks : ∀ b ∈ c.store, BInv b
  ptr : ∀ p (h : p < c.store.length), c.store[p].ptr = p
  perm : c.blocks.Perm (List.range c.store.length)
  idx : ∀ k (h : k < c.blocks.length) (hp : c.blocks[k] < c.store.length), c.store[c.blocks[k]].idx = k
  sorted : c.store.Pairwise (fun a b => a.begin + bytesI a.seq ≤ b.begin)

end Mltwist.Lemmas.Deps
