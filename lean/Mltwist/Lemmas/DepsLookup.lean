import Mltwist.Lemmas.DepsCode
import Mltwist.Lemmas.BasicBlockBasic
/-
What the invariants give an observer of the state (C07).  The binary-search lookups of `internal/deps`
(`Block.Address`, `Code.Address`) compute `find?`: under `BInv` the instruction whose current address is `a`,
under `CInv` the block whose address range contains `a` (`address_exact` on both levels); states whose block
objects differ in their indices only answer alike (`CInv.address_frozen`).  The invariants of the
specification (`VBlock.Inv`, `VCode.Inv` on the views) follow from the invariants of the model (`view_inv`).
-/
namespace Mltwist.Lemmas.Deps
open Mltwist Mltwist.Deps Mltwist.Deps.Spec

/-- the probe of the binary search of `Block.Address` -/
def blockAddrPred (b : Block) (a : Nat) : Nat → Except BasicBlock.Fail Bool := fun i =>
  match b.seq[i]? with
  | none => .error .panic
  | some x => .ok (decide (x.currAddr ≥ a))

theorem blockAddress_unfold (b : Block) (a : Nat) :
    b.address a =
      match BasicBlock.search b.seq.length (blockAddrPred b a) with
      | .error _ => none
      | .ok i =>
        if i = b.seq.length then some none
        else
          match b.seq[i]? with
          | none => none
          | some ins => if ins.currAddr ≠ a then some none else some (some ins) := rfl

theorem BInv.address_exact {b : Block} (hb : BInv b) (a : Nat) :
    b.address a = some (b.seq.find? (fun i => i.currAddr == a)) := by
  obtain ⟨k, hk, hkn, _, hfind⟩ := Lemmas.BasicBlock.search_find? b.seq (blockAddrPred b a)
    (fun x => decide (x.currAddr ≥ a)) (fun i => i.currAddr == a)
    (fun i hi => by simp only [blockAddrPred, List.getElem?_eq_getElem hi])
    ((tilesI_sorted b.begin b.seq hb.tiles).imp_of_mem fun {x y} hx _ hxy hi => by
      -- later instructions stand at strictly larger addresses
      have := tilesI_pos _ _ hb.tiles x hx
      simp only [decide_eq_true_eq, beq_eq_false_iff_ne, ne_eq] at hi ⊢
      omega)
    (fun x _ hx => by
      simp only [beq_iff_eq] at hx
      simp only [hx, ge_iff_le, Nat.le_refl, decide_true])
  rw [blockAddress_unfold, hk, hfind]
  dsimp only
  by_cases hkl : k < b.seq.length
  · rw [if_neg (by omega), List.getElem?_eq_getElem hkl, Option.filter_some]
    by_cases heq : b.seq[k].currAddr = a
    · simp [heq]
    · simp [heq]
  · rw [if_pos (by omega), List.getElem?_eq_none (by omega), Option.filter_none]

theorem BInv.bytes_pos {b : Block} (hb : BInv b) : 0 < bytesI b.seq := by
  obtain ⟨x, hx⟩ := List.exists_mem_of_ne_nil _ hb.ne
  have := tilesI_mem _ _ hb.tiles x hx
  omega

/-- address of the last byte of a block, as `Code.Address` computes it -/
theorem BInv.last_byte {b : Block} (hb : BInv b) :
    (b.end_ + (M - 1)) % M = b.begin + bytesI b.seq - 1 := by
  have hs : 0 < b.begin + bytesI b.seq := Nat.lt_of_lt_of_le hb.bytes_pos (Nat.le_add_left _ _)
  have htop := hb.top
  rw [hb.end_]
  generalize b.begin + bytesI b.seq = s at hs htop ⊢
  generalize M = m at htop ⊢
  rw [Nat.mod_add_mod, show s + (m - 1) = s - 1 + m by omega, Nat.add_mod_right,
    Nat.mod_eq_of_lt (by omega)]

/-- the predicate of the binary search of `Code.Address` -/
def codeAddrPred (c : Code) (a : Nat) : Nat → Except BasicBlock.Fail Bool := fun i =>
  match c.store[i]? with
  | none => .error .panic
  | some b => .ok (decide ((b.end_ + (M - 1)) % M ≥ a))

theorem codeAddress_unfold (c : Code) (a : Nat) :
    c.address a =
      match BasicBlock.search c.store.length (codeAddrPred c a) with
      | .error _ => none
      | .ok i =>
        if i = c.store.length then some none
        else
          match c.store[i]? with
          | none => none
          | some b => if b.begin > a then some none else some (some b) := rfl

/-- the block whose (original) address range contains `a` -/
def inBlock (a : Nat) (b : Block) : Bool := decide (b.begin ≤ a ∧ a < b.begin + bytesI b.seq)

theorem CInv.address_exact {c : Code} (hc : CInv c) (a : Nat) :
    c.address a = some (c.store.find? (inBlock a)) := by
  have hbi : ∀ i (hi : i < c.store.length), BInv c.store[i] := fun i hi =>
    hc.blocks _ (List.getElem_mem hi)
  -- under the block invariant the probe of the search says `a < begin + bytes`
  have hp : ∀ b, BInv b →
      (decide ((b.end_ + (M - 1)) % M ≥ a) = true ↔ a < b.begin + bytesI b.seq) := fun b hb => by
    have := hb.bytes_pos
    rw [decide_eq_true_eq, hb.last_byte]
    omega
  obtain ⟨k, hk, hkn, hpk, hfind⟩ := Lemmas.BasicBlock.search_find? c.store (codeAddrPred c a)
    (fun b => decide ((b.end_ + (M - 1)) % M ≥ a)) (inBlock a)
    (fun i hi => by simp only [codeAddrPred, List.getElem?_eq_getElem hi])
    (List.pairwise_iff_getElem.2 fun i j _ hj hij hi => by
      -- the blocks are sorted and disjoint: a later block begins behind `a`
      have hs := (List.pairwise_iff_getElem.1 hc.sorted) i j (by omega) hj hij
      have := (hbi j hj).bytes_pos
      rw [hp _ (hbi i (by omega))] at hi
      rw [hp _ (hbi j hj)]
      refine ⟨by omega, ?_⟩
      simp only [inBlock, decide_eq_false_iff_not]
      omega)
    (fun b hb hr => by
      rw [hp b (hc.blocks b hb)]
      simp only [inBlock, decide_eq_true_eq] at hr
      exact hr.2)
  rw [codeAddress_unfold, hk, hfind]
  dsimp only
  by_cases hkl : k < c.store.length
  · have := (hp _ (hbi k hkl)).1 (hpk hkl)
    rw [if_neg (by omega), List.getElem?_eq_getElem hkl, Option.filter_some]
    dsimp only
    by_cases hgt : c.store[k].begin > a
    · rw [if_pos hgt, if_neg]
      simp only [inBlock, decide_eq_true_eq]
      omega
    · rw [if_neg hgt, if_pos]
      simp only [inBlock, decide_eq_true_eq]
      omega
  · rw [if_pos (by omega), List.getElem?_eq_none (by omega), Option.filter_none]

theorem CInv.address_frozen {c c' : Code} (hc : CInv c) (hc' : CInv c')
    (h : c'.store.map frozen = c.store.map frozen) (a : Nat) :
    (c'.address a).map (·.map frozen) = (c.address a).map (·.map frozen) := by
  -- `inBlock a` looks at a block through `frozen` only
  have key : ∀ l : List Block, (l.find? (inBlock a)).map frozen =
      (l.map frozen).find? fun (_, beg, _, seq, _) => decide (beg ≤ a ∧ a < beg + bytesI seq) :=
    fun l => by rw [List.find?_map]; rfl
  rw [hc'.address_exact, hc.address_exact, Option.map_some, Option.map_some, key, key, h]

theorem tiles_view (a : Nat) (l : List Ins) (h : TilesI a l) :
    Tiles a (l.map Ins.view) (a + bytesI l) := by
  induction l generalizing a with
  | nil => simp [Tiles, bytesI]
  | cons x xs ih =>
    simp only [List.map_cons, Tiles, bytesI_cons]
    refine ⟨h.1, h.2.1, ?_⟩
    have := ih (a + x.len) h.2.2
    rw [show a + (x.len + bytesI xs) = a + x.len + bytesI xs by omega]
    exact this

theorem view_bytes (b : Block) : b.view.bytes = bytesI b.seq := by
  simp [VBlock.bytes, Block.view, bytesI, Ins.view, Function.comp_def]

theorem findIdx_view (l : List Ins) (id : Nat) :
    (l.map Ins.view).findIdx (fun i => i.id == id) = (idsOf l).idxOf id := by
  rw [List.findIdx_map]
  simp only [idsOf, List.idxOf, List.findIdx_map]
  rfl

theorem view_pos (b : Block) (id : Nat) (h : id ∈ idsOf b.seq) :
    b.view.pos id = some ((idsOf b.seq).idxOf id) := by
  have hl := List.idxOf_lt_length_of_mem h
  rw [idsOf_length] at hl
  show (if (b.seq.map Ins.view).findIdx (fun i => i.id == id) < (b.seq.map Ins.view).length
    then some ((b.seq.map Ins.view).findIdx (fun i => i.id == id)) else none) = _
  rw [findIdx_view, List.length_map, if_pos hl]

theorem BInv.view_inv {b : Block} (hb : BInv b) : b.view.Inv := by
  refine ⟨?_, ?_, ?_, ?_, ?_, ?_, ?_⟩
  · simpa [Block.view] using hb.ne
  · intro k hk
    have hk' : k < b.seq.length := by simpa [Block.view] using hk
    have := idxFrom_getElem 0 b.seq hb.idx k hk'
    simpa [Block.view, Ins.view] using this
  · have : (b.view.seq.map (·.id)) = idsOf b.seq := by
      simp [Block.view, idsOf, Ins.view, Function.comp_def]
    rw [this]
    simpa [Block.view] using hb.ids
  · rw [view_bytes]
    exact tiles_view b.begin b.seq hb.tiles
  · rw [view_bytes]; exact hb.top
  · rw [view_bytes]; exact hb.end_
  · intro e he
    obtain ⟨h1, h2, h3⟩ := hb.fwd e he
    exact ⟨_, _, view_pos b e.1 h1, view_pos b e.2 h2, h3⟩

theorem CInv.view_inv {c : Code} (hc : CInv c) : c.view.Inv := by
  refine ⟨?_, ?_, ?_⟩
  · intro vb hvb
    simp only [Code.view, List.mem_map] at hvb
    obtain ⟨b, hb, rfl⟩ := hvb
    exact (hc.blocks b ((hc.current_perm.mem_iff).1 hb)).view_inv
  · intro k hk
    have hlen := hc.current_length
    have hk' : k < c.blocks.length := by simpa [Code.view, hlen] using hk
    have h1 := hc.current_getElem k hk'
    have hk2 : k < c.current.length := by omega
    rw [List.getElem?_eq_getElem hk2] at h1
    simp only [Code.view, List.getElem_map, Block.view]
    have h1 : c.current[k] = c.store[c.blocks[k]]'(hc.ptr_lt k hk') := Option.some.inj h1
    rw [h1]
    exact hc.idx k hk' (hc.ptr_lt k hk')
  · simp only [Code.view, List.pairwise_map]
    have hsym : ∀ {x y : Block}, (x.view.begin + x.view.bytes ≤ y.view.begin ∨ y.view.begin + y.view.bytes ≤ x.view.begin) →
        (y.view.begin + y.view.bytes ≤ x.view.begin ∨ x.view.begin + x.view.bytes ≤ y.view.begin) := by
      intro x y h; exact h.symm
    rw [hc.current_perm.pairwise_iff hsym]
    apply hc.sorted.imp
    intro a b h
    left
    rw [view_bytes]
    exact h

end Mltwist.Lemmas.Deps
