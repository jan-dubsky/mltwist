import Mltwist.Lemmas.Transform
import Mltwist.Lemmas.RiscvLiftTables
import Mltwist.Lemmas.RiscvLiftValues
/-
C03 support: syntactic facts about the effects of every instruction class (`Desc.lift`), hence of every table entry, for
every instruction word.  Every expression is well formed (`Expr.wf`: all widths between 1 and 255) and every `MemLoad` node
of it satisfies a predicate `P` of one's choice: `WFNodes P` (`Transform.lean`, where the passes of the parser are shown to
keep it).
A gadget of `exprtools` or helper of `opcodes.go` is a tree of `binary`, `less` and constant nodes over its operands, of
width `w`, `2 * w`, 1, 2 or the width of an operand; so `WFNodes P` of the operands and `WOK` of the widths give `WFNodes P`
of the gadget by unfolding it down to the nodes: this is the simp set of the section below, and only what branches
(`regLoad`, `signBitMask`, `bitMask`) has a lemma of its own.
For a `MemStore` the effect-level predicate (`EffWFNodes`) also asks for a width between 1 and 255 (finding F45:
`checkAccess` tests `addr + w` in `uint64`, and the memories accept stores of 1 to 255 bytes, so the unconditional
never-panics theorems need it) and for `P` of the store itself.  With the trivial `P` this is well-formedness
(`validEffects_wfNodes`).  With the reference's access range for `P` it is the SHAPE of the memory accesses: every `MemLoad`
node of every lifted expression and every `MemStore` effect addresses exactly the reference's `accessRange`, and
instructions without memory access have neither (`validEffects_wfNodesAt`; for RV64 in the terms `NodeOK`, `EffShape` in
which the emulator's refinement reads it: `validEffects_shape`).
-/
namespace Mltwist.Lemmas.RiscvLift
open Mltwist Mltwist.Riscv Mltwist.Spec.Rv Mltwist.Spec.Lift Mltwist.Lemmas.Transform
open Mltwist.Lemmas.TwosComplement
open Mltwist.Lemmas.RiscvDecode (Cfg)

section
variable {P : String → Expr → Nat → Prop}

variable {a b t e v : Expr} {w W n : Nat}

theorem WFNodes.width (h : WFNodes P e) : WOK e.width := Lemmas.Transform.wf_width h.1

theorem width_binary (op : BinOp) (a b : Expr) (w : Nat) : (Expr.binary op a b w).width = w := rfl

theorem wfNodes_ite {c : Prop} [Decidable c] : WFNodes P (if c then a else b) ↔ if c then WFNodes P a else WFNodes P b :=
  Iff.of_eq (apply_ite ..)

/-! The nodes of a gadget: its definition, unfolded.  `WOK` stays folded. -/
attribute [local simp] wfNodes_const_iff wfNodes_binary_iff wfNodes_less_iff wfNodes_memLoad_iff wfNodes_regLoad_iff wfNodes_ite
  width_binary Gadgets.width_signBitMask Expr.zero Expr.one Tools.constUint constFromUint constFromInt addrConst immConst
  addrImmConst csrImm newWidthGadget binOpFunc lessFunc Tools.ones Tools.bitNot Tools.bitAnd Tools.bitOr Tools.bitXor
  Tools.negate Tools.sub Tools.maskBits Tools.intNegative Tools.absMask Tools.abs Tools.mod Tools.bool Tools.boolCond
  Tools.negativeSignJoin Tools.signExtend Tools.signedMul Tools.signedOp Tools.signedDiv Tools.rshA Tools.eq Tools.lts
  atomicMinMax regImmOp reg2Op maskedRegOp regImmShift Riscv.sext sext32To64 extend jumpTarget signedRem mulhsu memLoad

theorem wok_one : WOK 1 := by decide
theorem wok_two : WOK 2 := by decide

@[local simp] theorem wfNodes_regLoad (r : Reg) (i : Ins) (h : WOK w) : WFNodes P (regLoad r i w) := by
  rcases regLoad_cases r i w with ⟨-, he⟩ | ⟨-, he⟩ <;> rw [he] <;> simp [wok_one, h]

@[local simp] theorem wfNodes_signBitMask (h : WOK w) : WFNodes P (Tools.signBitMask w) := by
  unfold Tools.signBitMask; simp [wok_one, wok_two, h]

@[local simp] theorem wfNodes_bitMask {bits : Nat} (h : WOK w) : WFNodes P (Tools.bitMask bits w) := by
  unfold Tools.bitMask Tools.bitMaskRaw; simp [wok_one, wok_two, h]

/-- `mulh`, `mulhu`, `mulhsu` build nodes of twice the width; `abs` and `signedMul` nodes of the width of an operand -/
theorem wfNodes_alu (op : Alu) (ha : WFNodes P a) (hb : WFNodes P b) (h : WOK w) (h2 : WOK (2 * w)) :
    WFNodes P (op.gadget a b w) := by
  cases op <;> simp [Alu.gadget, wok_one, wok_two, ha.width, hb.width, *]

theorem wfNodes_amo (op : AmoOp) (ha : WFNodes P a) (hb : WFNodes P b) (h : WOK w) : WFNodes P (op.gadget a b w) := by
  cases op <;> simp [AmoOp.gadget, wok_one, *]

theorem wfNodes_cmp (c : Cmp) (ha : WFNodes P a) (hb : WFNodes P b) (ht : WFNodes P t) (he : WFNodes P e) (h : WOK w) :
    WFNodes P (c.gadget a b t e w) := by
  cases c <;> simp [Cmp.gadget, wok_one, *]

/-- all expressions of the effect are `WFNodes P`; a store has an admissible width and satisfies `P` itself -/
def EffWFNodes (P : String → Expr → Nat → Prop) : Effect → Prop
  | .memStore v k a n => WFNodes P v ∧ WFNodes P a ∧ WOK n ∧ P k a n
  | .regStore v _ _ => WFNodes P v

/-- `EffWFNodes` of an optional effect, as the tables list them (`none`: the dropped write to `x0`) -/
def OptWFNodes (P : String → Expr → Nat → Prop) (o : Option Effect) : Prop := ∀ ef, o = some ef → EffWFNodes P ef

def AllOptWFNodes (P : String → Expr → Nat → Prop) (l : List (Option Effect)) : Prop := ∀ o ∈ l, OptWFNodes P o

@[simp] theorem optWFNodes_none : OptWFNodes P none := fun _ h => nomatch h

@[local simp] theorem optWFNodes_effRegStore {k : String} : OptWFNodes P (some (Effect.regStore v k W)) ↔ WFNodes P v :=
  ⟨fun h => h _ rfl, by rintro h _ ⟨⟩; exact h⟩

@[local simp] theorem optWFNodes_memStore :
    OptWFNodes P (some (Riscv.memStore v a n)) ↔ WFNodes P v ∧ WFNodes P a ∧ WOK n ∧ P memoryKey a n :=
  ⟨fun h => h _ rfl, by rintro h _ ⟨⟩; exact h⟩

/-- `regStore` drops the write to `x0` -/
@[local simp] theorem optWFNodes_regStore {i : Ins} :
    OptWFNodes P (Riscv.regStore e i W) ↔ (regNum .rd i.value ≠ 0 → WFNodes P e) := by
  rcases regStore_cases e i W with ⟨h0, h⟩ | ⟨h0, h⟩ <;> rw [h]
  · exact ⟨fun _ hn => absurd h0 hn, fun _ => optWFNodes_none⟩
  · exact optWFNodes_effRegStore.trans ⟨fun h _ => h, fun h => h h0⟩

@[simp] theorem allOptWFNodes_cons (o : Option Effect) (l : List (Option Effect)) :
    AllOptWFNodes P (o :: l) ↔ OptWFNodes P o ∧ AllOptWFNodes P l := List.forall_mem_cons
@[simp] theorem allOptWFNodes_nil : AllOptWFNodes P [] ↔ True := iff_true_intro (fun _ h => nomatch h)

/-- the address expression and the number of bytes of the class's memory access, as `lift` builds them -/
def Desc.accessExpr (W : Nat) (i : Ins) : Desc → Option (Expr × Nat)
  | .load n _ => some (regImmOp (binOpFunc .add) .I i W, n)
  | .store n => some (regImmOp (binOpFunc .add) .S i W, n)
  | .lr n | .sc n | .amo _ n => some (regLoad .rs1 i W, n)
  | _ => none

/-- Every effect the schema gives an instruction class is well formed, and its load nodes and stores satisfy `P` if the
class's access does.  The effects are unfolded down to their nodes (the simp set of this section; `wfNodes_alu`, `wfNodes_amo`,
`wfNodes_cmp` for the gadget the class is a parameter of); what is left are `WOK` of `W`, of the operating width and of the
number of bytes accessed (`hle`), and `P` of the access (`hP`). -/
theorem lift_wfNodes {W : Nat} (hW : W = 4 ∨ W = 8) {d : Desc} (hd : d.ok W = true) (i : Ins)
    (hP : ∀ a n, d.accessExpr W i = some (a, n) → P memoryKey a n) : AllOptWFNodes P (d.lift W i) := by
  have hWok : WOK W := by rcases hW with rfl | rfl <;> decide
  have hle : ∀ n, 1 ≤ n → n ≤ W → WOK n := fun n h1 h => ⟨h1, Nat.le_trans h hWok.2⟩
  cases d with
  | alu op imm word =>
    have hn : WOK (if word then 4 else W) ∧ WOK (2 * if word then 4 else W) := by
      rcases hW with rfl | rfl <;> cases word <;> decide
    simp [Desc.lift, wfNodes_alu, hn.1, hn.2, wok_one, show WOK 4 by decide, show WOK 8 by decide]
  | br c neg => cases neg <;> simp [Desc.lift, branchCmp_eq, wfNodes_cmp, hWok]
  | csr op imm => cases op <;> simp [Desc.lift, hWok, wok_one]
  | _ =>
    simp [Desc.ok_load, Desc.ok_store, Desc.ok_lr, Desc.ok_sc, Desc.ok_amo, Desc.accessExpr] at hd hP <;>
    simp [Desc.lift, wfNodes_amo, wok_one, show WOK 4 by decide, *]

end

/-- every expression of the effect is well formed -/
def EffWF : Effect → Prop
  | .memStore v _ a _ => v.wf = true ∧ a.wf = true
  | .regStore v _ _ => v.wf = true

theorem EffWFNodes.wf {P : String → Expr → Nat → Prop} : ∀ {ef : Effect}, EffWFNodes P ef → EffWF ef
  | .memStore .., h => ⟨h.1.1, h.2.1.1⟩
  | .regStore .., h => h.1

/-- every effect of an entry of any configuration, for every instruction word: the expressions are well formed, a store
has a width between 1 and 255 -/
theorem validEffects_wfNodes {xlen : Nat} {m a : Bool} (hx : Cfg xlen) {e : Entry} (he : e ∈ instructionSet xlen m a)
    (i : Ins) : ∀ ef ∈ e.validEffects i, EffWFNodes (fun _ _ _ => True) ef := by
  obtain ⟨d, -, hd, hl⟩ := desc_of_mem hx he
  exact fun ef hef => lift_wfNodes hx.bytes.2 hd i (fun _ _ _ => trivial) _ (hl ▸ mem_validEffects.1 hef) ef rfl

/-- the load node / store `(k, a, n)` accesses the reference's range: key `memory`, the address expression
has the value of the reference's address, `n` bytes.  The two 64s are different things: `accessRange 64` is the variant
(RV64, which the emulator's refinement is about), `% 2 ^ 64` the address space of the IR whatever the variant;
`validEffects_wfNodesAt` is the statement for every variant, with this predicate written out at `xlen`
(`validEffects_shape` is its unfolding at 64). -/
def NodeOK (name : String) (w : Nat) (s : St) (ρ : Env) (k : String) (a : Expr) (n : Nat) : Prop :=
  k = memKey ∧ accessRange 64 name w s = some (a.eval ρ % 2 ^ 64, n)

/-- an effect: all load nodes of its expressions, and the store itself, access the reference's range -/
def EffShape (name : String) (w : Nat) (s : St) (ρ : Env) : Effect → Prop
  | .regStore v _ _ => AllNodes (NodeOK name w s ρ) v
  | .memStore v k a n => AllNodes (NodeOK name w s ρ) v ∧ AllNodes (NodeOK name w s ρ) a ∧ NodeOK name w s ρ k a n

section
variable {name : String} {w : Nat} {s : St} {ρ : Env}

theorem EffWFNodes.shape : ∀ {ef : Effect}, EffWFNodes (NodeOK name w s ρ) ef → EffShape name w s ρ ef
  | .memStore .., h => ⟨h.1.2, h.2.1.2, h.2.2.2⟩
  | .regStore .., h => h.2

theorem access_eval {xlen W : Nat} (h : Ctx xlen W ρ s w) {d : Desc} {a n : Nat} {e : Expr}
    (he : d.accessExpr W ⟨a, w⟩ = some (e, n)) : d.access xlen w s = some (e.eval ρ % 2 ^ 64, n) := by
  have hp := h.pow_le
  cases d <;> simp only [Desc.accessExpr, Option.some.injEq, Prod.mk.injEq, reduceCtorEq] at he <;>
    obtain ⟨rfl, rfl⟩ := he <;> simp only [Desc.access]
  case load =>
    rw [h.eval_addI h.width, Nat.mod_eq_of_lt (Nat.lt_of_lt_of_le (wrap_lt ..) hp)]
    rfl
  case store =>
    have := stAddr_lt xlen w s
    rw [h.eval_addS, Nat.mod_eq_of_lt (by omega)]
  -- `lr`, `sc`, `amo`: the address is `rs1` itself
  all_goals
    have := h.wf.get_lt (rs1 w)
    rw [h.eval_rs1, Nat.mod_eq_of_lt (by omega)]

/-- Every effect of an entry of any configuration, for every word and reference state, is well formed and accesses
memory exactly where the reference does.  `2 ^ 64` is the address space of the IR (`Expr.eval` of a `MemLoad`), whatever
the variant; the reference's addresses are below `2 ^ xlen`. -/
theorem validEffects_wfNodesAt {xlen W : Nat} (h : Ctx xlen W ρ s w) {m a : Bool} {e : Entry}
    (he : e ∈ instructionSet xlen m a) : ∀ ef ∈ e.validEffects ⟨s.pc, w⟩,
      EffWFNodes (fun k a n => k = memKey ∧ accessRange xlen e.name w s = some (a.eval ρ % 2 ^ 64, n)) ef := by
  obtain ⟨d, hc, hd, hl⟩ := desc_of_mem h.cfg he
  obtain rfl : xlen / 8 = W := by have := h.hX; omega
  exact fun ef hef => lift_wfNodes h.hW hd _ (fun _ _ ha =>
    ⟨memoryKey_eq, (classify_spec xlen w s _ hc).2.trans (access_eval h ha)⟩) _ (hl ▸ mem_validEffects.1 hef) ef rfl

/-- on RV64, in the terms of `EffShape` -/
theorem validEffects_shape (h : Ctx 64 8 ρ s w) {m a : Bool} {e : Entry} (he : e ∈ instructionSet 64 m a) :
    ∀ ef ∈ e.validEffects ⟨s.pc, w⟩, EffShape e.name w s ρ ef :=
  fun ef hef => (validEffects_wfNodesAt h he ef hef).shape

variable {v a : Expr} {k : String} {n : Nat}

theorem EffShape.valueNodes (h : EffShape name w s ρ (.memStore v k a n)) : AllNodes (NodeOK name w s ρ) v := h.1
theorem EffShape.addrNodes (h : EffShape name w s ρ (.memStore v k a n)) : AllNodes (NodeOK name w s ρ) a := h.2.1
theorem EffShape.key (h : EffShape name w s ρ (.memStore v k a n)) : k = memKey := h.2.2.1
theorem EffShape.range (h : EffShape name w s ρ (.memStore v k a n)) :
    accessRange 64 name w s = some (a.eval ρ % 2 ^ 64, n) := h.2.2.2

end

/-! Nothing uses what follows: the predicates on an optional effect as the tables list it (the statements above are about
`validEffects`), two widths, two node facts. -/

def OWF (o : Option Effect) : Prop := ∀ ef, o = some ef → EffWF ef

@[simp] theorem owf_none : OWF none := fun _ h => nomatch h

def AllOWF (l : List (Option Effect)) : Prop := ∀ o ∈ l, OWF o

theorem allOWF_nil : AllOWF [] := fun _ h => nomatch h

def OSW (o : Option Effect) : Prop := ∀ v k a n, o = some (Effect.memStore v k a n) → WOK n

@[simp] theorem osw_none : OSW none := fun _ _ _ _ h => nomatch h

def OShape (name : String) (w : Nat) (s : St) (ρ : Env) (o : Option Effect) : Prop :=
  ∀ ef, o = some ef → EffShape name w s ρ ef

@[simp] theorem oshape_none {name : String} {w : Nat} {s : St} {ρ : Env} : OShape name w s ρ none :=
  fun _ h => nomatch h

theorem signBitMask_width (w : Nat) : (Tools.signBitMask w).width = w := Gadgets.width_signBitMask w

theorem bitAnd_width (a b : Expr) (w : Nat) : (Tools.bitAnd a b w).width = w := rfl

variable {P : String → Expr → Nat → Prop}

@[simp] theorem an_const (bs : List UInt8) : AllNodes P (.const bs) := trivial
@[simp] theorem an_addrConst (a n : Nat) : AllNodes P (addrConst a n) := trivial

end Mltwist.Lemmas.RiscvLift
