import Mltwist.Lemmas.EmulatorSound
import Mltwist.Lemmas.EmulatorLifted
import Mltwist.Lemmas.EmulatorRun
import Mltwist.Lemmas.RiscvLift
import Mltwist.Lemmas.RiscvLiftWF
/-
Emulator (C03): refinement of the RISC-V reference.

The step.  Composition with C01 (`lift_correct`) and C09 (`constFold_eval`): if the emulator state (with the provider)
represents the reference state `σ` (`R`) and the instruction at `σ.pc` is the lifting of the word `word` by the table
entry `e` (`LiftedFrom`), then the state a successful `Step` leads to represents `Spec.Rv.exec 64 e.name word σ`
(`refine_step`; that its report is the reference's is `step_sound`); runs along the code (`RefSteps`) follow by induction for any side
condition that is handed on (`refine_run`: a side road, only `refine_run'` and C03 `refinement_run` rest on it).

A single side condition, on the reference: the emulator's step succeeds, its accesses in the domain of C14, as soon as
the reference's access ends below the top of the address space (`AccessFits`, `steps_of_lifted`), and the joint step
needs nothing else (`refine_step_of_fits`; `RefRunScope` is the condition along a run).

The reference on its OWN memory.  While the program has not modified its code (`Intact`), the word fetched at `pc` is
the word the instruction at `pc` was lifted from and the reference decoder names the same table entry (C02,
`fetch_lifted`), so the emulator keeps step with it (`full_run`, an induction of its own over `refRun`: `InScope`
speaks of the fetched word only, `refine_run` of every word the instruction may have been lifted from).

The start.  For a provider that answers consistently with one machine state (`ProviderFor`), the state `cmd/mltwist`
starts the emulator from represents the valuation "pre-set value / image byte, otherwise the provider's answer"
(`agree_toolState`), which in turn represents the reference state `stOf` of it.
-/
namespace Mltwist.Lemmas.Emulator
open Mltwist Mltwist.State Mltwist.Overlay Mltwist.Emulator Mltwist.Riscv Mltwist.Spec.Overlay
open Mltwist.Spec.Rv Mltwist.Spec.Lift
open Mltwist.Lemmas.RiscvLift (xName_ne_ipKey csrName_ne_ipKey EffShape NodeOK AllNodes validEffects_shape Ctx)
open Mltwist.Lemmas.RiscvDecode (Cfg)

theorem foldl_map_of_eq {α β : Type} (g : α → α) (f : β → α → β) : ∀ (l : List α) (b : β),
    (∀ x ∈ l, ∀ b, f b (g x) = f b x) → (l.map g).foldl f b = l.foldl f b
  | [], _, _ => rfl
  | x :: l, b, h => by
    rw [List.map_cons, List.foldl_cons, List.foldl_cons, h x (List.mem_cons_self ..)]
    exact foldl_map_of_eq g f l _ fun y hy => h y (List.mem_cons_of_mem _ hy)

theorem applyEffect_fold (pre cur : Env) (ef : Effect) (hw : Effect.wfE ef) :
    applyEffect pre cur (Effect.apply constFold ef) = applyEffect pre cur ef := by
  cases ef with
  | regStore v k w =>
    simp only [Effect.apply, applyEffect, Lemmas.Transform.constFold_eval pre v hw]
  | memStore v k a w =>
    simp only [Effect.apply, applyEffect, Lemmas.Transform.constFold_eval pre v hw.1,
      Lemmas.Transform.constFold_eval pre a hw.2]

theorem applyEffects_fold (ρ : Env) (efs : List Effect) (cur : Env) (h : ∀ ef ∈ efs, Effect.wfE ef) :
    (efs.map (Effect.apply constFold)).foldl (applyEffect ρ) cur = efs.foldl (applyEffect ρ) cur :=
  foldl_map_of_eq _ _ efs cur fun ef hef cur => applyEffect_fold ρ cur ef (h ef hef)

theorem ipStep_fold (ρ : Env) (ip : Nat) (ef : Effect) (hw : Effect.wfE ef) :
    ipStep ρ ip (Effect.apply constFold ef) = ipStep ρ ip ef := by
  cases ef with
  | regStore v k w => simp only [Effect.apply, ipStep, Lemmas.Transform.constFold_eval ρ v hw]
  | memStore v k a w => rfl

theorem nextIp_fold (ρ : Env) (efs : List Effect) (ip : Nat) (h : ∀ ef ∈ efs, Effect.wfE ef) :
    (efs.map (Effect.apply constFold)).foldl (ipStep ρ) ip = efs.foldl (ipStep ρ) ip :=
  foldl_map_of_eq _ _ efs ip fun ef hef ip => ipStep_fold ρ ip ef (h ef hef)

/-- `R p code σ s`: the emulator state `s` and the not-yet-asked answers of the provider `p` together
represent the reference machine state `σ`: some valuation `ρ` of the IR's registers and memories
represents `σ` (`Spec.Lift.Rel`) and is represented by `s` + `p` (`Agree`); the emulator's instruction
pointer is `σ.pc`; the emulator can step -/
structure R (p : Provider) (code : CodeView) (σ : St) (s : State) : Prop where
  ready : Ready s
  wf : St.WF 64 σ
  ip : ∃ c, assocGet Emulator.ipKey s.regs = some (.const c) ∧ leToNat c = σ.pc
  rep : ∃ ρ, Rel ρ σ ∧ Agree p code ρ s

theorem rel_withIp {ρ : Env} {σ : St} (h : Rel ρ σ) (v : Nat) : Rel (withIp ρ v) σ :=
  h.regKey (fun k _ _ => (if_neg (xName_ne_ipKey k)).symm) (fun k _ => (if_neg (csrName_ne_ipKey k)).symm) rfl

theorem R.mustIP {p : Provider} {code : CodeView} {σ : St} {s : State} (hR : R p code σ s) : mustIP s = .ok σ.pc :=
  let ⟨_, hc, hv⟩ := hR.ip
  (mustIP_spec hc).trans (by rw [hv, Nat.mod_eq_of_lt hR.wf.pc])

theorem lookup_addr {code : CodeView} {ip : Nat} {ins : Emulator.Ins} (h : code.lookup ip = some ins) : ins.addr = ip := by
  have := List.find?_some h
  simpa using this

/-- The refinement step: composition of C01 (`lift_correct`), C09 (`constFold_eval`) and `step_sound`.  `Steps` is had from
`step_ok` or from `steps_of_lifted`. -/
theorem refine_step {p : Provider} {code : CodeView} {σ : St} {s s1 s2 : State} {ins : Emulator.Ins} {e : Entry}
    {word : Nat} {log : List Req} {rep : Report} (hR : R p code σ s) (hl : code.lookup σ.pc = some ins)
    (hlift : LiftedFrom ins e word) (hnw : noWrap 64 e.name word σ = true) (hs : Steps p code s ins s1 s2 log rep) :
    ∃ σ', exec 64 e.name word σ = some σ' ∧ R p code σ' (finish ins (ins.effects.any isJump) s2) := by
  obtain ⟨ρ, hrel, hagree⟩ := hR.rep
  have haddr : ins.addr = σ.pc := lookup_addr hl
  have hwRaw := hlift.wfRaw
  rw [haddr] at hwRaw
  -- C01
  obtain ⟨σ', hexec, hrel', hnext, hwf'⟩ :=
    Lemmas.RiscvLift.lift_correct 64 Cfg.rv64 true true e hlift.mem word σ ρ hlift.word_lt hlift.matches_
      hR.wf hrel hnw
  have h := step_sound hs hR.ready.inv hagree (lookup_mem hl)
  refine ⟨σ', hexec, { ready := hs.stores.ready hR.ready, wf := hwf', ip := ?_, rep := ⟨_, ?_, h.agree⟩ }⟩
  · have hend : ins.end_ = (σ.pc + 4) % 2 ^ 64 := by unfold Ins.end_; rw [haddr, hlift.len]
    have hv : nextIp ρ ins.effects ins.end_ = σ'.pc := by
      rw [nextIp_eq, hlift.effects, haddr, nextIp_fold ρ _ _ hwRaw, ← nextIp_eq, hend]
      exact hnext
    exact hv ▸ h.ip
  · apply rel_withIp
    unfold Env.applyEffects
    rw [hlift.effects, haddr, applyEffects_fold ρ _ _ hwRaw]
    exact hrel'

/-- `n` steps of the reference machine along the code: each step executes the instruction of the code that
starts at the program counter, as the table entry and word it was lifted from say -/
inductive RefSteps (code : CodeView) : Nat → St → St → Prop where
  | zero (σ : St) : RefSteps code 0 σ σ
  | succ {n : Nat} {σ σ' σ'' : St} {ins : Emulator.Ins} {e : Entry} {word : Nat} :
      code.lookup σ.pc = some ins → LiftedFrom ins e word → exec 64 e.name word σ = some σ' →
      RefSteps code n σ' σ'' → RefSteps code (n + 1) σ σ''

/-- the state after `n` successful steps -/
def stateAfter (p : Provider) (code : CodeView) : Nat → State → Option State
  | 0, s => some s
  | n + 1, s =>
    match step p code s with
    | .ok s' _ _ => stateAfter p code n s'
    | _ => none

theorem stateAfter_succ {p : Provider} {code : CodeView} {s s' : State} {rep : Report} {log : List Req}
    (h : step p code s = .ok s' rep log) (n : Nat) : stateAfter p code (n + 1) s = stateAfter p code n s' := by
  simp only [stateAfter, h]

/-- refinement after every number of steps, for any side condition `P` on the remaining steps that lets each joint
step through and is handed on to the states it leads to -/
theorem refine_run {p : Provider} {code : CodeView} (P : Nat → St → State → Prop)
    (hP : ∀ n σ s ins e word, P (n + 1) σ s → R p code σ s → code.lookup σ.pc = some ins → LiftedFrom ins e word →
      ∃ σ' s' rep log, exec 64 e.name word σ = some σ' ∧ step p code s = .ok s' rep log ∧ R p code σ' s' ∧ P n σ' s')
    (n : Nat) : ∀ (σ σn : St) (s : State), R p code σ s → P n σ s → RefSteps code n σ σn →
    ∃ sn, stateAfter p code n s = some sn ∧ R p code σn sn := by
  induction n with
  | zero =>
    intro σ σn s hR _ hrun
    cases hrun
    exact ⟨s, rfl, hR⟩
  | succ n ih =>
    intro σ σn s hR hsc hrun
    cases hrun with
    | @succ _ _ σ' _ ins e word hl hlift hexec hrest =>
      obtain ⟨σ2, s', rep, log, hexec2, hstep, hR', hsc'⟩ := hP n σ s ins e word hsc hR hl hlift
      cases hexec.symm.trans hexec2
      rw [stateAfter_succ hstep]
      exact ih σ' σn s' hR' hsc' hrest

/-- the side conditions of `refine_run'` along a run: the reference's access does not wrap, the emulator's accesses
lie in the domain of C14 -/
def Scope' (p : Provider) (code : CodeView) : Nat → St → State → Prop
  | 0, _, _ => True
  | n + 1, σ, s => ∀ ins e word, code.lookup σ.pc = some ins → LiftedFrom ins e word →
      noWrap 64 e.name word σ = true ∧ StepDom p code s ins ∧
      ∀ σ' s' rep log, exec 64 e.name word σ = some σ' → step p code s = .ok s' rep log →
        Scope' p code n σ' s'

theorem refine_run' (p : Provider) (code : CodeView) (n : Nat) (σ σn : St) (s : State) (hR : R p code σ s)
    (hs : Scope' p code n σ s) (hrun : RefSteps code n σ σn) :
    ∃ sn, stateAfter p code n s = some sn ∧ R p code σn sn :=
  refine_run (Scope' p code) (fun _ _ _ ins e word h hR hl hlift =>
    let ⟨h1, h2, h3⟩ := h ins e word hl hlift
    let ⟨_, _, _, _, hok⟩ := step_ok p code hR.ready.inv hR.mustIP hl hlift.wf h2
    let ⟨σ', he, hR'⟩ := refine_step hR hl hlift h1 hok
    ⟨σ', _, _, _, he, hok.eq, hR', h3 σ' _ _ _ he hok.eq⟩) n σ σn s hR hs hrun

/-- the memory access of the instruction `name`/`word` in the reference state `σ`, if any, lies in the
domain of C14: `addr + n < 2^64` (the number of bytes is 1, 2, 4 or 8 anyway) -/
def RefScope (name : String) (word : Nat) (σ : St) : Prop :=
  ∀ a n, accessRange 64 name word σ = some (a, n) → Sparse.InDom a n

/-- … of which only the upper bound is a condition on the run: the access ends below the top of the address
space.  (The widths of the emulator's accesses are those of the lifted expressions and stores, `LiftedFrom.wf`/`.sw`.) -/
def AccessFits (name : String) (word : Nat) (σ : St) : Prop :=
  ∀ a n, accessRange 64 name word σ = some (a, n) → a + n < 2 ^ 64

theorem RefScope.fits {name : String} {word : Nat} {σ : St} (h : RefScope name word σ) : AccessFits name word σ :=
  fun a n hacc => (h a n hacc).2.2

theorem noWrap_of_fits {name : String} {word : Nat} {σ : St} (h : AccessFits name word σ) :
    noWrap 64 name word σ = true := by
  unfold noWrap
  cases hacc : accessRange 64 name word σ with
  | none => rfl
  | some an => exact decide_eq_true (Nat.le_of_lt (h an.1 an.2 hacc))

/-- every load node and every store of a lifted instruction — constant folded, as the emulator holds it — addresses
the reference's access range (table-wide fact of `RiscvLiftWF.lean`, carried through folding by value) -/
theorem effShape_of_lifted {ins : Emulator.Ins} {e : Entry} {word : Nat} {σ : St} {ρ : Env}
    (hlift : LiftedFrom ins e word) (haddr : ins.addr = σ.pc) (hwf : St.WF 64 σ) (hrel : Rel ρ σ) :
    ∀ ef ∈ ins.effects, EffShape e.name word σ ρ ef := by
  intro ef hef
  rw [hlift.effects, haddr] at hef
  obtain ⟨ef0, h0, rfl⟩ := List.mem_map.1 hef
  have hwf0 := hlift.wfRaw ef0 (by rw [haddr]; exact h0)
  have hsh := validEffects_shape ⟨rfl, Or.inr rfl, hlift.word_lt, hwf, hrel⟩ hlift.mem ef0 h0
  have fold : ∀ {x : Expr}, x.wf = true → AllNodes (NodeOK e.name word σ ρ) x →
      AllNodes (NodeOK e.name word σ ρ) (constFold x) :=
    Transform.allNodes_constFold fun _ _ _ _ hv h => ⟨h.1, by rw [← hv ρ]; exact h.2⟩
  cases ef0 with
  | regStore v k w => exact fold hwf0 hsh
  | memStore v k a w =>
    exact ⟨fold hwf0.1 hsh.valueNodes, fold hwf0.2 hsh.addrNodes, hsh.key, by
      rw [Lemmas.Transform.constFold_eval ρ a hwf0.2]; exact hsh.range⟩

/-- a step that `checkAccess` stopped would have been stopped at a load node or a store of the instruction, at the
address the state left behind holds for it — which is its address under the represented valuation, the reference's,
and that fits -/
theorem steps_of_lifted {p : Provider} {code : CodeView} {σ : St} {s : State} {ins : Emulator.Ins} {e : Entry}
    {word : Nat} (hR : R p code σ s) (hl : code.lookup σ.pc = some ins) (hlift : LiftedFrom ins e word)
    (hs : AccessFits e.name word σ) :
    ∃ s1 s2 log rep, Steps p code s ins s1 s2 log rep := by
  obtain ⟨ρ, hrel, hagree⟩ := hR.rep
  have hmem := lookup_mem hl
  have hle := regsLe_evalOrders hmem
  cases step_total p code hR.ready.inv hR.mustIP hl hlift.wf hlift.sw with
  | steps h => exact ⟨_, _, _, _, h⟩
  | stops _ hst =>
    have ha1 := hst.fill.agree hR.ready.inv hagree (atCodeWidth_of hle hst.reqs)
    have hsh := effShape_of_lifted hlift (lookup_addr hl) hR.wf hrel
    refine absurd hst.bad (Nat.not_le_of_lt ?_)
    rcases hst.at_ with ⟨x, hx, n, hn, hp, rfl, rfl⟩ | ⟨v, k, x, hef, hp, rfl⟩
    · obtain ⟨ef, hef, hxe⟩ := List.mem_flatMap.1 hx
      have hall : AllNodes (NodeOK e.name word σ ρ) x := by
        have := hsh ef hef
        cases ef with
        | regStore v k w => cases List.mem_singleton.1 hxe; exact this
        | memStore v k a w =>
          simp only [evalOrder, List.mem_cons, List.not_mem_nil, or_false] at hxe
          rcases hxe with rfl | rfl
          · exact this.valueNodes
          · exact this.addrNodes
      rw [(present_spec hst.inv1 ha1 n.2.1 hp.1 hp.2 fun kw hk => hle x hx kw (regLoads_node hn kw hk)).1]
      exact hs _ _ ((allNodes_iff _ x).1 hall n hn).2
    · rw [valBytes_eval hst.inv1 ha1 hp (regsLe_of_code hmem hef (by simp [evalOrder]))]
      exact hs _ _ (hsh _ hef).range

/-- the refinement step with the side condition on the REFERENCE only -/
theorem refine_step_of_fits (p : Provider) (code : CodeView) {σ : St} {s : State} {ins : Emulator.Ins} {e : Entry}
    {word : Nat} (hR : R p code σ s) (hl : code.lookup σ.pc = some ins) (hlift : LiftedFrom ins e word)
    (hs : AccessFits e.name word σ) :
    ∃ σ', exec 64 e.name word σ = some σ' ∧ ∃ s' rep log, step p code s = .ok s' rep log ∧ R p code σ' s' :=
  let ⟨_, _, _, _, hok⟩ := steps_of_lifted hR hl hlift hs
  let ⟨σ', he, hR'⟩ := refine_step hR hl hlift (noWrap_of_fits hs) hok
  ⟨σ', he, _, _, _, hok.eq, hR'⟩

/-- the reference's accesses stay in the domain during its first `n` steps along the code -/
def RefRunScope (code : CodeView) : Nat → St → Prop
  | 0, _ => True
  | n + 1, σ => ∀ ins e word, code.lookup σ.pc = some ins → LiftedFrom ins e word →
      RefScope e.name word σ ∧ ∀ σ', exec 64 e.name word σ = some σ' → RefRunScope code n σ'

/-- the program has not modified the bytes of its code blocks -/
def Intact (blocks : List (Nat × List UInt8)) (σ : St) : Prop :=
  ∀ b ∈ blocks, ∀ i, (h : i < b.2.length) → σ.mem (b.1 + i) % 256 = (b.2[i]).toNat

theorem load_of_bytes {σ : St} {base : Nat} {bs : List UInt8}
    (h : ∀ i, (h : i < bs.length) → σ.mem (base + i) % 256 = (bs[i]).toNat) : ∀ (n off : Nat),
    off + n ≤ bs.length → σ.load (base + off) n = leToNat ((bs.drop off).take n)
  | 0, _, _ => by rw [List.take_zero]; rfl
  | n + 1, off, hn => by
    have hlt : off < bs.length := Nat.lt_of_lt_of_le (Nat.lt_add_of_pos_right (Nat.succ_pos n)) hn
    rw [List.drop_eq_getElem_cons hlt, List.take_succ_cons, leToNat, St.load, h off, Nat.add_assoc,
      load_of_bytes h n (off + 1) (by rw [Nat.add_assoc, Nat.add_comm 1 n]; exact hn)]

theorem fetch_lifted {blocks : List (Nat × List UInt8)} {code : CodeView} (hok : BlocksOK blocks)
    (hc : liftCode blocks = some code) {σ : St} (hint : Intact blocks σ) {ins : Emulator.Ins}
    (hl : code.lookup σ.pc = some ins) :
    ∃ e, LiftedFrom ins e (σ.load σ.pc 4) ∧ decode 64 true true (σ.load σ.pc 4) = some e.name := by
  obtain ⟨b, hb, k, a, ha, hli⟩ := liftCode_mem blocks code hc (lookup_mem hl)
  obtain ⟨e, hparse, hlen, hlift, haddr⟩ := liftIns_parse hli
  have hk : 4 * k + 4 ≤ b.2.length := by rw [List.length_drop] at hlen; omega
  -- the block does not wrap, so the instruction sits at `b.1 + 4k`, and that is `pc`
  obtain rfl := ha (Nat.lt_of_lt_of_le (Nat.add_lt_add_left (by omega) _) (hok b hb))
  have hfetch : σ.load σ.pc 4 = wordOf (b.2.drop (4 * k)) := by
    rw [← lookup_addr hl, haddr]
    exact load_of_bytes (hint b hb) 4 (4 * k) hk
  rw [hfetch]
  exact ⟨e, hlift, (Lemmas.RiscvDecode.parse_ok_gen Lemmas.RiscvDecode.rv64Facts _ _ hlen e.name).1
    ⟨e, hlift.mem, rfl, hparse⟩⟩

/-- the reference machine on its own: fetch four bytes at `pc`, decode, execute -/
def refStep (σ : St) : Option St :=
  match decode 64 true true (σ.load σ.pc 4) with
  | some name => exec 64 name (σ.load σ.pc 4) σ
  | none => none

def refRun : Nat → St → Option St
  | 0, σ => some σ
  | n + 1, σ => match refStep σ with
    | some σ' => refRun n σ'
    | none => none

/-- the memory access of the next instruction of the reference stays below the top of the address space -/
def InScope (σ : St) : Prop :=
  ∀ name, decode 64 true true (σ.load σ.pc 4) = some name →
    ∀ a n, accessRange 64 name (σ.load σ.pc 4) σ = some (a, n) → a + n < 2 ^ 64

theorem refRun_succ {σ σ' : St} (h : refStep σ = some σ') (n : Nat) : refRun (n + 1) σ = refRun n σ' := by
  simp only [refRun, h]

theorem full_step (p : Provider) {blocks : List (Nat × List UInt8)} {code : CodeView} (hok : BlocksOK blocks)
    (hc : liftCode blocks = some code) {σ σ' : St} {s : State} (hR : R p code σ s) (hint : Intact blocks σ)
    (hsc : InScope σ) (hin : code.lookup σ.pc ≠ none) (href : refStep σ = some σ') :
    ∃ s' rep log, step p code s = .ok s' rep log ∧ R p code σ' s' := by
  cases hl : code.lookup σ.pc with
  | none => exact absurd hl hin
  | some ins =>
    obtain ⟨e, hlift, hdec⟩ := fetch_lifted hok hc hint hl
    -- `InScope` at the decoded name is the side condition of the refinement step
    obtain ⟨σ2, hexec, h⟩ := refine_step_of_fits p code hR hl hlift (hsc e.name hdec)
    unfold refStep at href
    rw [hdec] at href
    cases hexec.symm.trans href
    exact h

theorem full_run (p : Provider) {blocks : List (Nat × List UInt8)} {code : CodeView} (hok : BlocksOK blocks)
    (hc : liftCode blocks = some code) (n : Nat) : ∀ (σ0 σn : St) (s0 : State), R p code σ0 s0 →
    (∀ k σk, k ≤ n → refRun k σ0 = some σk → Intact blocks σk ∧ InScope σk) →
    (∀ k σk, k < n → refRun k σ0 = some σk → code.lookup σk.pc ≠ none) →
    refRun n σ0 = some σn → ∃ sn, stateAfter p code n s0 = some sn ∧ R p code σn sn := by
  induction n with
  | zero =>
    intro σ0 σn s0 hR _ _ hrun
    cases hrun
    exact ⟨s0, rfl, hR⟩
  | succ n ih =>
    intro σ0 σn s0 hR h1 h2 hrun
    cases href : refStep σ0 with
    | none => simp only [refRun, href] at hrun; cases hrun
    | some σ' =>
      obtain ⟨hint, hsc⟩ := h1 0 σ0 (Nat.zero_le _) rfl
      obtain ⟨s', rep, log, hstep, hR'⟩ := full_step p hok hc hR hint hsc (h2 0 σ0 (Nat.succ_pos n) rfl) href
      -- the run from `σ'` is the run from `σ0`, one step on
      rw [stateAfter_succ hstep]
      rw [refRun_succ href] at hrun
      exact ih σ' σn s' hR'
        (fun k σk hk hr => h1 (k + 1) σk (Nat.succ_le_succ hk) ((refRun_succ href k).trans hr))
        (fun k σk hk hr => h2 (k + 1) σk (Nat.succ_lt_succ hk) ((refRun_succ href k).trans hr)) hrun

/-- C03 in full, over the model. -/
def Statement : Prop :=
  ∀ (p : Provider) (blocks : List (Nat × List UInt8)) (code : CodeView) (σ0 : St) (s0 : State),
    BlocksOK blocks → liftCode blocks = some code → R p code σ0 s0 →
    ∀ n σn,
      (∀ k σk, k ≤ n → refRun k σ0 = some σk → Intact blocks σk ∧ InScope σk) →
      (∀ k σk, k < n → refRun k σ0 = some σk → code.lookup σk.pc ≠ none) →
      refRun n σ0 = some σn →
      ∃ sn, stateAfter p code n s0 = some sn ∧ R p code σn sn ∧
        (code.lookup σn.pc = none → step p code sn = .err) ∧
        (∀ ins, code.lookup σn.pc = some ins →
          ∃ s' log ρ, Rel ρ σn ∧ step p code sn = .ok s' (specReport ρ ins.effects) log)

/-- the provider answers consistently with the register values `V` and the bytes `B` -/
structure ProviderFor (p : Provider) (code : CodeView) (V : String → Nat) (B : String → Nat → Nat) : Prop where
  reg : ∀ k, leToNat (Const.withWidth (p.reg k (code.regWidth k)) (code.regWidth k)) = trunc (code.regWidth k) (V k)
  mem : ∀ key a w i, i < w → leToNat (Const.withWidth (p.mem key a w) w) / 256 ^ i % 256 = B key (a + i) % 256

/-- the valuation a start state and a consistent provider represent -/
def startEnv (s : State) (V : String → Nat) (B : String → Nat → Nat) : Env where
  reg k := match assocGet k s.regs with
    | some (.const c) => leToNat c
    | _ => V k
  mem key x := match s.mems.abs key x with
    | some b => b ρ0
    | none => B key x

/-- the tool's start state (before `emulator.New`) and a consistent provider represent `startEnv` -/
theorem agree_toolState {p : Provider} {code : CodeView} {V : String → Nat} {B : String → Nat → Nat}
    (hp : ProviderFor p code V B) (pre : List (String × List UInt8)) (bs : List BytesMem.Block) :
    Agree p code (startEnv (toolState pre bs) V B) (toolState pre bs) := by
  refine ⟨fun k c hk w _ => ?_, fun k hk => ?_, fun key x b hb ρ' => ?_, fun key a w i hi' hb => ?_⟩
  · simp only [startEnv, hk]
  · simp only [startEnv, hk]
    exact hp.reg k
  · have hb0 := hb
    rw [abs_toolState] at hb
    simp only [startEnv, hb0]
    split at hb
    · split at hb
      · rename_i b' _
        cases hb
        exact (Nat.mod_eq_of_lt (b'.toNat_lt)).symm
      · cases hb
    · cases hb
  · simp only [startEnv, hb]
    exact hp.mem key a w i hi'

/-- the reference state a valuation defines: registers `x1..x31`, CSRs, the bytes of `memory` -/
def stOf (ρ : Env) (pc : Nat) : St where
  x n := ρ.reg (xName n)
  csr n := ρ.reg (csrName n)
  mem a := ρ.mem memKey a
  pc := pc

theorem rel_stOf (ρ : Env) (pc : Nat) : Rel ρ (stOf ρ pc) := ⟨fun _ _ _ => rfl, fun _ _ => rfl, fun _ _ => rfl⟩

end Mltwist.Lemmas.Emulator
