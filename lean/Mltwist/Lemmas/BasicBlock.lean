import Mltwist.Lemmas.BasicBlockSplit
/-
C08: the behaviour of `Parse` on well-formed code, absence of panics, and the characterisation of `groups` as the
unique partition with given cuts.  On the way from `WF` to the sorted list the model's notions are tied to the
specification's: `sortIns` is `sortByAddr`, the targets `splitByJumpTargets` visits are `constTargets` of the sorted
list, which has the members of `constTargets` of the input, and the cuts of all stages together are `Cut` (`cut_eq`).
-/
namespace Mltwist.Lemmas.BasicBlock
open Mltwist Mltwist.BasicBlock Mltwist.BasicBlock.Spec

theorem splitAtJumps_eq (es : List Expr) (bs : List Block) :
    splitAtJumps es bs = (es.filterMap constAddr).foldlM blocksSplit bs := by
  induction es generalizing bs with
  | nil => rfl
  | cons e es ih =>
    simp only [splitAtJumps, List.filterMap_cons, ← constTarget_eq]
    cases constTarget e with
    | none => exact ih bs
    | some a =>
      simp only [List.foldlM_cons, bind, Except.bind]
      cases blocksSplit bs a with
      | error e => rfl
      | ok bs' => exact ih bs'

theorem foldlM_splitAtJumps (l : List Ins) (bs : List Block) :
    l.foldlM (fun bs ins => splitAtJumps ins.jumps bs) bs = (constTargets l).foldlM blocksSplit bs := by
  induction l generalizing bs with
  | nil => rfl
  | cons i l ih =>
    simp only [List.foldlM_cons, constTargets, List.flatMap_cons, List.foldlM_append, splitAtJumps_eq]
    simp only [bind, Except.bind]
    cases (i.jumps.filterMap constAddr).foldlM blocksSplit bs with
    | error e => rfl
    | ok bs' =>
      have := ih bs'
      simp only [splitAtJumps_eq, constTargets] at this
      exact this

theorem splitByJumpTargets_eq (orig : List Block) :
    splitByJumpTargets orig = (constTargets (orig.flatMap (·.seq))).foldlM blocksSplit orig :=
  foldlM_splitAtJumps _ _

theorem ginv_groups (cut : Ins → Ins → Bool) (hc : CutsGaps cut) (l : List Ins) (hl : SortedWF l) :
    GInv (groups cut l) :=
  ⟨by rw [groups_flatten]; exact hl, groups_ne_nil cut l, groups_contig cut hc l⟩

theorem foldlM_blocksSplit (l : List Ins) (hl : SortedWF l) (ts : List Nat) (cut : Ins → Ins → Bool)
    (hc : CutsGaps cut) :
    ((∀ t ∈ ts, t ∈ l.map (·.addr)) →
      ts.foldlM blocksSplit ((groups cut l).map newBlock) =
        .ok ((groups (fun a b => cut a b || ts.contains b.addr) l).map newBlock)) ∧
    ((∃ t ∈ ts, t ∉ l.map (·.addr)) →
      ∃ c, ts.foldlM blocksSplit ((groups cut l).map newBlock) = .error (.err c)) := by
  induction ts generalizing cut with
  | nil =>
    constructor
    · intro _
      have : (fun a b => cut a b || ([] : List Nat).contains b.addr) = cut := by
        funext a b; simp
      rw [this]; rfl
    · rintro ⟨t, ht, _⟩; cases ht
  | cons t ts ih =>
    obtain ⟨hok, herr⟩ := blocksSplit_groups (groups cut l) (ginv_groups cut hc l hl) t
    rw [groups_flatten] at hok herr
    simp only [List.foldlM_cons, bind, Except.bind]
    by_cases ht : t ∈ l.map (·.addr)
    · rw [hok ht, groups_flatMap_groups]
      obtain ⟨ih1, ih2⟩ := ih (fun a b => cut a b || atAddr t a b) (hc.or_left _)
      constructor
      · intro hall
        simp only
        rw [ih1 (fun t' ht' => hall t' (List.mem_cons_of_mem _ ht'))]
        have : (fun a b => (cut a b || atAddr t a b) || ts.contains b.addr) =
            (fun a b => cut a b || (t :: ts).contains b.addr) := by
          funext a b
          simp only [atAddr, List.contains_cons, Bool.or_assoc]
        rw [this]
      · rintro ⟨t', ht', hn⟩
        rcases List.mem_cons.1 ht' with rfl | ht'
        · exact absurd ht hn
        · exact ih2 ⟨t', ht', hn⟩
    · obtain ⟨c, hcE⟩ := herr ht
      rw [hcE]
      constructor
      · intro hall
        exact absurd (hall t (List.mem_cons_self ..)) ht
      · intro _
        exact ⟨c, rfl⟩

theorem foldlM_blocksSplit_nopanic (ts : List Nat) (bs : List Block) (hne : ∀ b ∈ bs, b.seq ≠ []) :
    ts.foldlM blocksSplit bs ≠ .error .panic ∧
    ∀ bs', ts.foldlM blocksSplit bs = .ok bs' → ∀ b ∈ bs', b.seq ≠ [] := by
  induction ts generalizing bs with
  | nil =>
    refine ⟨nofun, ?_⟩
    intro bs' h
    cases h
    exact hne
  | cons t ts ih =>
    obtain ⟨h1, h2⟩ := blocksSplit_nopanic bs hne t
    simp only [List.foldlM_cons, bind, Except.bind]
    cases hs : blocksSplit bs t with
    | error e =>
      refine ⟨?_, by intro bs' h; cases h⟩
      intro he
      cases he
      exact h1 hs
    | ok bs1 => exact ih bs1 (h2 bs1 hs)

theorem sortedWF_sortIns (ins : List Ins) (h : WF ins) : SortedWF (sortIns ins) := by
  have hp := sortIns_perm ins
  have hs := sortIns_sorted ins
  constructor
  · intro i hi
    exact h.1 i (hp.mem_iff.1 hi)
  · have h2 : (sortIns ins).Pairwise fun a b => a.addr + a.len ≤ b.addr ∨ b.addr + b.len ≤ a.addr :=
      (hp.pairwise_iff (fun {x y} hxy => hxy.symm)).2 h.2
    refine List.Pairwise.imp_of_mem ?_ (hs.and h2)
    intro a b ha hb hab
    have := (h.1 b (hp.mem_iff.1 hb)).1
    omega

theorem sortIns_eq_sortByAddr (ins : List Ins) (h : WF ins) : sortIns ins = sortByAddr ins := by
  have h1 := (sortedWF_sortIns ins h).addr_lt
  have hle : (sortByAddr ins).Pairwise fun a b => (decide (a.addr ≤ b.addr) : Bool) = true :=
    List.pairwise_mergeSort (le := fun a b => decide (a.addr ≤ b.addr))
      (fun a b c hab hbc => by simp only [decide_eq_true_eq] at *; omega)
      (fun a b => by simp only [Bool.or_eq_true, decide_eq_true_eq]; omega) ins
  have hperm : (sortByAddr ins).Perm ins := List.mergeSort_perm ins _
  -- the merge-sorted list is strictly sorted as well, because the addresses are distinct
  have hnd : (sortByAddr ins).Pairwise fun a b => a.addr ≠ b.addr := by
    have : (sortIns ins).Pairwise fun a b => a.addr ≠ b.addr :=
      h1.imp (fun hab => by omega)
    exact ((hperm.trans (sortIns_perm ins).symm).pairwise_iff (fun {x y} hxy => Ne.symm hxy)).2 this
  have h2 : (sortByAddr ins).Pairwise fun a b => a.addr < b.addr := by
    refine (hle.and hnd).imp ?_
    intro a b hab
    have := hab.1
    simp only [decide_eq_true_eq] at this
    have := hab.2
    omega
  exact List.Perm.eq_of_pairwise (le := fun a b => a.addr < b.addr)
    (fun a b _ _ hab hba => by omega) h1 h2 ((sortIns_perm ins).trans hperm.symm)

theorem mem_constTargets_sortIns (ins : List Ins) (t : Nat) :
    t ∈ constTargets (sortIns ins) ↔ t ∈ constTargets ins :=
  ((sortIns_perm ins).flatMap_right _).mem_iff

theorem mem_starts_sortIns (ins : List Ins) (a : Nat) :
    a ∈ (sortIns ins).map (·.addr) ↔ a ∈ starts ins :=
  ((sortIns_perm ins).map _).mem_iff

theorem cut_eq (entry : Nat) (ins : List Ins) :
    (fun a b => (cut0 a b || (constTargets (sortIns ins)).contains b.addr) || atAddr entry a b) =
      fun a b => decide (Cut entry ins a b) := by
  funext a b
  rw [Bool.eq_iff_iff, decide_eq_true_iff]
  simp only [cut0, gapB, jmpB, atAddr, Bool.or_eq_true, decide_eq_true_eq, beq_iff_eq, List.contains_iff_mem,
    mem_constTargets_sortIns, gt_iff_lt, List.length_pos_iff]
  -- both sides are the disjunction of the same conditions, in the order of the stages and in that of `Cut`
  apply iff_of_eq
  unfold Cut Ins.end_ M
  ac_rfl

theorem cutsGaps_cut0 : CutsGaps cut0 := by
  intro a b h
  simp [cut0, gapB, h]

theorem cutsGaps_cut (entry : Nat) (ins : List Ins) :
    CutsGaps fun a b => decide (Cut entry ins a b) := by
  rw [← cut_eq]
  exact (cutsGaps_cut0.or_left _).or_left _

theorem map_seq_map_newBlock (gs : List (List Ins)) : (gs.map newBlock).map (·.seq) = gs := by
  induction gs with
  | nil => rfl
  | cons g gs ih => simp only [List.map_cons, ih]; rfl

theorem parse_unfold (entry : Nat) (ins : List Ins) :
    parse entry ins =
      match (constTargets (sortIns ins)).foldlM blocksSplit ((groups cut0 (sortIns ins)).map newBlock) with
      | .error .panic => .error .panic
      | .error (.err c) => .error (.jumpTarget c)
      | .ok bs =>
        match blocksSplit bs entry with
        | .error .panic => .error .panic
        | .error (.err c) => .error (.entry c)
        | .ok bs' => .ok (bs'.map (·.seq)) := by
  simp only [parse, pipeline_eq, splitByJumpTargets_eq, List.flatMap_def, map_seq_map_newBlock, groups_flatten,
    bind, Except.bind, pure, Except.pure]
  cases (constTargets (sortIns ins)).foldlM blocksSplit ((groups cut0 (sortIns ins)).map newBlock) with
  | error e => cases e <;> rfl
  | ok bs =>
    simp only [liftStage]
    cases blocksSplit bs entry with
    | error e => cases e <;> rfl
    | ok bs' => rfl

theorem parse_wf (entry : Nat) (ins : List Ins) (h : WF ins) :
    ((∃ t ∈ constTargets ins, t ∉ starts ins) → ∃ c, parse entry ins = .error (.jumpTarget c)) ∧
    ((∀ t ∈ constTargets ins, t ∈ starts ins) →
      (entry ∉ starts ins → ∃ c, parse entry ins = .error (.entry c)) ∧
      (entry ∈ starts ins → parse entry ins = .ok (blocks entry ins))) := by
  have hl := sortedWF_sortIns ins h
  obtain ⟨hok, herr⟩ := foldlM_blocksSplit (sortIns ins) hl (constTargets (sortIns ins)) cut0 cutsGaps_cut0
  rw [parse_unfold]
  refine ⟨?_, fun hall => ?_⟩
  · rintro ⟨t, ht, hn⟩
    obtain ⟨c, hc⟩ := herr ⟨t, (mem_constTargets_sortIns ins t).2 ht,
      fun hm => hn ((mem_starts_sortIns ins t).1 hm)⟩
    exact ⟨c, by rw [hc]⟩
  · rw [hok (fun t ht => (mem_starts_sortIns ins t).2 (hall t ((mem_constTargets_sortIns ins t).1 ht)))]
    simp only
    obtain ⟨ho, he⟩ := blocksSplit_groups _ (ginv_groups _ (cutsGaps_cut0.or_left _) (sortIns ins) hl) entry
    rw [groups_flatten, mem_starts_sortIns] at ho he
    refine ⟨fun hentry => ?_, fun hentry => ?_⟩
    · obtain ⟨c, hc⟩ := he hentry
      exact ⟨c, by rw [hc]⟩
    · rw [ho hentry, groups_flatMap_groups]
      simp only [map_seq_map_newBlock]
      rw [cut_eq, blocks, ← sortIns_eq_sortByAddr ins h]

theorem parse_ok_iff (entry : Nat) (ins : List Ins) (h : WF ins) (bs : List (List Ins)) :
    parse entry ins = .ok bs ↔ ¬ Fails entry ins ∧ bs = blocks entry ins := by
  obtain ⟨h1, h2⟩ := parse_wf entry ins h
  constructor
  · intro hp
    by_cases ha : ∀ t ∈ constTargets ins, t ∈ starts ins
    · by_cases he : entry ∈ starts ins
      · rw [(h2 ha).2 he] at hp
        cases hp
        exact ⟨fun hF => hF.elim (absurd he) fun ⟨t, ht, hn⟩ => hn (ha t ht), rfl⟩
      · obtain ⟨c, hc⟩ := (h2 ha).1 he
        rw [hc] at hp
        cases hp
    · obtain ⟨c, hc⟩ := h1 (by simpa using ha)
      rw [hc] at hp
      cases hp
  · rintro ⟨hF, rfl⟩
    exact (h2 fun t ht => Decidable.not_not.1 fun hn => hF (.inr ⟨t, ht, hn⟩)).2
      (Decidable.not_not.1 fun hn => hF (.inl hn))

theorem any_isEmpty_eq_false {bs : List (List Ins)} (h : ∀ b ∈ bs, b ≠ []) :
    bs.any (·.isEmpty) = false :=
  List.any_eq_false.2 fun b hb => by
    cases b with
    | nil => exact absurd rfl (h _ hb)
    | cons _ _ => simp

theorem parse_nopanic (entry : Nat) (ins : List Ins) :
    parse entry ins ≠ .error .panic ∧ ∀ bs, parse entry ins = .ok bs → ∀ b ∈ bs, b ≠ [] := by
  have hne0 : ∀ b ∈ (groups cut0 (sortIns ins)).map newBlock, b.seq ≠ [] := by
    intro b hb
    obtain ⟨g, hg, rfl⟩ := List.mem_map.1 hb
    exact groups_ne_nil cut0 _ g hg
  obtain ⟨h1, h2⟩ := foldlM_blocksSplit_nopanic (constTargets (sortIns ins)) _ hne0
  rw [parse_unfold]
  cases hs : (constTargets (sortIns ins)).foldlM blocksSplit ((groups cut0 (sortIns ins)).map newBlock) with
  | error e =>
    cases e with
    | panic => exact absurd hs h1
    | err c => exact ⟨nofun, nofun⟩
  | ok bs =>
    simp only
    obtain ⟨h3, h4⟩ := blocksSplit_nopanic bs (h2 bs hs) entry
    cases hs2 : blocksSplit bs entry with
    | error e =>
      cases e with
      | panic => exact absurd hs2 h3
      | err c => exact ⟨nofun, nofun⟩
    | ok bs' =>
      refine ⟨nofun, ?_⟩
      intro bs'' h
      simp only [Except.ok.injEq] at h
      subst h
      intro b hb
      obtain ⟨b', hb', rfl⟩ := List.mem_map.1 hb
      exact h4 bs' hs2 b' hb'

theorem boundaryAt_cons (g : List Ins) (gs : List (List Ins)) (n : Nat) :
    BoundaryAt (g :: gs) n ↔ n = 0 ∨ ∃ n', n = g.length + n' ∧ BoundaryAt gs n' := by
  constructor
  · rintro ⟨m, hm⟩
    cases m with
    | zero => left; simpa using hm.symm
    | succ m =>
      right
      simp only [List.take_succ_cons, List.map_cons, List.sum_cons] at hm
      exact ⟨_, hm.symm, m, rfl⟩
  · rintro (rfl | ⟨n', rfl, m, hm⟩)
    · exact ⟨0, rfl⟩
    · exact ⟨m + 1, by simp only [List.take_succ_cons, List.map_cons, List.sum_cons, hm]⟩

theorem boundaryAt_succ_single (a : Ins) (G : List (List Ins)) (n : Nat) :
    BoundaryAt ([a] :: G) (n + 1) ↔ BoundaryAt G n := by
  rw [boundaryAt_cons]
  constructor
  · rintro (h | ⟨n', hn, hB⟩)
    · omega
    · obtain rfl : n = n' := by simpa [Nat.add_comm] using hn
      exact hB
  · exact fun h => .inr ⟨n, Nat.add_comm n 1, h⟩

theorem boundaryAt_succ_cons (a b : Ins) (g : List Ins) (gs : List (List Ins)) (n : Nat) :
    BoundaryAt ((a :: b :: g) :: gs) (n + 1) ↔ n ≠ 0 ∧ BoundaryAt ((b :: g) :: gs) n := by
  rw [boundaryAt_cons, boundaryAt_cons]
  simp only [List.length_cons]
  constructor
  · rintro (h | ⟨n', hn, hB⟩)
    · omega
    · exact ⟨by omega, .inr ⟨n', by omega, hB⟩⟩
  · rintro ⟨h0, h | ⟨n', hn, hB⟩⟩
    · omega
    · exact .inr ⟨n', by omega, hB⟩

theorem groups_boundary (cut : Ins → Ins → Bool) (l : List Ins) (k : Nat) (a b : Ins)
    (ha : l[k]? = some a) (hb : l[k + 1]? = some b) :
    BoundaryAt (groups cut l) (k + 1) ↔ cut a b = true := by
  revert k a b
  refine groups_induct cut (motive := fun l G => ∀ k a b, l[k]? = some a → l[k + 1]? = some b →
    (BoundaryAt G (k + 1) ↔ cut a b = true)) (fun _ _ _ ha => by simp at ha) (fun _ _ _ _ _ hb => by simp at hb)
    ?_ ?_ l
  · intro a0 b0 rest hc ih k a b ha hb
    rw [boundaryAt_succ_single]
    cases k with
    | zero =>
      cases ha; cases hb
      exact iff_of_true ⟨0, rfl⟩ hc
    | succ k => exact ih k a b ha hb
  · intro a0 b0 rest g gs hc _ ih k a b ha hb
    rw [boundaryAt_succ_cons]
    cases k with
    | zero =>
      cases ha; cases hb
      exact iff_of_false (fun h => h.1 rfl) (by rw [hc]; nofun)
    | succ k => exact (and_iff_right (Nat.succ_ne_zero k)).trans (ih k a b ha hb)

theorem groups_isPartition (cut : Ins → Ins → Prop) [DecidableRel cut] (l : List Ins) :
    IsPartition cut l (groups (fun a b => decide (cut a b)) l) :=
  ⟨groups_flatten _ l, groups_ne_nil _ l, fun k a b ha hb => (groups_boundary _ l k a b ha hb).trans decide_eq_true_iff⟩

theorem contiguous_of_contig (g : List Ins) (hc : Contig g) (hw : SortedWF g) : Contiguous g := by
  induction g with
  | nil => trivial
  | cons a rest ih =>
    cases rest with
    | nil => trivial
    | cons b rest => exact ⟨contig_head hc hw, ih hc.2 hw.tail⟩

theorem GInv.contiguous {gs : List (List Ins)} (hI : GInv gs) : ∀ g ∈ gs, Contiguous g :=
  fun g hg => contiguous_of_contig g (hI.contig g hg) (hI.wf_mem hg)

theorem ginv_blocks (entry : Nat) (ins : List Ins) (h : WF ins) :
    GInv (blocks entry ins) ∧ ∀ b ∈ blocks entry ins, ∀ x ∈ b, x ∈ ins := by
  rw [blocks, ← sortIns_eq_sortByAddr ins h]
  refine ⟨ginv_groups _ (cutsGaps_cut entry ins) (sortIns ins) (sortedWF_sortIns ins h), fun b hb x hx => ?_⟩
  refine (sortIns_perm ins).mem_iff.1 ?_
  rw [← groups_flatten (fun a b => decide (Cut entry ins a b)) (sortIns ins)]
  exact List.mem_flatten.2 ⟨b, hb, hx⟩

theorem eq_nil_of_flatten {bs : List (List Ins)} (hf : bs.flatten = []) (hne : ∀ b ∈ bs, b ≠ []) : bs = [] :=
  List.eq_nil_iff_forall_not_mem.2 fun b hb => hne b hb (List.flatten_eq_nil_iff.1 hf b hb)

theorem cons_of_flatten {bs : List (List Ins)} {a : Ins} {l : List Ins} (hf : bs.flatten = a :: l)
    (hne : ∀ b ∈ bs, b ≠ []) : ∃ g gs, bs = (a :: g) :: gs ∧ g ++ gs.flatten = l := by
  match bs, hf, hne with
  | [] :: _, _, hne => exact absurd rfl (hne _ (List.mem_cons_self ..))
  | (x :: g) :: gs, hf, _ =>
    cases hf
    exact ⟨g, gs, rfl, rfl⟩

/-- the converse of `groups_isPartition`: a partition is determined by its cuts.  Along the recursion of `groups`: the first
block is `[a]` iff position 1 is a boundary iff `a` is cut from its successor, and without `a` the blocks partition the rest with
the boundaries one to the left (`boundaryAt_succ_single`, `boundaryAt_succ_cons`). -/
theorem eq_groups_of_isPartition (cut : Ins → Ins → Prop) [DecidableRel cut] (l : List Ins) :
    ∀ bs : List (List Ins), IsPartition cut l bs → bs = groups (fun a b => decide (cut a b)) l := by
  induction l with
  | nil => exact fun bs h => eq_nil_of_flatten h.1 h.2.1
  | cons a l ih =>
    rintro bs ⟨hf, hne, hb⟩
    obtain ⟨g, gs, rfl, h⟩ := cons_of_flatten hf hne
    have hne' : ∀ b ∈ gs, b ≠ [] := fun b hb => hne b (List.mem_cons_of_mem _ hb)
    cases l with
    | nil =>
      obtain ⟨rfl, h⟩ := List.append_eq_nil_iff.1 h
      rw [eq_nil_of_flatten h hne']
      rfl
    | cons b rest =>
      have h0 : BoundaryAt ((a :: g) :: gs) 1 ↔ cut a b := hb 0 a b rfl rfl
      have hs : ∀ k x y, (b :: rest)[k]? = some x → (b :: rest)[k + 1]? = some y →
          (BoundaryAt ((a :: g) :: gs) (k + 1 + 1) ↔ cut x y) := fun k => hb (k + 1)
      cases g with
      | nil =>
        rw [groups_cons_cut (decide_eq_true (h0.1 ⟨1, rfl⟩)), ← ih gs ⟨h, hne', fun k x y hx hy =>
          (boundaryAt_succ_single a gs (k + 1)).symm.trans (hs k x y hx hy)⟩]
      | cons c g =>
        obtain ⟨rfl, rfl⟩ := List.cons.inj (List.cons_append ▸ h)
        have hc : ¬ cut a c := fun hc => ((boundaryAt_succ_cons a c g gs 0).1 (h0.2 hc)).1 rfl
        exact (groups_cons_join (decide_eq_false hc) (ih ((c :: g) :: gs)
          ⟨rfl, List.forall_mem_cons.2 ⟨List.cons_ne_nil _ _, hne'⟩, fun k x y hx hy =>
            ((and_iff_right (Nat.succ_ne_zero k)).symm.trans (boundaryAt_succ_cons a c g gs (k + 1)).symm).trans
              (hs k x y hx hy)⟩).symm).symm

end Mltwist.Lemmas.BasicBlock
