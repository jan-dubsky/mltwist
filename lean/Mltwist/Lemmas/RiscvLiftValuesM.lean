import Mltwist.Lemmas.RiscvLiftValues
/-
C01 library: the values of the M extension (`mul`, `mulh`, `mulhsu`, `mulhu`, `div`, `divu`, `rem`,
`remu`), generic in the register width `W ∈ {4, 8}` (`xlen = 8 * W`); `mul` and the divisions at an operating width
(`Width m n`).
-/
namespace Mltwist.Lemmas.RiscvLift
open Mltwist Mltwist.Riscv Mltwist.Spec.Rv Mltwist.Spec.Lift
open Mltwist.Lemmas.EvalBasic Mltwist.Lemmas.Gadgets
open Mltwist.Lemmas.TwosComplement
open Mltwist.Lemmas.Bytes (trunc_of_lt trunc_trunc trunc_zero trunc_one trunc_eq_mod)

/-- `a - wrap(tdiv a b) * b ≡ tmod a b`, with everything only known modulo `2^n` — `rem` -/
theorem sub_mul_tdiv_emod (n : Nat) {A B D : Nat} {sa sb : Int}
    (hA : (A : Int) % ((2 ^ n : Nat) : Int) = sa % ((2 ^ n : Nat) : Int))
    (hB : (B : Int) % ((2 ^ n : Nat) : Int) = sb % ((2 ^ n : Nat) : Int))
    (hD : D = wrap n (Int.tdiv sa sb)) :
    wrap n ((A : Int) - ((D * B % 2 ^ n : Nat) : Int)) = wrap n (Int.tmod sa sb) := by
  apply wrap_congr
  have hDc : (D : Int) % ((2 ^ n : Nat) : Int) = Int.tdiv sa sb % ((2 ^ n : Nat) : Int) := by
    rw [hD, natCast_wrap]; exact Int.emod_emod_of_dvd _ (Int.dvd_refl _)
  rw [Int.natCast_emod, Int.sub_emod_emod, Int.natCast_mul, Int.sub_emod, Int.mul_emod, hA, hDc, hB,
    ← Int.mul_emod, ← Int.sub_emod, Int.tmod_def, Int.mul_comm]

theorem width_intNegative (e : Expr) (w : Nat) : (Tools.intNegative e w).width = w := rfl

theorem sdiv_lt (n a b : Nat) : sdiv n a b < 2 ^ n := by
  unfold sdiv; split
  · have := Nat.two_pow_pos n; omega
  · exact wrap_lt _ _

namespace Ctx
variable {xlen W : Nat} {ρ : Env} {s : St} {w : Nat}

/-- the signed reading of a register operand read at `W'` bytes, AT ITS OWN WIDTH (one byte for `x0`),
is the reference's signed reading of the low `8 * W'` bits of the register -/
theorem toInt_regLoad' (h : Ctx xlen W ρ s w) (r : Reg) {a : Nat} {W' : Nat} :
    toInt (regLoad r ⟨a, w⟩ W').width ((regLoad r ⟨a, w⟩ W').eval ρ)
      = sx (8 * W') (s.get (regNum r w)) := by
  have he := h.eval_regLoad' r a W'
  rcases regLoad_cases r ⟨a, w⟩ W' with ⟨h0, hz⟩ | ⟨h0, -⟩
  · rw [hz, show regNum r w = 0 from h0]
    have : sx (8 * W') 0 = 0 := by
      unfold sx; simp [Nat.zero_mod, Nat.two_pow_pos]
    rw [St.get_zero, this]; rfl
  · rw [width_regLoad, if_neg h0, he, toInt_eq_sx (Bytes.trunc_lt' _ _), trunc_eq_mod, sx_mod]

theorem toInt_regLoad (h : Ctx xlen W ρ s w) (r : Reg) {a : Nat} :
    toInt (regLoad r ⟨a, w⟩ W).width ((regLoad r ⟨a, w⟩ W).eval ρ) = sx xlen (s.get (regNum r w)) := by
  rw [h.toInt_regLoad' r, h.hX]

theorem eval_mul (h : Ctx xlen W ρ s w) {a n m : Nat} (hw : Width m n) :
    (reg2Op (binOpFunc .mul) ⟨a, w⟩ n).eval ρ = (s.get (rs1 w) * s.get (rs2 w)) % 2 ^ m := by
  cases hw.bits
  simp only [reg2Op, binOpFunc, eval_binary, h.eval_rs1', h.eval_rs2', evalBin_mul, trunc_eq_mod, Nat.mod_mod]
  exact (Nat.mul_mod ..).symm

theorem trunc_const (h : Ctx xlen W ρ s w) (k : Nat) {v : Nat} (hk : 1 ≤ k) (hv : v < 2 ^ 8) :
    trunc (2 * W) ((constFromUint k v).eval ρ) = v := by
  have hW := h.W_pos
  exact trunc_eval_const ρ (Nat.lt_of_lt_of_le hv (Nat.pow_le_pow_right (by decide) (by omega)))
    (Nat.lt_of_lt_of_le hv (Nat.pow_le_pow_right (by decide) (by omega)))

/-- the high half of a product computed at twice the register width (`mulhu`, `mulh`, `mulhsu`): `P` is the
`2 * W`-byte product, `Q` its value -/
theorem eval_high (h : Ctx xlen W ρ s w) {P : Expr} {Q : Int} (k : Nat) (hk : 1 ≤ k)
    (hP : trunc (2 * W) (P.eval ρ) = wrap (8 * (2 * W)) Q) :
    (newWidthGadget (.binary .rsh P (constFromUint k (8 * W)) (2 * W)) W).eval ρ
      = wrap xlen (Q / ((2 ^ xlen : Nat) : Int)) := by
  -- the shift that selects the high half is the constant `xlen`
  have hS : trunc (2 * W) ((constFromUint k (8 * W)).eval ρ) = xlen :=
    h.hX ▸ h.trunc_const k hk (by have := h.xlen_le; omega)
  have hsh : xlen < 8 * (2 * W) := by have := h.hX; have := h.W_pos; omega
  have hm : 8 * (2 * W) = xlen + xlen := by have := h.hX; omega
  rw [eval_widthGadget, eval_binary, hS, hP, evalBin_rsh hsh, wrap_high hm]
  exact h.trunc_of_lt_xlen (wrap_lt _ _)

theorem eval_mulhu (h : Ctx xlen W ρ s w) {a : Nat} :
    (newWidthGadget (.binary .rsh (.binary .mul (regLoad .rs1 ⟨a, w⟩ W) (regLoad .rs2 ⟨a, w⟩ W)
        (2 * W)) (constFromUint 1 (8 * W)) (2 * W)) W).eval ρ
      = s.get (rs1 w) * s.get (rs2 w) / 2 ^ xlen := by
  have hXX : 2 ^ xlen ≤ 2 ^ (8 * (2 * W)) := Nat.pow_le_pow_right (by decide) (by have := h.hX; omega)
  have hA := Nat.lt_of_lt_of_le (h.wf.get_lt (rs1 w)) hXX
  have hB := Nat.lt_of_lt_of_le (h.wf.get_lt (rs2 w)) hXX
  rw [h.eval_high (Q := ((s.get (rs1 w) * s.get (rs2 w) : Nat) : Int)) 1 (Nat.le_refl 1), ← Int.natCast_ediv]
  · exact wrap_of_lt ((Nat.div_lt_iff_lt_mul (Nat.two_pow_pos _)).2 (Nat.mul_lt_mul'' (h.wf.get_lt _) (h.wf.get_lt _)))
  · rw [eval_binary, h.eval_rs1, h.eval_rs2, trunc_of_lt hA, trunc_of_lt hB, wrap_natCast]
    exact trunc_mod_self _ _

theorem eval_mulh (h : Ctx xlen W ρ s w) {a : Nat} :
    (newWidthGadget (.binary .rsh (Tools.signedMul (regLoad .rs1 ⟨a, w⟩ W) (regLoad .rs2 ⟨a, w⟩ W) W)
        (constFromUint 1 (8 * W)) (2 * W)) W).eval ρ
      = wrap xlen (sx xlen (s.get (rs1 w)) * sx xlen (s.get (rs2 w)) / ((2 ^ xlen : Nat) : Int)) := by
  have hW := h.W_pos
  have hW8 := h.W_le
  refine h.eval_high 1 (Nat.le_refl 1) ?_
  rw [eval_signedMul _ _ _ _ (by omega)
      ⟨width_regLoad_pos _ _ hW, by have := width_regLoad_le .rs1 ⟨a, w⟩ hW; omega⟩
      ⟨width_regLoad_pos _ _ hW, by have := width_regLoad_le .rs2 ⟨a, w⟩ hW; omega⟩]
  unfold Spec.smul
  rw [trunc_eval_width, trunc_eval_width, h.toInt_regLoad, h.toInt_regLoad, ofInt_eq_wrap, trunc_of_lt (wrap_lt _ _)]
  rfl

theorem eval_mulhsu (h : Ctx xlen W ρ s w) {a : Nat} :
    (Riscv.mulhsu (regLoad .rs1 ⟨a, w⟩ W) (regLoad .rs2 ⟨a, w⟩ W) W).eval ρ
      = wrap xlen (sx xlen (s.get (rs1 w)) * (s.get (rs2 w) : Int) / ((2 ^ xlen : Nat) : Int)) := by
  have hW := h.W_pos
  have hW8 := h.W_le
  have hX := h.hX
  have hXX : 2 ^ xlen ≤ 2 ^ (8 * (2 * W)) := Nat.pow_le_pow_right (by decide) (by omega)
  have hbit := h.trunc_const 2 (v := 8 * W - 1) (by decide) (by omega)
  have hA := Nat.lt_of_lt_of_le (h.wf.get_lt (rs1 w)) hXX
  have hB := Nat.lt_of_lt_of_le (h.wf.get_lt (rs2 w)) hXX
  refine h.eval_high 2 (by decide) ?_
  rw [eval_binary, eval_signExtend _ _ _ _ (by rw [hbit]; omega), hbit, sext_bridge (by omega), h.eval_rs1,
    h.eval_rs2, trunc_of_lt hA, trunc_of_lt hB]
  unfold Spec.Rv.sext
  rw [show 8 * W - 1 + 1 = xlen by omega, trunc_of_lt (wrap_lt _ _)]
  have hmul := wrap_mul (8 * (2 * W)) (sx xlen (s.get (rs1 w))) (s.get (rs2 w))
  rw [wrap_of_lt hB] at hmul
  exact (trunc_mod_self _ _).trans hmul

theorem eval_div (h : Ctx xlen W ρ s w) {a n m : Nat} (hw : Width m n) :
    (Tools.signedDiv (regLoad .rs1 ⟨a, w⟩ n) (regLoad .rs2 ⟨a, w⟩ n) n).eval ρ
      = sdiv m (s.get (rs1 w)) (s.get (rs2 w)) := by
  obtain ⟨rfl, h1, h255⟩ := hw
  rw [eval_signedDiv_of_widths _ _ _ _ h1 h255 (width_regLoad_pos _ _ h1) (width_regLoad_le _ _ h1)
    (width_regLoad_pos _ _ h1) (width_regLoad_le _ _ h1), h.toInt_regLoad',
    h.toInt_regLoad', h.eval_rs2']
  rfl

/-- `signedRem` computes `a - (a sdiv b) * b` -/
theorem eval_rem (h : Ctx xlen W ρ s w) {a n m : Nat} (hw : Width m n) :
    (signedRem (regLoad .rs1 ⟨a, w⟩ n) (regLoad .rs2 ⟨a, w⟩ n) n).eval ρ
      = srem m (s.get (rs1 w)) (s.get (rs2 w)) := by
  cases hw.bits
  unfold signedRem
  rw [Gadgets.eval_sub, eval_binary, h.eval_div hw, h.eval_rs1', h.eval_rs2', trunc_trunc,
    trunc_trunc]
  rw [evalBin_mul, trunc_mod_self, sub_eq_wrap, trunc_of_lt (sdiv_lt _ _ _)]
  unfold srem
  by_cases hB0 : s.get (rs2 w) % 2 ^ (8 * n) = 0
  · have hB' : trunc n (s.get (rs2 w)) = 0 := hB0
    rw [if_pos hB0, hB', Nat.mul_zero, Nat.zero_mod]
    simp only [Int.natCast_zero, Int.sub_zero]
    rw [wrap_natCast]
    exact trunc_trunc n _
  · rw [if_neg hB0]
    refine sub_mul_tdiv_emod (8 * n) ?_ ?_ ?_
    · rw [sx_emod, trunc_eq_mod, Int.natCast_emod]
      exact Int.emod_emod_of_dvd _ (Int.dvd_refl _)
    · rw [sx_emod, trunc_eq_mod, Int.natCast_emod]
      exact Int.emod_emod_of_dvd _ (Int.dvd_refl _)
    · unfold sdiv; rw [if_neg hB0]

/-- the IR's `div` is RISC-V's unsigned division (all ones for a zero divisor) -/
theorem eval_divu (h : Ctx xlen W ρ s w) {a n m : Nat} (hw : Width m n) :
    (reg2Op (binOpFunc .div) ⟨a, w⟩ n).eval ρ = udiv m (s.get (rs1 w)) (s.get (rs2 w)) := by
  cases hw.bits
  simp only [reg2Op, binOpFunc, eval_binary, h.eval_rs1', h.eval_rs2', evalBin_div, udiv,
    trunc_eq_mod, Nat.mod_mod]

theorem eval_remu (h : Ctx xlen W ρ s w) {a n m : Nat} (hw : Width m n) :
    (Tools.mod (regLoad .rs1 ⟨a, w⟩ n) (regLoad .rs2 ⟨a, w⟩ n) n).eval ρ
      = urem m (s.get (rs1 w)) (s.get (rs2 w)) := by
  cases hw.bits
  rw [eval_mod, h.eval_rs1', h.eval_rs2']
  simp only [Spec.umod, urem, trunc_eq_mod, Nat.mod_mod]

end Ctx

end Mltwist.Lemmas.RiscvLift
