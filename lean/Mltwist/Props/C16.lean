import Mltwist.Lemmas.OverlayInst
/-
C16 — layered memory reads through to its base.

Model (`Model/Overlay.lean`): a `View` is the three query methods (`Load`, `Missing`, `Blocks`) of a
`memory.Memory` in a given state; `Overlay.load/missing/blocks base over` follow `overlay.go` line by
line over two arbitrary views (every Go panic is an `Except.error`, in particular `Fail.overlayRead`
= "bug: read from overlay memory range … failed"); `Mem` collects `Bytes`, `Sparse` and `Overlay` of two
memories (any nesting); `MemMap` is `map.go`.

Vocabulary (`Spec/Overlay.lean`, `Spec/OverlayAbs.lean`): an abstract memory `AbsMem` maps an address to
an optional byte (its value under every valuation); `layer upper base` is "the upper byte if present,
else the base byte"; `MemLaws v m` are the memory laws that C14 and C15 establish (load succeeds iff
all bytes are present, then width `w` and value = little-endian byte sum under every valuation;
`Missing`/`Blocks` exact and in normal form; none panics), for ranges `InDom a w`
(`1 ≤ w ≤ 255`, `a + w < 2^64`).

"The base is never modified": memories are values here, `Store` returns the next state, and the base
component of the result is the old base (`store_spec`, `store_overlay`); no other operation returns a
memory.  For the Go objects this is an aliasing statement; the harness re-reads blocks and content of
every base after each history (`base:unchanged`).
-/
namespace Mltwist.Props.C16
open Mltwist Mltwist.Overlay Mltwist.Interval Mltwist.Spec.Overlay

/-- the overlay of two memories that satisfy the memory laws satisfies the same laws for the layered
byte map; since every conclusion of the laws is an `.ok`, no operation of the overlay panics -/
theorem overlay_laws {b o : View} {mb mo : AbsMem} (hb : MemLaws b mb) (ho : MemLaws o mo) :
    MemLaws (Overlay.view b o) (layer mo mb) :=
  Lemmas.Overlay.overlay_laws hb ho

/-- spelled out for `Load`: it succeeds exactly when every byte is available in some layer, and then
each byte reads as the upper byte if there is one and otherwise as the base byte -/
theorem overlay_load {b o : View} {mb mo : AbsMem} (hb : MemLaws b mb) (ho : MemLaws o mo)
    (a w : Nat) (hd : InDom a w) :
    ∃ r, Overlay.load b o a w = .ok r ∧
      (r ≠ none ↔ ∀ i, i < w → (mo (a + i) ≠ none ∨ mb (a + i) ≠ none)) ∧
      ∀ e, r = some e → e.width = w ∧
        ∀ ρ, e.eval ρ = Spec.Sparse.sumBytes (fun i => byteOf ρ (layer mo mb (a + i))) w := by
  obtain ⟨r, h1, h2, _⟩ := Lemmas.Overlay.overlay_load hb ho a w hd
  refine ⟨r, h1, ?_, h2.law.2⟩
  rw [h2.some_iff]
  refine forall_congr' fun i => imp_congr_right fun _ => ?_
  simp only [ne_eq, Lemmas.Overlay.layer_none, Classical.not_and_iff_not_or_not]

/-- the missing ranges are exactly the bytes of the range available in neither layer -/
theorem overlay_missing {b o : View} {mb mo : AbsMem} (hb : MemLaws b mb) (ho : MemLaws o mo)
    (a w : Nat) (hd : InDom a w) :
    ∃ l, Overlay.missing b o a w = .ok l ∧ Normal l ∧
      ∀ x : Int, Interval.Mem x l ↔
        ((a : Int) ≤ x ∧ x.toNat < a + w ∧ mo x.toNat = none ∧ mb x.toNat = none) := by
  obtain ⟨l, h1, h2⟩ := Lemmas.Overlay.overlay_missing hb ho a w hd
  refine ⟨l, h1, h2.normal, fun x => ?_⟩
  rw [h2.mem x, Lemmas.Overlay.layer_none]

/-- the stored blocks are the union of both layers -/
theorem overlay_blocks {b o : View} {mb mo : AbsMem} (hb : MemLaws b mb) (ho : MemLaws o mo) :
    ∃ l, Overlay.blocks b o = .ok l ∧ Normal l ∧
      ∀ x : Int, Interval.Mem x l ↔ ((0 : Int) ≤ x ∧ (mo x.toNat ≠ none ∨ mb x.toNat ≠ none)) := by
  obtain ⟨l, h1, h2⟩ := Lemmas.Overlay.overlay_blocks hb ho
  refine ⟨l, h1, h2.normal, fun x => ?_⟩
  simp only [h2.mem x, ne_eq, Lemmas.Overlay.layer_none, Classical.not_and_iff_not_or_not]

/-- the `bug: read from overlay memory range` panic (and every other failure point) is unreachable -/
theorem overlay_no_panic {b o : View} {mb mo : AbsMem} (hb : MemLaws b mb) (ho : MemLaws o mo)
    (a w : Nat) (hd : InDom a w) (f : Fail) :
    Overlay.load b o a w ≠ .error f ∧ Overlay.missing b o a w ≠ .error f ∧ Overlay.blocks b o ≠ .error f := by
  obtain ⟨_, h1, _⟩ := Lemmas.Overlay.overlay_load hb ho a w hd
  obtain ⟨_, h2, _⟩ := Lemmas.Overlay.overlay_missing hb ho a w hd
  obtain ⟨_, h3, _⟩ := Lemmas.Overlay.overlay_blocks hb ho
  rw [h1, h2, h3]
  exact ⟨nofun, nofun, nofun⟩

/-- C14: a sparse memory satisfying its invariant -/
theorem sparse_laws (t : Sparse.Tree) (hinv : Sparse.Inv t) :
    MemLaws (sparseView t) (ofSparse (Sparse.abs t)) :=
  Lemmas.Overlay.sparse_laws t hinv

/-- C15: a byte memory satisfying its invariant -/
theorem bytes_laws (bs : List BytesMem.Block) (hinv : BytesSpec.Inv bs) :
    MemLaws (bytesView bs) (ofBytes (BytesSpec.ofBlocks bs)) :=
  Lemmas.Overlay.bytes_laws bs hinv

/-- every stack of memories (any nesting of overlays) whose layers satisfy their invariants -/
theorem mem_laws (m : Mem) (h : m.Inv) : MemLaws m.view m.abs := Lemmas.Overlay.mem_laws m h

/-- the layering the tool uses: a writable sparse layer over the read-only byte image -/
theorem sparse_over_bytes (bs : List BytesMem.Block) (t : Sparse.Tree) (hb : BytesSpec.Inv bs)
    (ht : Sparse.Inv t) :
    MemLaws (Mem.overlay (.bytes bs) (.sparse t)).view
      (layer (ofSparse (Sparse.abs t)) (ofBytes (BytesSpec.ofBlocks bs))) :=
  Lemmas.Overlay.mem_laws (.overlay (.bytes bs) (.sparse t)) ⟨hb, ht⟩

/-- `Store` never panics, keeps the invariants, updates the layered byte map by the `w` bytes of the
value, and the base of the resulting overlay is the old base -/
theorem store_spec (m : Mem) (a : Nat) (e : Expr) (w : Nat) (hinv : m.Inv) (hst : m.Storable e)
    (hd : InDom a w) :
    ∃ m', m.store a e w = .ok m' ∧ m'.Inv ∧ m'.abs = m.abs.store a e w ∧ m'.base = m.base :=
  Lemmas.Overlay.mem_store m a e w hinv hst hd

/-- the base is never modified: whatever `Store` on an overlay returns has the same base, and the
write goes to the overlay layer -/
theorem store_overlay (b o : Mem) (a : Nat) (e : Expr) (w : Nat) (m' : Mem)
    (h : (Mem.overlay b o).store a e w = .ok m') : ∃ o', o.store a e w = .ok o' ∧ m' = .overlay b o' :=
  Lemmas.Overlay.store_overlay_ok h

/-- sparse over bytes: every store of every expression succeeds and leaves the byte image alone -/
theorem sparse_over_bytes_store (bs : List BytesMem.Block) (t : Sparse.Tree) (hb : BytesSpec.Inv bs)
    (ht : Sparse.Inv t) (a : Nat) (e : Expr) (w : Nat) (hd : InDom a w) :
    ∃ t', (Mem.overlay (.bytes bs) (.sparse t)).store a e w = .ok (.overlay (.bytes bs) (.sparse t')) ∧
      Sparse.Inv t' ∧
      (Mem.overlay (.bytes bs) (.sparse t')).abs = (Mem.overlay (.bytes bs) (.sparse t)).abs.store a e w := by
  obtain ⟨m', h1, h2, h3, _⟩ := store_spec (.overlay (.bytes bs) (.sparse t)) a e w ⟨hb, ht⟩ trivial hd
  obtain ⟨o', g1, rfl⟩ := store_overlay _ _ a e w m' h1
  obtain ⟨t', -, rfl⟩ := Lemmas.Overlay.store_sparse_ok g1
  exact ⟨t', h1, h2.2, h3⟩

/-- For every base `b`, every upper layer `o` and every history of (supported, in-domain) writes to the
layered memory: nothing panics; the result is an overlay of the SAME base `b` and the upper layer after
the history; its byte map is "the most recent write to the upper layer if there is one, otherwise the
base byte"; and it obeys the memory laws for that map (reads succeed exactly when every byte is in
some layer, missing ranges and blocks are exact). -/
theorem history_spec (b o : Mem) (hb : b.Inv) (ho : o.Inv) (hist : List Sparse.StoreReq)
    (hst : ∀ r ∈ hist, o.Storable r.ex) (hd : ∀ r ∈ hist, InDom r.addr r.w) :
    ∃ o', runStores (.overlay b o) hist = .ok (.overlay b o') ∧ o'.Inv ∧
      o'.abs = absStores o.abs hist ∧
      MemLaws (Mem.overlay b o').view (layer (absStores o.abs hist) b.abs) := by
  obtain ⟨o', h1, h2, h3⟩ := Lemmas.Overlay.history_ok hist o ho hst hd
  refine ⟨o', ?_, h2, h3, ?_⟩
  · rw [Lemmas.Overlay.runStores_overlay, h1]
  · rw [← h3]
    exact Lemmas.Overlay.mem_laws (.overlay b o') ⟨hb, h2⟩

/-- the replayed byte map: an address inside the range of a later write holds that write's byte -/
theorem absStores_last (A : AbsMem) (hist : List Sparse.StoreReq) (r : Sparse.StoreReq) (x : Nat) :
    absStores A (hist ++ [r]) x =
      if r.addr ≤ x ∧ x < r.addr + r.w
      then some (fun ρ => (trunc r.w (r.ex.eval ρ) / 256 ^ (x - r.addr)) % 256)
      else absStores A hist x := by
  induction hist generalizing A with
  | nil => rfl
  | cons h t ih => exact ih _

/-- the address space of a key obeys the memory laws; an unknown key is an empty memory -/
theorem memmap_laws (m : MemMap) (hinv : m.Inv) (key : String) : MemLaws (m.view key) (m.abs key) :=
  Lemmas.Overlay.memmap_laws m hinv key

/-- `MemMap.Store` updates the address space of its key (creating a sparse memory for an unknown key)
and no other -/
theorem memmap_store (m : MemMap) (hinv : m.Inv) (key : String) (a : Nat) (e : Expr) (w : Nat)
    (hst : m.Storable key e) (hd : InDom a w) :
    ∃ m', m.store key a e w = .ok m' ∧ m'.Inv ∧ m'.abs key = (m.abs key).store a e w ∧
      ∀ key', key' ≠ key → assocGet key' m' = assocGet key' m :=
  Lemmas.Overlay.memmap_store m hinv key a e w hst hd

/-- base `[0,5)` = 01..05 and `[10,12)`, upper layer `[3,7)`: a read of `[0,7)` is composed of a base
read and an overlay read; `[0,8)` fails (7 is in no layer) -/
example :
    let m0 := Mem.overlay (.bytes [(0, [1, 2, 3, 4, 5]), (10, [0xaa, 0xbb])]) (.sparse [])
    (m0.store 3 (.regLoad "x" 4) 4).toOption.map (fun m => ((m.load 0 7).toOption, (m.load 0 8).toOption))
      = some (some (some (Tools.bitOr (.const [1, 2, 3])
                (.binary .lsh (.regLoad "x" 4) (.const [24, 0]) 7) 7)), some none) := by
  decide

/-- … missing ranges and the base after the store (`mapUnion` of `Blocks` is defined by well-founded
recursion and does not reduce in the kernel; it is exercised by the correspondence run) -/
example :
    let m0 := Mem.overlay (.bytes [(0, [1, 2, 3, 4, 5]), (10, [0xaa, 0xbb])]) (.sparse [])
    (m0.store 3 (.regLoad "x" 4) 4).toOption.map (fun m => (m.missing 0 16).toOption)
      = some (some [(7, 10), (12, 16)])
    ∧ (m0.store 3 (.regLoad "x" 4) 4).toOption.map (fun m => m.base)
      = some (some (.bytes [(0, [1, 2, 3, 4, 5]), (10, [0xaa, 0xbb])])) := by
  decide

/-- the F33 shape: the missing sets `{[1,3),[8,14),[18,23)}` of the base and `{[5,21),[23,24)}` of the
upper layer: a gap of the upper layer spans two gaps of the base -/
example :
    let m0 := Mem.overlay (.bytes [(0, [9]), (3, [9, 9, 9, 9, 9]), (14, [9, 9, 9, 9]), (23, [9])]) (.sparse [])
    ((m0.store 0 (.const [1]) 5).toOption.bind fun m1 => (m1.store 21 (.const [2]) 2).toOption).map
        (fun m => ((m.missing 0 24).toOption, (m.load 3 5).toOption.map (·.isSome),
          (m.load 20 2).toOption.map (·.isSome)))
      = some (some [(8, 14), (18, 21)], some true, some false) := by
  decide

end Mltwist.Props.C16
