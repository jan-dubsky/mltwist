import Mltwist.Lemmas.Const
/-
C27 — constants encode integers exactly.

`natToLE w x` is the `w`-byte little-endian encoding of `x mod 2^(8w)`; `Spec.ofInt w i` is the
two's-complement residue of `i`.  The last clause of the property ("a constant never changes when
the caller later modifies the bytes it was created from") is a statement about Go slice aliasing:
values are immutable here, and the real constructor is exercised by the `newconst` correspondence
operation, which overwrites the caller's slice after construction.
-/
namespace Mltwist.Props.C27
open Mltwist

/-- the encoding is a bijection between `w`-byte strings and residues mod `2^(8w)` -/
theorem natToLE_length (w x : Nat) : (natToLE w x).length = w := Lemmas.Bytes.natToLE_length w x
theorem leToNat_natToLE (w x : Nat) : leToNat (natToLE w x) = x % 2 ^ (8 * w) :=
  Lemmas.Bytes.leToNat_natToLE w x
theorem natToLE_leToNat (bs : List UInt8) : natToLE bs.length (leToNat bs) = bs :=
  Lemmas.Bytes.natToLE_leToNat bs

/-- `NewConstUint`: the `w`-byte encoding, failing exactly outside `[0, 2^(8w))` -/
theorem newConstUint_spec (val w : Nat) :
    Const.newConstUint val w = if val < 2 ^ (8 * w) then some (natToLE w val) else none := by
  unfold Const.newConstUint
  rw [← Lemmas.Bytes.two_pow_eight_mul]
  by_cases hv : val < 2 ^ (8 * w)
  · rw [Nat.div_eq_of_lt hv, if_neg (Nat.lt_irrefl 0), if_pos hv]
  · rw [if_pos (Nat.div_pos (Nat.le_of_not_lt hv) (Nat.two_pow_pos _)), if_neg hv]

/-- `NewConstInt`: the `w`-byte two's-complement encoding, failing exactly outside
`[-2^(8w-1), 2^(8w-1))` -/
theorem newConstInt_spec (val : Int) (w : Nat) (hw : 1 ≤ w) :
    Const.newConstInt val w =
      if -(2 ^ (8 * w - 1) : Int) ≤ val ∧ val < (2 ^ (8 * w - 1) : Int)
      then some (natToLE w (Spec.ofInt w val)) else none :=
  Lemmas.Const.newConstInt_spec val w hw

/-- `ConstUint[T]`: the low `sizeof(T)` bytes and whether the value fits (also of the empty constant, which reads as 0:
`hb` is not needed) -/
theorem constUint_spec (size : Nat) (bs : List UInt8) (hs : 1 ≤ size) (hb : bs ≠ []) :
    Const.constUint size bs =
      (leToNat bs % 2 ^ (8 * size), decide (leToNat bs < 2 ^ (8 * size))) :=
  Lemmas.Const.constUint_spec size bs hs

theorem withWidth_spec (bs : List UInt8) (w : Nat) :
    Const.withWidth bs w = natToLE w (leToNat bs) := Lemmas.Const.withWidth_spec bs w

theorem newConst_spec (b : List UInt8) (w : Nat) :
    Const.newConst b w = natToLE w (leToNat b) := Lemmas.Const.newConst_spec b w

/-- non-vacuity / the F18 witness: 200 does not fit one signed byte, -56 does -/
example : Const.newConstInt 200 1 = none ∧ Const.newConstInt (-56) 1 = some [0xc8] := by decide

end Mltwist.Props.C27
