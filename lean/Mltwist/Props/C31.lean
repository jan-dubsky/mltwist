import Mltwist.Lemmas.ListingEntry
/-
C31 — navigation commands land on the right line.

For every state of the disassembler mode reachable by any history of commands (`Reachable`; the code
model underneath is abstract as in C23: any `Spec.Lawful` code operations, any well-formed code):
`up N`, `down N`, `goto N`, `find` and `entrypoint` do not panic, change nothing but the cursor, and
either report success with the cursor on the specified line or do not report success and leave the
cursor where it was (`Spec.Lands`).

* numeric arguments are what the argument parser delivers: `0 ≤ N ≤ MaxInt`; the listing has fewer than
  `2^63` lines (a Go slice length); `cursor + N` of `down` is computed in 64-bit two's complement;
* the regular expression library is a parameter: `find` is given the vector "line i matches the pattern"
  (`none`: the pattern does not compile), one entry per line;
* `find` without a match shows a message and returns no error (`Status.noMatch`): not a success.
-/
namespace Mltwist.Props.C31
open Mltwist.Listing Mltwist.Listing.Spec
open Mltwist.Lemmas.Listing (Reachable)

/-- a navigation command leaves listing (marks included) and code alone -/
def OnlyCursor (st st' : St) : Prop := st'.lines = st.lines ∧ st'.code = st.code

/-- `up N`: the line `N` above the cursor, or an error when there are fewer than `N` lines above -/
theorem up_lands (ops : CodeOps) (hl : Lawful ops) (c : Code) (hwf : WF c) (st : St) (h : Reachable ops c st)
    (hfit : st.lines.lines.length ≤ maxInt) (n : Nat) (hn : n ≤ maxInt) :
    ∃ s st', step ops st (.up n) = some (s, st') ∧ OnlyCursor st st' ∧
      Lands (expectUp st.cursor.value n) (s = .ok) st.cursor.value st'.cursor.value := by
  have hinv := (Lemmas.Listing.reachable_inv ops hl c hwf st h).inv
  obtain ⟨s, st', h1, nv⟩ := Lemmas.Listing.up_spec ops st hinv n hn hfit
  exact ⟨s, st', h1, ⟨nv.keeps.lines, nv.keeps.code⟩, nv.lands⟩

/-- `down N`: the line `N` below the cursor, or an error when it is beyond the last line — also when
`cursor + N` overflows -/
theorem down_lands (ops : CodeOps) (hl : Lawful ops) (c : Code) (hwf : WF c) (st : St) (h : Reachable ops c st)
    (hfit : st.lines.lines.length ≤ maxInt) (n : Nat) (hn : n ≤ maxInt) :
    ∃ s st', step ops st (.down n) = some (s, st') ∧ OnlyCursor st st' ∧
      Lands (expectDown st.lines.lines.length st.cursor.value n) (s = .ok) st.cursor.value st'.cursor.value := by
  have hinv := (Lemmas.Listing.reachable_inv ops hl c hwf st h).inv
  obtain ⟨s, st', h1, nv⟩ := Lemmas.Listing.down_spec ops st hinv n hn hfit
  exact ⟨s, st', h1, ⟨nv.keeps.lines, nv.keeps.code⟩, nv.lands⟩

/-- `goto N`: line `N`, or an error when there is no such line (`N = len` and `N > len` alike) -/
theorem goto_lands (ops : CodeOps) (hl : Lawful ops) (c : Code) (hwf : WF c) (st : St) (h : Reachable ops c st)
    (n : Nat) :
    ∃ s st', step ops st (.goto n) = some (s, st') ∧ OnlyCursor st st' ∧
      Lands (expectGoto st.lines.lines.length n) (s = .ok) st.cursor.value st'.cursor.value := by
  have hinv := (Lemmas.Listing.reachable_inv ops hl c hwf st h).inv
  obtain ⟨s, st', h1, nv⟩ := Lemmas.Listing.goto_spec ops st hinv n
  exact ⟨s, st', h1, ⟨nv.keeps.lines, nv.keeps.code⟩, nv.lands⟩

/-- `find`: the first matching line among `cursor+1, …, len-1, 0, …, cursor-1` (`Spec.cyclicAfter`: after
the cursor, cyclically, the cursor line excluded); no success when no such line matches or the pattern
does not compile.  No panic with the cursor on the last line (F22). -/
theorem find_lands (ops : CodeOps) (hl : Lawful ops) (c : Code) (hwf : WF c) (st : St) (h : Reachable ops c st)
    (ms : Option (List Bool)) (hms : ValidCmd st.lines.lines.length (.find ms)) :
    ∃ s st', step ops st (.find ms) = some (s, st') ∧ OnlyCursor st st' ∧
      Lands (expectFind ms st.lines.lines.length st.cursor.value) (s = .ok) st.cursor.value st'.cursor.value := by
  have hinv := (Lemmas.Listing.reachable_inv ops hl c hwf st h).inv
  obtain ⟨s, st', h1, nv⟩ := Lemmas.Listing.find_spec ops st hinv ms hms
  exact ⟨s, st', h1, ⟨nv.keeps.lines, nv.keeps.code⟩, nv.lands⟩

/-- what `cyclicAfter` enumerates: every line but the cursor line, exactly once (`len - 1` lines),
starting right after the cursor -/
theorem cyclicAfter_spec (len cur : Nat) (hc : cur < len) :
    (cyclicAfter len cur).length = len - 1 ∧ cur ∉ cyclicAfter len cur ∧
      ∀ i ∈ cyclicAfter len cur, i < len := by
  refine ⟨by simp [cyclicAfter], ?_, ?_⟩
  · intro hmem
    simp only [cyclicAfter, List.mem_map, List.mem_range] at hmem
    obtain ⟨k, hk, hk2⟩ := hmem
    exact Lemmas.Listing.succ_mod_ne len cur k hc (by omega) hk2
  · intro i hi
    simp only [cyclicAfter, List.mem_map, List.mem_range] at hi
    obtain ⟨k, _, rfl⟩ := hi
    exact Nat.mod_lt _ (by omega)

/-- `entrypoint`: the row, in the current listing, of the entry instruction — the first (and by
`lookups_exact` the only) instruction whose current address is the entry point; no success and no change
when there is none.  `Spec.AddrWF` (current addresses ascend inside every block, blocks do not overlap) is
what `Code.Address`/`Block.Address` need; it concerns the code model underneath and is re-checked by the
model driver on every dump of the implementation. -/
theorem entrypoint_lands (ops : CodeOps) (hl : Lawful ops) (c : Code) (hwf : WF c) (st : St)
    (h : Reachable ops c st) (ha : AddrWF st.code) :
    ∃ s st', step ops st .entrypoint = some (s, st') ∧ OnlyCursor st st' ∧ st.code.entry = c.entry ∧
      Lands (expectEntry st.code) (s = .ok) st.cursor.value st'.cursor.value := by
  have k := Lemmas.Listing.reachable_inv ops hl c hwf st h
  obtain ⟨s, st', h1, nv⟩ := Lemmas.Listing.entry_spec ops st k.inv ha
  exact ⟨s, st', h1, ⟨nv.keeps.lines, nv.keeps.code⟩, k.entry, nv.lands⟩

/-- `entrypoint`, what holds without assumptions on addresses: it succeeds iff the two address
look-ups of the command (`Code.Address`, `Block.Address`) find an instruction; then the cursor is on the
row — in the current listing, i.e. after all block and instruction moves (F23) — of an instruction
whose current address is the entry point; otherwise nothing changes. -/
theorem entrypoint_lands_partial (ops : CodeOps) (hl : Lawful ops) (c : Code) (hwf : WF c) (st : St)
    (h : Reachable ops c st) :
    ∃ s st', step ops st .entrypoint = some (s, st') ∧ OnlyCursor st st' ∧ st.code.entry = c.entry ∧
      ((s = .ok ∧ ∃ (k j : Nat) (b : Block) (x : Ins), st.code.blocks[k]? = some b ∧ b.ins[j]? = some x ∧
          x.addr = st.code.entry ∧ st'.cursor.value = lineOf st.code k j) ∨
       (s ≠ .ok ∧ st'.cursor = st.cursor)) := by
  have k := Lemmas.Listing.reachable_inv ops hl c hwf st h
  obtain ⟨s, st', h1, nk, h2⟩ := Lemmas.Listing.entry_lands_cases ops st k.inv
  exact ⟨s, st', h1, ⟨nk.lines, nk.code⟩, k.entry, h2⟩

/-- two blocks: `a`,`b` at 0x10 (entry point), and `c` at 0x20; 7 lines -/
def exCode : Code := ⟨16, [
  ⟨0, 16, 24, [⟨"a", [0x1f, 2], 0, 16, 0, 0⟩, ⟨"b", [3], 1, 20, 1, 1⟩]⟩,
  ⟨1, 32, 36, [⟨"c", [0xab], 0, 32, 0, 0⟩]⟩]⟩

/-- status and cursor after every command of a history -/
def trace : St → List Cmd → List (Option (Status × Nat))
  | _, [] => []
  | st, c :: cs =>
    match step refOps st c with
    | none => [none]
    | some (s, st') => some (s, st'.cursor.value) :: trace st' cs

-- lines matching "Block": 0 and 4; blank lines: 3 and 6
example : trace (St.init exCode)
    [.down 6, .down 1, .down maxInt, .up 7, .up 2, .goto 7, .goto 8, .goto 6,
     .find (some [true, false, false, false, true, false, false]),     -- from the last line: wraps to 0
     .find (some [true, false, false, false, true, false, false]),     -- then 4
     .goto 3, .find (some [false, false, false, true, false, false, false]),   -- only the cursor line matches
     .find none,
     .move 0 4, .entrypoint]                                            -- block move, then the entry row: 4
  = [some (.ok, 6), some (.err .tooHigh, 6), some (.err .negative, 6), some (.err .negative, 6), some (.ok, 4),
     some (.err .tooHigh, 4), some (.err .tooBig, 4), some (.ok, 6),
     some (.ok, 0), some (.ok, 4),
     some (.ok, 3), some (.noMatch, 3),
     some (.err .regex, 3),
     some (.ok, 3), some (.ok, 4)] := by decide +kernel

example : expectFind (some [true, false, false, false, true, false, false]) 7 6 = .moved 0
    ∧ expectFind (some [false, false, false, true, false, false, false]) 7 3 = .failed
    ∧ expectDown 7 6 maxInt = .failed ∧ expectUp 6 2 = .moved 4 ∧ expectGoto 7 7 = .failed
    ∧ expectEntry exCode = .moved 1 := by decide +kernel

-- F22, pinned code: the search started at `offset + 1 = len` and indexed the listing out of range
example : findLoop [true, false, false] 3 2 4 (findStart false 3 2) = .panic
    ∧ findLoop [true, false, false] 3 2 4 (findStart true 3 2) = .found 0 := by decide +kernel

end Mltwist.Props.C31
