import Mltwist.Lemmas.DepsLookup
import Mltwist.Lemmas.DepsNew
/-
C07 — move bookkeeping stays consistent across any history.

Model (`Model/Deps.lean`): `Block.move` (`checkMove`, `LowerBound`/`UpperBound` = `findBound` over
`depsBack`/`depsFwd` with the current `blockIdx`, `move`/`moveFwd`/`moveBack` with index and
address reassignment), `Block.address` (binary search on current addresses), `Code.move` (blocks
permuted, `blocksByAddr` = `store` keeps every address), `Code.address`, `Code.step` (one operation
of a history), `Code.run`.  Go panics are explicit outcomes.

Invariant: `BInv b` (`Lemmas/DepsInv.lean`) — indices are positions, the ids are a permutation of
`0 … n-1`, the instructions tile `[begin, begin + bytes)` in their current order with positive
lengths, nothing wraps, `end = (begin + bytes) mod 2^64`, every edge points forward — and `CInv c`
(`Lemmas/DepsCodeInv.lean`): every block object satisfies `BInv`, pointers are positions in
`blocksByAddr`, `blocks` is a permutation of all pointers, block indices are positions, the block
objects are sorted by address and disjoint.  `BInv`/`CInv` imply the specification's `VBlock.Inv` /
`VCode.Inv` (`Spec/Deps.lean`) on the view of the state.

Well-formed input (`WF`, as for C08): positive lengths, `addr + len ≤ 2^64`, no two instructions
overlap.  The model follows the code with the repairs F07, F08 (dependency finders) and F40
(`Code.Address` compares with the last byte of a block, so a block ending at `2^64` is found).
-/
namespace Mltwist.Props.C07
open Mltwist Mltwist.Deps Mltwist.Deps.Spec Mltwist.Lemmas.Deps

/-- a raw instruction: type bits, address, length, effects -/
abbrev Raw := Nat × Nat × Nat × List Effect

/-- well-formed code (the `WF` of C08 on the instructions as `basicblock` sees them) -/
def WF (raw : List Raw) : Prop := BasicBlock.Spec.WF (toBB raw)

instance (raw : List Raw) : Decidable (WF raw) := by unfold WF; infer_instance

/-- a move succeeds exactly when both positions are valid and the target lies within the bounds
the tool reports for that instruction -/
theorem move_accepted_iff (b : Block) (hb : BInv b) (f t : Int) :
    (∃ b', b.move f t = .ok b') ↔
      0 ≤ f ∧ f < b.seq.length ∧ 0 ≤ t ∧ t < b.seq.length ∧
      ∃ lo up : Int, b.lowerBound f = some lo ∧ b.upperBound f = some up ∧ lo ≤ t ∧ t ≤ up :=
  Iff.trans ⟨fun ⟨_, h⟩ => move_ok_check h, hb.move_accepted⟩ <| (hb.checkMove_iff f t).trans
    ⟨fun h => ⟨h.valid.1, h.valid.2.1, h.valid.2.2.1, h.valid.2.2.2, h.within⟩,
      fun ⟨h0, h1, h2, h3, h⟩ => ⟨⟨h0, h1, h2, h3⟩, h⟩⟩

/-- a rejected move is an index or bound error — the tool never panics on a move -/
theorem move_never_panics (b : Block) (hb : BInv b) (f t : Int) : b.move f t ≠ .error .panic :=
  fun h => hb.move_err f t _ h rfl

/-- an operation that is rejected (or panics) changes nothing (of the four hypotheses only `h1` is used) -/
theorem rejected_unchanged (c : Code) (op : Op) (h : ∀ b, (c.step op).2 ≠ .edges b)
    (h1 : (c.step op).2 ≠ .ok) (h2 : ∀ n, (c.step op).2 ≠ .bound n) (h3 : ∀ r, (c.step op).2 ≠ .addr r) :
    (c.step op).1 = c :=
  step_unchanged c op h1

/-- lookups and bound queries never change the state -/
theorem query_unchanged (c : Code) (op : Op) (h : ∀ bi f t, op ≠ .mv bi f t) (h' : ∀ f t, op ≠ .bmv f t) :
    (c.step op).1 = c := by
  have h0 := step_effect c op
  generalize c.step op = r at h0 ⊢
  cases h0 with
  | same => rfl
  | mv => exact absurd rfl (h _ _ _)
  | bmv => exact absurd rfl (h' _ _)

/-- an accepted move is the rotation of the segment between the two positions (the instruction
at `from` is taken out and put back at `to`, the others shift by one); begin, end, edges, index and
identity of the block are unchanged, and the invariant holds again -/
theorem move_is_rotation (b b' : Block) (hb : BInv b) (f t : Int) (h : b.move f t = .ok b') :
    b'.seq.map Ins.static = rotate (b.seq.map Ins.static) f.toNat t.toNat ∧
    b'.begin = b.begin ∧ b'.end_ = b.end_ ∧ b'.edges = b.edges ∧ b'.idx = b.idx ∧ b'.ptr = b.ptr ∧
    BInv b' := by
  have hM := hb.move_ok h
  exact ⟨hM.static, hM.same.begin, hM.same.end_, hM.same.edges, hM.idx, hM.same.ptr, hM.inv⟩

/-- every instruction lies within its own reported bounds -/
theorem bounds_contain (b : Block) (hb : BInv b) (i : Nat) (hi : i < b.seq.length) :
    ∃ lo up : Int, b.lowerBound i = some lo ∧ b.upperBound i = some up ∧ lo ≤ i ∧ (i : Int) ≤ up := by
  obtain ⟨lo, hlo, hL⟩ := hb.lowerBound_spec i hi
  obtain ⟨up, hup, hU⟩ := hb.upperBound_spec i hi
  exact ⟨lo, up, hlo, hup, Int.ofNat_le.2 hL.le, Int.ofNat_le.2 hU.ge⟩

/-- the bounds are given by the dependencies: everything the instruction depends on stands before
the lower bound, everything that depends on it behind the upper bound, and both bounds are tight -/
theorem bounds_by_edges (b : Block) (hb : BInv b) (i : Nat) (hi : i < b.seq.length) :
    ∃ lo up : Nat, b.lowerBound i = some (lo : Int) ∧ b.upperBound i = some (up : Int) ∧
      (∀ e ∈ b.edges, e.2 = b.seq[i].id → (idsOf b.seq).idxOf e.1 < lo) ∧
      (lo = 0 ∨ ∃ e ∈ b.edges, e.2 = b.seq[i].id ∧ (idsOf b.seq).idxOf e.1 + 1 = lo) ∧
      (∀ e ∈ b.edges, e.1 = b.seq[i].id → up < (idsOf b.seq).idxOf e.2) ∧
      (up + 1 = b.seq.length ∨ ∃ e ∈ b.edges, e.1 = b.seq[i].id ∧ (idsOf b.seq).idxOf e.2 = up + 1) := by
  obtain ⟨lo, hlo, hL⟩ := hb.lowerBound_spec i hi
  obtain ⟨up, hup, hU⟩ := hb.upperBound_spec i hi
  exact ⟨lo, up, hlo, hup, hL.behind, hL.tight, hU.before, hU.tight⟩

/-- the instructions occupy contiguous addresses from the block start in their current order -/
theorem addresses_contiguous (b : Block) (hb : BInv b) (k : Nat) (hk : k < b.seq.length) :
    b.seq[k].currAddr = b.begin + bytesI (b.seq.take k) ∧ b.seq[k].blockIdx = k := by
  refine ⟨tilesI_getElem b.begin b.seq hb.tiles k hk, ?_⟩
  have := idxFrom_getElem 0 b.seq hb.idx k hk
  omega

/-- every instruction still follows all instructions it depends on -/
theorem edges_forward (b : Block) (hb : BInv b) :
    ∀ e ∈ b.edges, e.1 ∈ idsOf b.seq ∧ e.2 ∈ idsOf b.seq ∧ (idsOf b.seq).idxOf e.1 < (idsOf b.seq).idxOf e.2 :=
  hb.fwd

/-- `Block.Address a` finds exactly the instruction whose current address is `a` (never panics) -/
theorem block_lookup_exact (b : Block) (hb : BInv b) (a : Nat) :
    b.address a = some (b.seq.find? fun i => i.currAddr == a) := hb.address_exact a

/-- `Code.Address a` finds exactly the block whose (original) address range contains `a` -/
theorem code_lookup_exact (c : Code) (hc : CInv c) (a : Nat) :
    c.address a = some (c.store.find? fun b => decide (b.begin ≤ a ∧ a < b.begin + bytesI b.seq)) :=
  hc.address_exact a

/-- the model's invariant is the specification's invariant on the view of the state -/
theorem inv_view (c : Code) (hc : CInv c) : c.view.Inv := hc.view_inv

theorem block_inv_view (b : Block) (hb : BInv b) : b.view.Inv := hb.view_inv

/-- a block move is accepted exactly when both positions are valid -/
theorem block_move_accepted_iff (c : Code) (hc : CInv c) (f t : Int) :
    (∃ c', c.move f t = .ok c') ↔ 0 ≤ f ∧ f < c.blocks.length ∧ 0 ≤ t ∧ t < c.blocks.length :=
  ⟨fun ⟨c', h⟩ => ((hc.move_iff f t c').1 h).1, fun hv => ⟨_, (hc.move_iff f t _).2 ⟨hv, rfl⟩⟩⟩

/-- block moves only permute the block order: `blocks` is rotated, and `blocksByAddr` keeps every
block with all its addresses, instructions and edges (only block indices change) -/
theorem block_move_permutes (c c' : Code) (hc : CInv c) (f t : Int) (h : c.move f t = .ok c') :
    c'.blocks = rotate c.blocks f.toNat t.toNat ∧ c'.store.map frozen = c.store.map frozen ∧ CInv c' := by
  have hM := hc.move_ok f t h
  exact ⟨hM.blocks, hM.frozen, hM.inv⟩

/-- … hence no address lookup changes -/
theorem block_move_lookup (c c' : Code) (hc : CInv c) (f t : Int) (h : c.move f t = .ok c') (a : Nat) :
    (c'.address a).map (·.map frozen) = (c.address a).map (·.map frozen) := by
  have hM := hc.move_ok f t h
  exact hc.address_frozen hM.inv hM.frozen a

theorem block_move_never_panics (c : Code) (hc : CInv c) (f t : Int) : c.move f t ≠ .error .panic :=
  fun h => hc.move_err f t _ h rfl

/-- the invariant holds initially -/
theorem inv_initial (entry : Nat) (raw : List Raw) (hwf : WF raw) (c : Code)
    (h : newCode entry raw = .ok c) : CInv c := (newCode_inv entry raw hwf c h).inv

/-- building the code never panics on well-formed input (no empty block: C08) -/
theorem newCode_never_panics (entry : Nat) (raw : List Raw) (hwf : WF raw) :
    newCode entry raw ≠ .error .panic := newCode_nopanic entry raw hwf

/-- every operation (instruction move, block move, lookup, bound query) keeps the invariant and
changes neither the edges nor the set of instructions nor the address range of any block -/
theorem inv_step (c : Code) (hc : CInv c) (op : Op) : CInv (c.step op).1 ∧ SameCode c (c.step op).1 :=
  hc.step op

/-- after any history of instruction moves, block moves and lookups on a well-formed code: the
invariant holds (from which the theorems above give: every instruction within its bounds, contiguous
addresses, exact lookups, every edge forward) and every block still has its edges, its instructions and
its address range -/
theorem inv_history (entry : Nat) (raw : List Raw) (hwf : WF raw) (c0 : Code)
    (h : newCode entry raw = .ok c0) (ops : List Op) :
    CInv (c0.run ops) ∧ (c0.run ops).view.Inv ∧ SameCode c0 (c0.run ops) := by
  obtain ⟨h1, h2⟩ := (inv_initial entry raw hwf c0 h).run ops
  exact ⟨h1, h1.view_inv, h2⟩

/-- `x1 := 1; x3 := 2; x2 := x1; x1 := 3` with lengths 4, 2, 6, 4: two writers of `x1` around a reader
(the F07 shape) and, second, an instruction that is independent of the other three -/
def exampleRaw : List Raw :=
  [(0, 100, 4, [.regStore (.const [1]) "x1" 1]), (0, 104, 2, [.regStore (.const [2]) "x3" 1]),
   (0, 106, 6, [.regStore (.regLoad "x1" 1) "x2" 1]), (0, 112, 4, [.regStore (.const [3]) "x1" 1])]

def exampleCode : Code := (newCode 100 exampleRaw).toOption.getD default

def dump (c : Code) : List (List (Nat × Nat × Nat)) :=
  c.store.map fun b => b.seq.map fun i => (i.origAddr, i.currAddr, i.blockIdx)

example : WF exampleRaw := by decide

/-- the hypotheses of the theorems above can be met.  Edges: RAW 100→106, WAW 100→112, WAR 106→112;
`Move(1,3)` of the independent instruction 104 is accepted and rotates the segment with fresh
addresses; `Move(0,2)` is then rejected by the upper bound 0; lookups are exact -/
example :
    (exampleCode.store.map fun b => (b.edges.all fun e => [(0, 2), (0, 3), (2, 3)].contains e) &&
      ([(0, 2), (0, 3), (2, 3)].all fun e => b.edges.contains e)) = [true] ∧
    dump (exampleCode.run [.mv 0 1 3]) = [[(100, 100, 0), (106, 104, 1), (112, 110, 2), (104, 114, 3)]] ∧
    ((exampleCode.run [.mv 0 1 3]).step (.mv 0 0 2)).2.ctorIdx = (Answer.err (.upper 0)).ctorIdx ∧
    dump (exampleCode.run [.mv 0 1 3, .mv 0 0 2]) = dump (exampleCode.run [.mv 0 1 3]) ∧
    dump (exampleCode.run [.mv 0 1 3, .mv 0 3 0]) = [[(104, 100, 0), (100, 102, 1), (106, 106, 2), (112, 112, 3)]] := by
  decide +kernel

end Mltwist.Props.C07
