import Mltwist.Lemmas.Transform
/-
C12 — width adaptation preserves value.
-/
namespace Mltwist.Props.C12
open Mltwist

theorem setWidth_width (e : Expr) (w : Nat) : (setWidth e w).width = w :=
  Lemmas.Transform.setWidth_width e w

/-- re-widthing yields the original value zero-extended or truncated to the new width -/
theorem setWidth_eval (ρ : Env) (e : Expr) (w : Nat) :
    (setWidth e w).eval ρ = trunc w (e.eval ρ) :=
  Lemmas.Transform.setWidth_eval ρ e w

/-- `purge` in the two names below is Go's `PurgeWidthGadgets` (`purgeWidthGadgets`), not its inner recursion
`Mltwist.purge`, whose lemmas are `Lemmas.Transform.purge_width` / `purge_eval` -/
theorem purge_width (e : Expr) : (purgeWidthGadgets e).width = e.width :=
  Lemmas.Transform.purgeWidthGadgets_width e

/-- removing redundant width adapters never changes the denoted value; since `eval` of a
`MemLoad` reads at the value of its address, this includes load addresses -/
theorem purge_eval (ρ : Env) (e : Expr) : (purgeWidthGadgets e).eval ρ = e.eval ρ :=
  Lemmas.Transform.purgeWidthGadgets_eval ρ e

/-- non-vacuity: a truncating adapter above a load address is kept, a redundant one is removed -/
example :
    purgeWidthGadgets (.memLoad "m" (newWidthGadget (.regLoad "x1" 8) 4) 1)
      = .memLoad "m" (newWidthGadget (.regLoad "x1" 8) 4) 1
    ∧ purgeWidthGadgets (.binary .add (newWidthGadget (.regLoad "x1" 8) 4) (.const [1]) 2)
      = .binary .add (.regLoad "x1" 8) (.const [1]) 2 := by decide

end Mltwist.Props.C12
