import Mltwist.Lemmas.UI
import Mltwist.Lemmas.ListingRef
/-
C22 — console input never crashes the UI.

For every sequence of input lines in the disassembler, emulator and memory-view modes, each line is
either executed as a command or answered with an error message, and the program never crashes,
whatever the spacing, number of arguments or numeric range of the input.

`Model/UI.lean` follows `UI.parseCommand`, `UI.processCommand` (`uiStep`), `quitMode`, `AddMode`,
`newCmdMap`, the standard commands and the command tables of the three modes literally, after the
repairs of F20 (all-space line) and F43 (surplus word after a command without optional arguments);
the actions are expressed through the component models of C23/C31 (listing, cursor, moves), C32
(memory view), C30 (numbers), C29 (help text), C24 (rendering).  Input is the list of lines the line
reader hands out, the empty list is the end of the input.

Used from the components, as lemmas and not as hypotheses: every disassembler command succeeds or reports an error in
every state satisfying the listing invariant (C23; F21–F23 repaired); value prompts and address arguments never panic
(C30; F27 repaired); the memory view is built, its rows print, a cursor command that succeeds has put the cursor on a
row (C32; F28, F29, F42 repaired); listing, emulation and memory screens print without a panic at every height (C24;
F24, F25 repaired); the help texts wrap (C29).

PARTIAL BY NATURE in the parameters of the model — everything inside the model is proved:

* `p.cops` — the code model underneath (`deps`): any `Listing.Spec.Lawful` operations (as in C23/C31;
  `refOps_lawful`: the transcription of `internal/deps/moves.go` is lawful; C05–C07 are about the real one);
* `p.rx` — `regexp.CompilePOSIX`/`MatchString`: any function;
* `p.eops` — the emulator: any operations satisfying `EmuLawful` (`Lemmas/UI.lean`, where each field names the
  property it is taken from: C03, C04, C14–C16, C18, C32);
* the start code is well-formed (`Listing.Spec.WF`: `Idx()` = position, bounds inside the block; C08);
* outside the model altogether: the terminal (`view.Print` asks for its size; `renderTop` takes the
  height), `fmt`, `bufio.Scanner` (a line longer than 64 KiB ends the session with an error message),
  and what the operating system does at the end of the input.

Observation (not a crash, kept in the model as the outcome `hang`): at the end of the input a value
prompt never returns — `readValueNoErr` prints the error and asks again for ever (`prompt_hang_iff`,
`hang_only_in_value_prompts`).
-/
namespace Mltwist.Props.C22
open Mltwist Mltwist.UI
open Mltwist.Listing.Spec (Lawful WF)
open Mltwist.Lemmas.UI

/-- the UI states a session can be in: the state after `consoleui.New`, and every state
`processCommand` returns to `Run` -/
inductive Reachable {σ : Type} (p : Params σ) (code : Listing.Code) : UI σ → Prop where
  | init {ui : UI σ} : UI.init code = some ui → Reachable p code ui
  | step {ui ui' : UI σ} {inp rest : Input} {a : Answer} :
      Reachable p code ui → uiStep p ui inp = .cont a ui' rest → Reachable p code ui'

/-- `consoleui.New` succeeds: the command keys of every mode are distinct (`AddMode` never fails) -/
theorem ui_starts {σ : Type} (code : Listing.Code) : ∃ ui : UI σ, UI.init code = some ui :=
  ⟨_, init_eq code⟩

theorem reachable_inv {σ : Type} {Good : σ → Prop} (p : Params σ) (hl : Lawful p.cops)
    (he : EmuLawful p.eops Good) (code : Listing.Code) (hwf : WF code) (ui : UI σ)
    (h : Reachable p code ui) : UIInv Good ui := by
  induction h with
  | init hi => exact init_inv Good code hwf hi
  | @step ui1 ui2 inp rest a _ hs ih =>
    exact (uiStep_safe p hl he ui1 ih inp).inv hs

/-- **Parsing never panics**: whatever the line — all spaces (F20), tabs, any number of words (F43), any
digits — `parseCommand` yields a command with arguments or an error … -/
theorem parse_never_panics (m : CmdMap) (line : Str) : parseCommand m line ≠ .panic :=
  parseCommand_no_panic m line

/-- … and the arguments it hands to the action have the types the command declares, plus one string
if it joined optional words: no type assertion of an action can fail -/
theorem parse_args_typed (m : CmdMap) (line : Str) (cmd : Command) (args : List ArgVal)
    (h : parseCommand m line = .ok cmd args) :
    args.map kindOfVal = cmd.args ∨ (cmd.opt = true ∧ args.map kindOfVal = cmd.args ++ [.str]) :=
  (parseCommand_ok m line cmd args h).2

/-- **Every line is answered and nothing panics.**  In every reachable state, for every input:
`processCommand` does not panic; if it returns nil, at least the command line was consumed and the
line was ignored exactly if it is empty — otherwise it was executed, answered with an error message,
or it left a mode (`Answer`); the other outcomes are the end of the session by `quit` in the first
mode, the end of the input, and the starving value prompt. -/
theorem line_answered {σ : Type} {Good : σ → Prop} (p : Params σ) (hl : Lawful p.cops)
    (he : EmuLawful p.eops Good) (code : Listing.Code) (hwf : WF code) (ui : UI σ)
    (h : Reachable p code ui) (inp : Input) :
    uiStep p ui inp ≠ .panic ∧
    ∀ a ui' rest, uiStep p ui inp = .cont a ui' rest →
      rest.length < inp.length ∧ (a = .skipped ↔ inp.head? = some []) := by
  have hs := uiStep_safe p hl he ui (reachable_inv p hl he code hwf ui h) inp
  exact ⟨hs.no_panic, fun a ui' rest hc => ⟨hs.shorter hc, hs.skipped_iff hc⟩⟩

/-- the empty line is ignored: nothing changes, one line is consumed -/
theorem empty_line_ignored {σ : Type} (p : Params σ) (ui : UI σ) (rest : Input) :
    uiStep p ui ([] :: rest) = .cont .skipped ui rest := rfl

/-- the end of the input is reported, not a panic -/
theorem end_of_input {σ : Type} (p : Params σ) (ui : UI σ) : uiStep p ui [] = .eof .command := rfl

/-- a call starves only in the value prompts of `step` and `regmod` of the emulator mode … -/
theorem hang_only_in_value_prompts {σ : Type} {Good : σ → Prop} (p : Params σ) (hl : Lawful p.cops)
    (he : EmuLawful p.eops Good) (code : Listing.Code) (hwf : WF code) (ui : UI σ)
    (h : Reachable p code ui) (inp : Input) (hh : uiStep p ui inp = .hang) :
    ∃ top below line rest cmd args, ui.stack = top :: below ∧ inp = line :: rest ∧
      parseCommand top.cmdMap line = .ok cmd args ∧ (cmd.act = .eStep ∨ cmd.act = .eRegmod) ∧
      runAct p top below cmd.act args rest = .hang :=
  uiStep_hang p hl he ui (reachable_inv p hl he code hwf ui h) inp hh

/-- … and a value prompt starves exactly when the input ends before a line arrives that `readValue`
accepts (every second line is shown to it: a rejected line is followed by an acknowledgement) -/
theorem prompt_hang_iff (w : Nat) (inp : Input) : readValueNoErr w inp = .hang ↔ Starved w inp := by
  match inp with
  | [] => simp [readValueNoErr, Starved]
  | [line] =>
    simp only [readValueNoErr, Starved]
    cases h : NumParse.readValue w line <;> simp
  | line :: ack :: rest =>
    simp only [readValueNoErr, Starved]
    cases h : NumParse.readValue w line with
    | ok c => simp
    | err => simpa using prompt_hang_iff w rest
    | panic => simp

/-- a value prompt never panics (C30) -/
theorem prompt_never_panics (w : Nat) (hw : w ≤ 255) (inp : Input) : readValueNoErr w inp ≠ .panic := by
  rcases readValueNoErr_cases hw inp with h | ⟨_, _, h, _⟩ <;> rw [h] <;> nofun

/-- **Whole sessions never panic**: the loop of `UI.Run` over any script, from any reachable state, ends
by `quit` in the first mode, at the end of the input, or in a starving value prompt — never in a panic (and the fuel of
the model, one round per input line, suffices) -/
theorem session_never_panics {σ : Type} {Good : σ → Prop} (p : Params σ) (hl : Lawful p.cops)
    (he : EmuLawful p.eops Good) (code : Listing.Code) (hwf : WF code) (ui : UI σ)
    (h : Reachable p code ui) (inp : Input) :
    session p ui inp = .exited ∨ (∃ a, session p ui inp = .eof a) ∨ session p ui inp = .hang :=
  session_safe p hl he ui (reachable_inv p hl he code hwf ui h) inp

/-- **The view of the current mode of every reachable state prints without a panic**, for every height (C24 for the
views, C32 for the rows of the memory view); the screen `Run` prints is `Render.uiScreen` of that view
(`Lemmas.UI.modeView`), of which C24 speaks shape by shape -/
theorem view_prints {σ : Type} {Good : σ → Prop} (p : Params σ) (hl : Lawful p.cops)
    (he : EmuLawful p.eops Good) (code : Listing.Code) (hwf : WF code) (ui : UI σ)
    (h : Reachable p code ui) (n : Nat) :
    (renderTop p.eops ui n).status ≠ .panic ∧ (renderTop p.eops ui n).status ≠ .outOfFuel :=
  renderTop_safe p.eops he ui (reachable_inv p hl he code hwf ui h) n

/-- the assumption on the code operations is satisfiable (C23) -/
theorem refOps_lawful : Lawful Listing.refOps := Lemmas.Listing.refOps_lawful

/-- F20: the pinned `parseCommand` panics on every line of spaces, in every mode -/
theorem F20_pinned (m : CmdMap) (n : Nat) : parseCommandPinned m (List.replicate n 0x20) = .panic := by
  simp [parseCommandPinned, parseCommandWith, split_spaces]

/-- the command map of a mode: `Lemmas.UI.cmdMapOf`, under the name the examples below use -/
def mapOf (k : UI.Kind) : CmdMap := (newCmdMap (commandsOf k)).getD []

/-- F43: a surplus word after a command without optional arguments: `goto 1 2`, `quit now`, `s 1`,
`a 5 6` make the pinned `parseCommand` panic; repaired they are answered with an error; `find a b`
(optional words) is accepted by both -/
example : parseCommandPinned (mapOf .dis) (b "goto 1 2") = .panic ∧ parseCommand (mapOf .dis) (b "goto 1 2") = .err
    ∧ parseCommandPinned (mapOf .dis) (b "quit now") = .panic ∧ parseCommand (mapOf .dis) (b "quit now") = .err
    ∧ parseCommandPinned (mapOf .emu) (b "s 1") = .panic ∧ parseCommand (mapOf .emu) (b "s 1") = .err
    ∧ parseCommandPinned (mapOf .mem) (b "a 5 6") = .panic ∧ parseCommand (mapOf .mem) (b "a 5 6") = .err := by
  -- by the kernel alone: the elaborator's own evaluation of byte strings and command maps is much slower
  decide +kernel

example : parseCommandPinned (mapOf .dis) (b "   ") = .panic ∧ parseCommand (mapOf .dis) (b "   ") = .err := by
  decide +kernel

/-- what `parseCommand` makes of a line in a mode: the action and the arguments; `none` = an error -/
def parsed (k : UI.Kind) (line : String) : Option (Act × List ArgVal) :=
  match parseCommand (mapOf k) (b line) with
  | .ok c args => some (c.act, args)
  | _ => none

example : parsed .dis "  goto   12 " = some (.dGoto, [.num 12])
    ∧ parsed .dis "/ add x1,  x2" = some (.dFind, [.str (b "add"), .str (b "x1, x2")])
    ∧ parsed .dis "goto" = none
    ∧ parsed .dis "goto 9223372036854775808" = none
    ∧ parsed .dis "goto 9223372036854775807" = some (.dGoto, [.num 9223372036854775807])
    ∧ parsed .dis "goto -1" = none ∧ parsed .dis "goto -0" = some (.dGoto, [.num 0])
    ∧ parsed .dis "goto +7" = some (.dGoto, [.num 7])
    ∧ parsed .dis "GOTO 1" = none ∧ parsed .dis "\tgoto 1" = none ∧ parsed .dis "got 1" = none
    ∧ parsed .dis "q" = some (.quit, []) ∧ parsed .emu "h" = some (.help, [])
    ∧ parsed .emu "m memory" = some (.eMemory, [.str (b "memory")])
    ∧ parsed .mem "a 0x10" = some (.mAddress, [.addr 16]) ∧ parsed .mem "a 5x" = none := by
  decide +kernel

/-- a toy emulator: the state is the instruction pointer; a step asks for one 8-byte value and moves 4
bytes on; register `x1` is set, 8 bytes wide; there is no memory -/
def toyOps : EmuOps Nat where
  init _ ip := ip
  ip s := some s
  step s := if s < 24 then .ask 8 fun _ => .done (s + 4) else .fail s
  regWidth _ k := if k = b "x1" then some 8 else none
  regStore s _ _ := s
  mem _ _ := none
  regs _ := [⟨Render.ipKey, 8⟩, ⟨"x1", 8⟩]

/-- the assumptions on the emulator are satisfiable -/
theorem toyOps_lawful : EmuLawful toyOps (fun _ => True) where
  init_good _ _ := trivial
  ip_some _ _ := rfl
  step_safe s _ := by
    show TreeSafe _ (if s < 24 then _ else _)
    split
    · exact .ask (by omega) fun _ => .done trivial
    · exact .fail trivial
  store_good _ _ _ _ := trivial
  width_byte s k w _ h := by
    simp only [toyOps] at h
    split at h
    · cases h; omega
    · cases h
  regs_oneIP _ _ := by
    show ([⟨Render.ipKey, 8⟩, ⟨"x1", 8⟩].filter Lemmas.Render.isIP).length ≤ 1
    decide +kernel
  mem_ok _ _ _ _ h := by simp [toyOps] at h

def toy : Params Nat := ⟨Listing.refOps, toyOps, fun _ => some fun t => t == "Block 2: 0x20"⟩

/-- two blocks: `a`,`b` at 0x10 (entry point), and `c` at 0x20; 7 lines -/
def exCode : Listing.Code := ⟨16, [
  ⟨0, 16, 24, [⟨"a", [0x1f, 2], 0, 16, 0, 0⟩, ⟨"b", [3], 1, 20, 1, 1⟩]⟩,
  ⟨1, 32, 36, [⟨"c", [0xab], 0, 32, 0, 0⟩]⟩]⟩

def start : UI Nat := (UI.init exCode).getD ⟨[]⟩

/-- what a script does: the answer and the depth of the mode stack after every call, and how it ends -/
def trace : Nat → UI Nat → Input → List (Answer × Nat) × Final
  | 0, _, _ => ([], .outOfFuel)
  | f + 1, ui, inp =>
    match uiStep toy ui inp with
    | .cont a ui' rest => let r := trace f ui' rest; ((a, ui'.stack.length) :: r.1, r.2)
    | .exited _ => ([], .exited)
    | .eof w => ([], .eof w)
    | .hang => ([], .hang)
    | .panic => ([], .panic)

def script (ls : List String) : Input := ls.map b

-- all-space line, unknown command, emulate on a header (error), goto an instruction, emulate, step with a
-- rejected and an accepted value, regmod, memory view of an unknown key, errors there, quit three times
example : trace 40 start (script [" ", "", "foo", "", "e", "", "g 1", "e", "s", "zz", "", "0x10", "regmod x1", "-1",
      "regmod x9", "", "m nokey", "d 1", "", "a 5 6", "", "q", "", "q", "", "q", ""]) =
    ([(.error, 1), (.error, 1), (.error, 1), (.executed, 1), (.executed, 2), (.executed, 2), (.executed, 2),
      (.error, 2), (.executed, 3), (.error, 3), (.error, 3), (.left, 2), (.left, 1)], .exited) := by
  decide +kernel

-- the end of the input: after a command, in an acknowledgement, in `quit`, in a value prompt
example : (trace 9 start (script ["g 1"])).2 = .eof .command
    ∧ (trace 9 start (script ["foo"])).2 = .eof .ack
    ∧ (trace 9 start (script ["q"])).2 = .eof .quitAck
    ∧ (trace 9 start (script ["g 1", "e", "s", "zz"])).2 = .hang
    ∧ (trace 9 start (script ["g 1", "e", "s"])).2 = .hang := by
  decide +kernel

-- find with optional words, no match (message + ENTER), block move, entrypoint, emulate there
example : trace 20 start (script ["find Block 2:  0x20", "f nothing", "", "move 0 4", "entry", "e", "s", "1", "q", "",
      "q", ""]) =
    ([(.executed, 1), (.executed, 1), (.executed, 1), (.executed, 1), (.executed, 2), (.executed, 2), (.left, 1)],
      .exited) := by
  decide +kernel

example : WF exCode := Lemmas.Listing.wf_of_wfB (by decide +kernel)

end Mltwist.Props.C22
