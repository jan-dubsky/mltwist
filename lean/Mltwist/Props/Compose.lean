import Mltwist.Lemmas.ComposeStartup
import Mltwist.Lemmas.ComposeListing
import Mltwist.Lemmas.ComposeUI
import Mltwist.Props.C03
import Mltwist.Props.C23
import Mltwist.Props.C31
/-
COMPOSITION — end-to-end corollaries across the component slices.

Each property file `Props/Cnn.lean` is about one component; several of their theorems carry
ASSUMPTIONS that are theorems of another slice, or are stated over a stand-in for a component that has a real
model elsewhere.  This file instantiates the stand-ins with the real models and discharges those assumptions.
The bridge lemmas between the vocabularies of two slices live in `Lemmas/Compose*.lean`.

Vocabulary (namespace `Mltwist.Lemmas.Compose`; the executed definitions are in `Model/Compose.lean`, `instruction`,
`Started` and the predicates next to their lemmas in `Lemmas/Compose*.lean`):
* `rawOf is`            the `Raw` instructions (C07) that `deps.NewCode` receives for the parser's `is` (C21);
* `codeViewOf c`        the `Emulator.CodeView` (C03) of a `Deps.Code` (C05/C06/C07): its instructions in address
                        order with their CURRENT addresses, lengths and effects;
* `instruction c ip`    the body of `Emulator.instruction`: `Code.Address ip`, then `Block.Address ip` on the real
                        dependency model (`none` = a Go panic, `some none` = the "cannot find" error);
* `Started lim w code mem is c bs`   start-up reached the UI with these intermediate results (C26);
* `listingOf info c`, `opsAt info c`, `nextDeps c st cmd`   the `Listing.Code` a `Deps.Code` shows, the code operations at
                        the real state `c`, the real state after a command; `RSt`/`realStep`/`realRun`/`RInv` the
                        disassembler mode alone over the real model (inside a session: `reach_rinv`);
* `ofMem m`, `ESt`, `emuOps bs cv`, `EGood`, `paramsAt`, `RUI`, `realSession`   the `MemView.Mem` of a stack of memories, the
                        emulator object, the emulator parameter, its good states, the instantiated UI;
* `EnvOK bs d0`         what a session assumes of the program: `bs` is `memory.NewBytes` of an image that ends below `2^64`,
                        the code view of the start code `d0` is well formed (C03); start-up provides it (`envOK_of_started`);
* `SInv d0 r`           the invariant of a session state `r : RUI`: C07's on the real code, still `SameCode` as `d0`, and
                        C22's on the UI state (`RReach`: the states of a session; `Shaped`: its mode stack).

`Step` returns an error when an access leaves the address space (F45), so `Emulator.step` never panics from a good state
(C03 `never_panics_step`, unconditional in the accesses) and the theorems about the console UI need no restriction on what
the emulated program accesses.
-/
namespace Mltwist.Props.Compose
open Mltwist Mltwist.State Mltwist.Overlay Mltwist.Emulator Mltwist.Riscv
open Mltwist.Spec.Rv Mltwist.Spec.Lift
open Mltwist.Lemmas.Emulator Mltwist.Lemmas.Compose Mltwist.Lemmas.Deps

/-- C21 ⇒ C08.  `parse image = ok is` on a tidy image (C20: what `MachineCode` returns) ⇒ the instructions handed
to `deps.NewCode` are well formed in the sense of C08; the `WF` that C07 assumes is by definition that of C08 on
`toBB`, so the two conjuncts are one proposition in its two spellings -/
theorem parsed_is_wellformed {image : List Elf.Block} (ht : Elf.Spec.Tidy image)
    {is : List (Parse.Ins (Riscv.Entry × Riscv.Ins))} (h : Parse.parseRv64 image = .ok is) :
    Props.C07.WF (rawOf is) ∧ BasicBlock.Spec.WF (toBB (rawOf is)) :=
  ⟨(wf_of_parse ht h).1, (wf_of_parse ht h).1⟩

/-- … ⇒ C07: the code `deps.NewCode` builds satisfies `CInv` (`Props.C07.inv_initial` without its `WF` premise) -/
theorem newCode_establishes_inv {image : List Elf.Block} (ht : Elf.Spec.Tidy image)
    {is : List (Parse.Ins (Riscv.Entry × Riscv.Ins))} (h : Parse.parseRv64 image = .ok is) (entry : Nat)
    (c : Deps.Code) (hc : Deps.newCode entry (rawOf is) = .ok c) : CInv c :=
  inv_of_parse ht h entry c hc

/-- … and after any history of instruction moves, block moves and queries (`Props.C07.inv_history` without its
`WF` premise) -/
theorem history_inv {image : List Elf.Block} (ht : Elf.Spec.Tidy image)
    {is : List (Parse.Ins (Riscv.Entry × Riscv.Ins))} (h : Parse.parseRv64 image = .ok is) (entry : Nat)
    (c0 : Deps.Code) (hc : Deps.newCode entry (rawOf is) = .ok c0) (ops : List Deps.Op) :
    CInv (c0.run ops) ∧ (c0.run ops).view.Inv ∧ SameCode c0 (c0.run ops) :=
  Props.C07.inv_history entry (rawOf is) (wf_of_parse ht h).1 c0 hc ops

/-- `deps.NewCode` cannot panic on what the parser returns -/
theorem newCode_never_panics {image : List Elf.Block} (ht : Elf.Spec.Tidy image)
    {is : List (Parse.Ins (Riscv.Entry × Riscv.Ins))} (h : Parse.parseRv64 image = .ok is) (entry : Nat) :
    Deps.newCode entry (rawOf is) ≠ .error .panic :=
  Props.C07.newCode_never_panics entry (rawOf is) (wf_of_parse ht h).1

/-- C26's `run` uses C08's model of `deps.NewCode`; with C07's (`Deps.newCode`, which also builds the block
objects and runs the dependency finders) the outcome is the same, for every argument count and every view -/
theorem startup_real_eq (lim nargs : Nat) (v : Option Elf.View) (hv : ∀ w, v = some w → Elf.Spec.ViewOK w) :
    runReal lim nargs v = Startup.run lim nargs v := by
  rcases run_stage lim nargs v with ⟨h, _⟩ | ⟨w, code, mem, hl⟩
  · exact h
  · rw [hl.run_eq, hl.real_eq]
    exact runLoadedReal_eq _ code mem ((Lemmas.Elf.machineCode_loads w (hv w hl.view)).tidy hl.code_ok)

/-- C26 restated over the real dependency model -/
theorem startup_real_total (lim nargs : Nat) (v : Option Elf.View) (hv : ∀ w, v = some w → Elf.Spec.ViewOK w)
    (hlim : ∀ w, v = some w → ∀ p ∈ w.progs, p.typ = 1 → p.memsz ≤ lim) :
    runReal lim nargs v = .ui ∨ ∃ s, runReal lim nargs v = .exit1 s := by
  rw [startup_real_eq lim nargs v hv]
  exact Props.C26.run_total lim nargs v hv hlim

/-- reaching the UI means that every stage produced its result: tidy images (C20), instructions (C21), the
dependency model (C08/C07) and the byte memory (C15) -/
theorem startup_ui_started (lim nargs : Nat) (v : Option Elf.View) (hv : ∀ w, v = some w → Elf.Spec.ViewOK w)
    (h : Startup.run lim nargs v = .ui) :
    nargs = 1 ∧ ∃ w code mem is c bs, v = some w ∧ Started lim w code mem is c bs := by
  rcases run_stage lim nargs v with ⟨_, hne⟩ | ⟨w, code, mem, hl⟩
  · exact absurd h hne
  · have htc : Elf.Spec.Tidy code := (Lemmas.Elf.machineCode_loads w (hv w hl.view)).tidy hl.code_ok
    have htm : Elf.Spec.Tidy mem := (Lemmas.Elf.memory_loads lim w (hv w hl.view)).tidy hl.mem_ok
    obtain ⟨is, bb, bs, g1, g2, g3⟩ := (Lemmas.Startup.runLoaded_cases w.entry code mem htc.1).2 (hl.run_eq ▸ h)
    -- C26's model built the code with C08's `newCode`; on these instructions C07's succeeds with it
    obtain ⟨c, hc⟩ := (newCode_agree w.entry is (wf_of_parse htc g1).1).2.2 ⟨bb, g2⟩
    exact ⟨hl.args, w, code, mem, is, c, bs, hl.view,
      { code_ok := hl.code_ok, mem_ok := hl.mem_ok, code_tidy := htc, mem_tidy := htm,
        parsed := g1, built := hc, bytes := g3 }⟩

/-- The assumption of C03's model that `Emulator.instruction` is the exact lookup on the code view (`LookupExact` in the
comments of `Props/C03.lean`) is a theorem of C07: on every `Deps.Code` satisfying the invariant —
initially and after any history of moves — `Code.Address` + `Block.Address` do not panic and return exactly the
instruction the emulator model looks up in the code view -/
theorem lookup_exact (c : Deps.Code) (hc : CInv c) (ip : Nat) :
    (instruction c ip).map (·.map emuOf) = some ((codeViewOf c).lookup ip) := by
  rw [instruction_find c hc ip, lookup_codeViewOf]
  rfl

/-- "the instructions of `deps.Code` are `liftCode` of the image's code blocks" (the second assumption of C03) is
a theorem of C21 + C08 + C07: before any move, the code view of the dependency model is the list of the parser's
instructions, which is `liftCode image` -/
theorem code_view_is_lifting {image : List Elf.Block} (ht : Elf.Spec.Tidy image)
    {is : List (Parse.Ins (Riscv.Entry × Riscv.Ins))} (h : Parse.parseRv64 image = .ok is) (entry : Nat)
    (c : Deps.Code) (hc : Deps.newCode entry (rawOf is) = .ok c) :
    liftCode image = some (codeViewOf c) ∧ BlocksOK image ∧ CodeWF (codeViewOf c) :=
  have h1 := (codeViewOf_newCode ht h entry c hc).2
  ⟨h1, blocksOK_of_fits ht.1, codeWF_of_liftCode h1⟩

/-- C03's `Statement` with the exact lookup (`lookup_exact`), `liftCode blocks = some code` and `BlocksOK` discharged.
For every tidy code image that the parser accepts and every entry point for which `deps.NewCode` succeeds, the
emulator over the code view of the REAL dependency model refines the reference machine: for all related start
states and every `n`, if during the first `n` steps of the reference machine on its own memory the code blocks stay
intact, the accesses stay below `2^64` and (before step `n`) `Emulator.instruction` — `Code.Address` +
`Block.Address` on the dependency model — finds an instruction at `pc`, then the emulator makes `n` successful
steps and is related to the reference state; its next step is the error if the lookup on the dependency model
fails at `pc`, and otherwise succeeds with the report `specReport ρ effects` of the instruction found. -/
theorem emulator_refines (p : Provider) {image : List Elf.Block} (ht : Elf.Spec.Tidy image)
    {is : List (Parse.Ins (Riscv.Entry × Riscv.Ins))} (h : Parse.parseRv64 image = .ok is) (entry : Nat)
    (c : Deps.Code) (hc : Deps.newCode entry (rawOf is) = .ok c) (σ0 : St) (s0 : State)
    (hR : R p (codeViewOf c) σ0 s0) (n : Nat) (σn : St)
    (h1 : ∀ k σk, k ≤ n → refRun k σ0 = some σk → Intact image σk ∧ InScope σk)
    (h2 : ∀ k σk, k < n → refRun k σ0 = some σk → instruction c σk.pc ≠ some none)
    (hrun : refRun n σ0 = some σn) :
    ∃ sn, stateAfter p (codeViewOf c) n s0 = some sn ∧ R p (codeViewOf c) σn sn ∧
      (instruction c σn.pc = some none → step p (codeViewOf c) sn = .err) ∧
      (∀ i, instruction c σn.pc = some (some i) →
        ∃ s' log ρ, Rel ρ σn ∧ step p (codeViewOf c) sn = .ok s' (specReport ρ i.effects) log) := by
  have hinv := inv_of_parse ht h entry c hc
  obtain ⟨hl, hok, _⟩ := code_view_is_lifting ht h entry c hc
  obtain ⟨sn, g1, g2, g3, g4⟩ := Props.C03.statement p image (codeViewOf c) σ0 s0 hok hl hR n σn h1
    (fun k σk hk hr hnone => h2 k σk hk hr ((instruction_none_iff c hinv _).1 hnone)) hrun
  refine ⟨sn, g1, g2, fun hn => g3 ((instruction_none_iff c hinv _).2 hn), fun i hi => ?_⟩
  exact g4 (emuOf i) ((instruction_some_iff c hinv _ _).2 ⟨i, hi, rfl⟩)

/-- THE END-TO-END STATEMENT OF C03.  For every argument count and every `debug/elf` view of a file such that
start-up succeeds (C26's outcome `ui`): the file was loaded, parsed and turned into a dependency model `c`
satisfying C07's invariant and a byte memory `bs`; and for every provider that answers consistently with one
machine state (`ProviderFor`) and every pre-set register file, the emulator the tool creates — over the code view
of `c`, starting at the entry point on `Overlay(Bytes(bs), Sparse)` — refines the reference RISC-V machine that
starts from "pre-set value / image byte, otherwise the provider's answer", in the sense of `emulator_refines`.

What is still assumed is C03's scope only: the 64-bit start values (`hwf`), and along the reference run `Intact`
(at `k = 0`: the loaded memory image contains the code sections; later: the program does not modify its code)
and `InScope` (accesses below the top of the address space). -/
theorem emulator_refines_after_startup (lim nargs : Nat) (v : Option Elf.View)
    (hv : ∀ w, v = some w → Elf.Spec.ViewOK w) (hui : Startup.run lim nargs v = .ui) :
    ∃ w code mem is c bs, v = some w ∧ Started lim w code mem is c bs ∧ CInv c ∧
      liftCode code = some (codeViewOf c) ∧
      ∀ (p : Provider) (V : String → Nat) (B : String → Nat → Nat) (pre : List (String × List UInt8)),
        ProviderFor p (codeViewOf c) V B →
        (∀ k, (startEnv (toolState pre bs) V B).reg k < 2 ^ 64) →
        ∀ (n : Nat) (σn : St),
          (∀ k σk, k ≤ n → refRun k (stOf (startEnv (toolState pre bs) V B) w.entry) = some σk →
            Intact code σk ∧ InScope σk) →
          (∀ k σk, k < n → refRun k (stOf (startEnv (toolState pre bs) V B) w.entry) = some σk →
            instruction c σk.pc ≠ some none) →
          refRun n (stOf (startEnv (toolState pre bs) V B) w.entry) = some σn →
          ∃ sn, stateAfter p (codeViewOf c) n (Emulator.new w.entry (toolState pre bs)) = some sn ∧
            R p (codeViewOf c) σn sn ∧
            (instruction c σn.pc = some none → step p (codeViewOf c) sn = .err) ∧
            (∀ i, instruction c σn.pc = some (some i) →
              ∃ s' log ρ, Rel ρ σn ∧ step p (codeViewOf c) sn = .ok s' (specReport ρ i.effects) log) := by
  obtain ⟨_, w, code, mem, is, c, bs, rfl, hs⟩ := startup_ui_started lim nargs v hv hui
  refine ⟨w, code, mem, is, c, bs, rfl, hs, inv_of_parse hs.code_tidy hs.parsed _ c hs.built,
    (codeViewOf_newCode hs.code_tidy hs.parsed _ c hs.built).2, ?_⟩
  intro p V B pre hp hwf n σn h1 h2 hrun
  have he : w.entry < 2 ^ 64 := entry_lt w.entry is (wf_of_parse hs.code_tidy hs.parsed).1 c hs.built
  have hR := Props.C03.tool_start_related hp pre hs.bytes w.entry he hwf
  exact emulator_refines p hs.code_tidy hs.parsed w.entry c hs.built _ _ hR n σn h1 h2 hrun

/-- `Spec.Lawful` — the assumption of C22/C23/C31 on the code model underneath — holds for the operations of the
REAL dependency model at every state satisfying C07's invariant: an accepted `Block.Move` keeps all other blocks
and permutes the instructions of that block, an accepted `Code.Move` permutes the blocks, `Idx()` is the position
afterwards, the entry point is constant, the bounds are positions (C05/C06/C07 ⇒ the premise of C23/C31) -/
theorem real_ops_lawful (info : Info) {c : Deps.Code} (hc : CInv c) :
    Listing.Spec.Lawful (opsAt info c) ∧ Listing.Spec.WF (listingOf info c) :=
  ⟨opsAt_lawful info hc, listingOf_wf info hc⟩

/-- … and they ARE the real operations on the only argument the listing passes while the real state is `c` -/
theorem real_ops_are_real (info : Info) (c : Deps.Code) :
    (∀ k s d, (opsAt info c).moveIns (listingOf info c) k s d = (realMoveIns c k s d).map (listingOf info)) ∧
    (∀ s d, (opsAt info c).moveBlock (listingOf info c) s d = (realMoveBlock c s d).map (listingOf info)) :=
  ⟨opsAt_moveIns info c, opsAt_moveBlock info c⟩

/-- COUPLING: every command of the disassembler mode, executed on a listing state that shows the real code `c`,
ends in a listing state that shows the real successor `nextDeps c st cmd` (which `move` computes by
`code.Move` / `code.Index(b).Move` on the dependency model, and every other command leaves alone) -/
theorem real_step_tracks (info : Info) (r : RSt) (hr : RInv info r) (cmd : Listing.Cmd)
    (hv : Listing.Spec.ValidCmd r.st.lines.lines.length cmd) :
    ∃ s r', realStep info r cmd = some (s, r') ∧ RInv info r' ∧ SameCode r.deps r'.deps ∧
      r'.deps = nextDeps r.deps r.st cmd := by
  obtain ⟨s, r', h, d⟩ := realStep_spec info r hr cmd hv
  exact ⟨s, r', h, d.inv, d.same, d.deps⟩

/-- C23 OVER THE REAL CODE.  After any history of commands (accepted and rejected instruction and block moves,
bounds, navigation) on the code `deps.NewCode` built (any `Deps.Code` satisfying C07's invariant): nothing has
panicked; the real code still satisfies the invariant and has its instructions, edges and block ranges; and the
listing equals — apart from the marks — the fresh rendering of the view of the CURRENT real code, `Lines.Line`
gives the row of every instruction, the number of lines never changes. -/
theorem listing_reflects_real_code (info : Info) (c0 : Deps.Code) (hc : CInv c0) (cmds : List Listing.Cmd)
    (hv : ∀ x ∈ cmds, Listing.Spec.ValidCmd (Listing.newLines (listingOf info c0)).lines.length x) :
    ∃ r, realRun info (RSt.init info c0) cmds = some r ∧ CInv r.deps ∧ SameCode c0 r.deps ∧
      r.st.code = listingOf info r.deps ∧
      Listing.Spec.shown r.st.lines = Listing.Spec.rows (listingOf info r.deps) ∧
      (∀ (k : Nat) (b : Listing.Block), (listingOf info r.deps).blocks[k]? = some b →
        ∀ i, r.st.lines.line b i = some (Listing.Spec.lineOf (listingOf info r.deps) k i)) ∧
      r.st.lines.lines.length = (Listing.Spec.rows (listingOf info c0)).length := by
  obtain ⟨r, h, hi, hs, k⟩ := realRun_spec info (RSt.init info c0) (rinv_init info hc) cmds hv
  have hsh := Lemmas.Listing.inv_shows r.st hi.listing
  rw [hi.coupled] at hsh
  refine ⟨r, h, hi.deps, hs, hi.coupled, hsh.1, hsh.2, ?_⟩
  exact k.length.trans (Lemmas.Listing.rows_length _ (listingOf_wf info hc)).symm

/-- … with the code taken from the start-up chain: parse (C21) ⇒ `deps.NewCode` (C08/C07) ⇒ listing (C23) -/
theorem listing_reflects_parsed_code (info : Info) {image : List Elf.Block} (ht : Elf.Spec.Tidy image)
    {is : List (Parse.Ins (Riscv.Entry × Riscv.Ins))} (h : Parse.parseRv64 image = .ok is) (entry : Nat)
    (c0 : Deps.Code) (hc : Deps.newCode entry (rawOf is) = .ok c0) (cmds : List Listing.Cmd)
    (hv : ∀ x ∈ cmds, Listing.Spec.ValidCmd (Listing.newLines (listingOf info c0)).lines.length x) :
    ∃ r, realRun info (RSt.init info c0) cmds = some r ∧ CInv r.deps ∧ SameCode c0 r.deps ∧
      Listing.Spec.shown r.st.lines = Listing.Spec.rows (listingOf info r.deps) := by
  obtain ⟨r, h1, h2, h3, _, h5, _⟩ := listing_reflects_real_code info c0 (inv_of_parse ht h entry c0 hc) cmds hv
  exact ⟨r, h1, h2, h3, h5⟩

/-- C23 `rejected_changes_nothing` over the real code: no command panics, and a command that does not report
success — in particular a move the dependency model rejects — changes neither the shown listing, nor the cursor,
nor the view `listingOf` of the real code (what the listing can see of it; the view does not determine the `Deps.Code`,
`Lemmas/ComposeListing.lean`) -/
theorem rejected_changes_nothing_real (info : Info) (r : RSt) (hr : RInv info r) (cmd : Listing.Cmd)
    (hv : Listing.Spec.ValidCmd r.st.lines.lines.length cmd) :
    ∃ s r', realStep info r cmd = some (s, r') ∧
      (s ≠ .ok → Listing.Spec.shown r'.st.lines = Listing.Spec.shown r.st.lines ∧ r'.st.cursor = r.st.cursor ∧
        listingOf info r'.deps = listingOf info r.deps) := by
  obtain ⟨s, r', h, d⟩ := realStep_spec info r hr cmd hv
  refine ⟨s, r', h, fun hs => ?_⟩
  have hu := d.did.unchanged hs
  exact ⟨hu.rows, hu.cursor, by rw [← d.inv.coupled, ← hr.coupled, hu.code]⟩

/-- C31 over the real code: in every state of the composed system the navigation commands do not panic, leave the code
of the listing state as it is and land where the specification says — `goto`, `find` and (without assumptions on
addresses) `entrypoint`, whose target is the row of an instruction of the CURRENT real code whose current address is the
entry point.  (That lines and marks stay as well is C31's `OnlyCursor`, stated over the real code for `entrypoint` in
`entrypoint_lands_real`; that the real code stays is `nextDeps`, which is the identity on these commands.) -/
theorem navigation_lands_real (info : Info) (r : RSt) (hr : RInv info r) :
    (∀ n, ∃ s st', Listing.step (opsAt info r.deps) r.st (.goto n) = some (s, st') ∧ st'.code = r.st.code ∧
      Listing.Spec.Lands (Listing.Spec.expectGoto r.st.lines.lines.length n) (s = .ok) r.st.cursor.value
        st'.cursor.value) ∧
    (∀ ms, Listing.Spec.ValidCmd r.st.lines.lines.length (.find ms) →
      ∃ s st', Listing.step (opsAt info r.deps) r.st (.find ms) = some (s, st') ∧ st'.code = r.st.code ∧
      Listing.Spec.Lands (Listing.Spec.expectFind ms r.st.lines.lines.length r.st.cursor.value) (s = .ok)
        r.st.cursor.value st'.cursor.value) ∧
    (∃ s st', Listing.step (opsAt info r.deps) r.st .entrypoint = some (s, st') ∧ st'.code = r.st.code ∧
      ((s = .ok ∧ ∃ (k j : Nat) (b : Listing.Block) (x : Listing.Ins),
          (listingOf info r.deps).blocks[k]? = some b ∧ b.ins[j]? = some x ∧
          x.addr = r.deps.entry ∧ st'.cursor.value = Listing.Spec.lineOf (listingOf info r.deps) k j) ∨
       (s ≠ .ok ∧ st'.cursor = r.st.cursor))) := by
  refine ⟨fun n => ?_, fun ms hms => ?_, ?_⟩
  · obtain ⟨s, st', h1, nv⟩ := Lemmas.Listing.goto_spec (opsAt info r.deps) r.st hr.listing n
    exact ⟨s, st', h1, nv.keeps.code, nv.lands⟩
  · obtain ⟨s, st', h1, nv⟩ := Lemmas.Listing.find_spec (opsAt info r.deps) r.st hr.listing ms hms
    exact ⟨s, st', h1, nv.keeps.code, nv.lands⟩
  · obtain ⟨s, st', h1, k, h2⟩ := Lemmas.Listing.entry_lands_cases (opsAt info r.deps) r.st hr.listing
    rw [hr.coupled] at h2
    exact ⟨s, st', h1, k.code, h2⟩

/-- C31 `entrypoint_lands` over the real code WITHOUT its assumption `AddrWF` ("concerns the code model
underneath"): for the view of a real code satisfying C07's invariant, none of whose blocks ends at `2^64`, the
address assumptions are theorems (`addrWF_listingOf`), so `entrypoint` puts the cursor on the row of THE instruction
of the current real code whose current address is the entry point, or fails and changes nothing when there is none -/
theorem entrypoint_lands_real (info : Info) (r : RSt) (hr : RInv info r) (hn : NoTop r.deps) :
    Listing.Spec.AddrWF (listingOf info r.deps) ∧
    ∃ s st', Listing.step (opsAt info r.deps) r.st .entrypoint = some (s, st') ∧ st'.lines = r.st.lines ∧
      st'.code = r.st.code ∧
      Listing.Spec.Lands (Listing.Spec.expectEntry (listingOf info r.deps)) (s = .ok) r.st.cursor.value
        st'.cursor.value := by
  have ha := addrWF_listingOf info hr.deps hn
  refine ⟨ha, ?_⟩
  obtain ⟨s, st', h1, nv⟩ := Lemmas.Listing.entry_spec (opsAt info r.deps) r.st hr.listing (hr.coupled ▸ ha)
  exact ⟨s, st', h1, nv.keeps.lines, nv.keeps.code, hr.coupled ▸ nv.lands⟩

/-- `NoTop` holds for the code start-up builds (C20 `Fits`: no section reaches `2^64`) and is kept by every
history of moves -/
theorem noTop_real {image : List Elf.Block} (ht : Elf.Spec.Tidy image)
    {is : List (Parse.Ins (Riscv.Entry × Riscv.Ins))} (h : Parse.parseRv64 image = .ok is) (entry : Nat)
    (c0 : Deps.Code) (hc : Deps.newCode entry (rawOf is) = .ok c0) (ops : List Deps.Op) :
    NoTop (c0.run ops) := by
  exact noTop_sameCode ((inv_of_parse ht h entry c0 hc).run ops).2 (noTop_of_parse ht h entry c0 hc)

open Mltwist.UI Mltwist.Lemmas.UI in
/-- THE COHERENCE of byte memory and sparse memory (and any overlay of them) with the memory view (the hypothesis
`mem_ok` of C22, for the memories the tool really has).  If every layer satisfies its invariant (C14 `Sparse.Inv`, C15
`BytesSpec.Inv`; C16 `Mem.Inv`), stores constants and no present byte sits at `2^64 - 1`, then the memory the
memory view reads (`ofMem`) is coherent in the sense of C32 with the layered byte map of C16: `Blocks()` is a
normal, bounded list of exactly the present addresses and every present address loads as its byte -/
theorem memory_coherence (m : Overlay.Mem) (hinv : m.Inv) (hc : AllConst m) (hb : PresentBounded m.abs) :
    ∃ bl, Lemmas.MemView.NormalR bl ∧ Lemmas.MemView.Bounded bl ∧
      Lemmas.MemView.Coh (ofMem m) bl (memBytes m) ∧ ∀ a, Lemmas.MemView.MemR a bl ↔ m.abs a ≠ none :=
  ofMem_coh m hinv hc hb

open Mltwist.UI Mltwist.Lemmas.UI in
/-- EVERY ASSUMPTION OF C22 ON THE EMULATOR (`EmuLawful`) is a theorem for the real emulator model AS IT IS:
`step_safe` (C03 `never_panics_step`: no panic whatever the instruction accesses — REPAIR F45), `ip_some` (C03/C04),
`width_byte` (`expr.Width` is `uint8`), `regs_oneIP` (C18: the register file is a map), `mem_ok`
(`memory_coherence`), `init_good`, `store_good` -/
theorem real_emulator_lawful {image bs : List BytesMem.Block} (hnb : BytesMem.newBytes image = .ok bs)
    (hbb : ∀ x, BytesSpec.ofBlocks bs x ≠ none → x + 1 < 2 ^ 64) (cv : CodeView) (hwf : CodeWF cv)
    (hsw : CodeSW cv) :
    EmuLawful (emuOps bs cv) EGood :=
  emu_lawful hnb hbb cv hwf hsw

set_option maxRecDepth 100000 in
/-- F45: `lb x3,-1(x0)`, a one-byte load from address `2^64 - 1`, made `Emulator.Step` of the Go program panic from the
state the tool starts with, before its repair (the interval `[2^64 - 1, 0)` reached the interval tree).  The step of the
repaired program is the access error: the step tree of the console is the error leaf and the emulator is still at
`0x1000`. -/
theorem step_at_the_top_is_an_error :
    (liftCode topBlocks).map (fun code =>
      match stepTree ⟨code, Emulator.new 4096 (toolState [] [])⟩ stepFuel [] with
      | .fail e => (match mustIP e.st with | .ok ip => some ip | .error _ => none)
      | _ => none) = some (some 4096) := by decide +kernel

open Mltwist.UI Mltwist.Lemmas.UI in
/-- C22 `session_never_panics` FOR THE INSTANTIATED UI, THE EMULATOR AS IT IS.  Code operations: the real dependency
model; emulator: the real emulator model on `Overlay(Bytes(bs), Sparse)`; left as parameters: the regular
expression library `rx`, the texts/bytes `info` of the instructions, and the input.  For every input the session
ends by `quit`, at the end of the input or in a starving value prompt — never in a panic. -/
theorem session_never_panics_real (info : Info) {bs : List BytesMem.Block} (rx : Str → Option (String → Bool))
    {d0 : Deps.Code} (henv : EnvOK bs d0) (hd : CInv d0) (inp : Input) :
    realSession info bs rx d0 inp = .exited ∨ (∃ a, realSession info bs rx d0 inp = .eof a) ∨
      realSession info bs rx d0 inp = .hang := by
  have h0 := init_eq (σ := ESt) (listingOf info d0)
  -- unfolded as a function: against `realSession … inp` the kernel would evaluate `UI.init` (the command table)
  rw [(by delta realSession; rfl : realSession = _), h0]
  exact realRunWith_safe info rx henv (inp.length + 1) _ inp (sinv_init info d0 hd _ h0) (by omega)

open Mltwist.UI Mltwist.Lemmas.UI in
/-- … with every hypothesis about the program discharged by start-up (C26): for every argument count and every
`debug/elf` view such that start-up reaches the UI, the session on the code and the byte memory that start-up
built never panics, whatever the regular expression library answers and whatever is typed — also when the
user steps the emulator into an access at the top of the address space (F45, repaired: an error message) -/
theorem session_never_panics_after_startup (lim nargs : Nat) (v : Option Elf.View)
    (hv : ∀ w, v = some w → Elf.Spec.ViewOK w) (hui : Startup.run lim nargs v = .ui) :
    ∃ w code mem is c bs, v = some w ∧ Started lim w code mem is c bs ∧
      ∀ (info : Info) (rx : Str → Option (String → Bool)) (inp : Input),
        realSession info bs rx c inp = .exited ∨ (∃ a, realSession info bs rx c inp = .eof a) ∨
          realSession info bs rx c inp = .hang := by
  obtain ⟨_, w, code, mem, is, c, bs, rfl, hs⟩ := startup_ui_started lim nargs v hv hui
  obtain ⟨henv, hc⟩ := envOK_of_started hs
  exact ⟨w, code, mem, is, c, bs, rfl, hs, fun info rx inp => session_never_panics_real info rx henv hc inp⟩

open Mltwist.UI Mltwist.Lemmas.UI in
/-- every call of `processCommand` on the instantiated UI: no panic, every line answered, the invariants (C07's on
the real code, the UI's) hold again, the real code keeps its instructions, edges and block ranges -/
theorem line_answered_real (info : Info) {bs : List BytesMem.Block} (rx : Str → Option (String → Bool))
    {d0 : Deps.Code} (henv : EnvOK bs d0) (r : RUI) (hr : SInv d0 r) (inp : Input) :
    uiStep (paramsAt info bs rx r.deps) r.ui inp ≠ .panic ∧
    ∀ a ui' rest, uiStep (paramsAt info bs rx r.deps) r.ui inp = .cont a ui' rest →
      rest.length < inp.length ∧ (a = .skipped ↔ inp.head? = some []) ∧
      SInv d0 ⟨uiNextDeps r.deps r.ui inp, ui'⟩ := by
  obtain ⟨hs, hnext⟩ := real_step_safe info rx henv r hr inp
  exact ⟨hs.no_panic, fun a ui' rest hc => ⟨hs.shorter hc, hs.skipped_iff hc, hnext a ui' rest hc⟩⟩

open Mltwist.UI Mltwist.Lemmas.UI in
/-- the screen of every state of the composed system prints without a panic at every terminal height (C24/C32) -/
theorem view_prints_real (info : Info) {bs : List BytesMem.Block} (rx : Str → Option (String → Bool))
    {d0 : Deps.Code} (henv : EnvOK bs d0) (r : RUI) (hr : SInv d0 r) (n : Nat) :
    (renderTop (paramsAt info bs rx r.deps).eops r.ui n).status ≠ .panic ∧
      (renderTop (paramsAt info bs rx r.deps).eops r.ui n).status ≠ .outOfFuel :=
  renderTop_safe _ (paramsAt_lawful info rx henv hr.deps hr.same).2 r.ui hr.ui n

open Mltwist.UI Mltwist.Lemmas.UI in
/-- IN EVERY STATE OF EVERY SESSION of the instantiated UI (`RReach`: the state after `consoleui.New` and every state
`processCommand` returns to `Run`): C07's invariant holds on the real code, which still has the instructions, edges
and block ranges it started with; the invariant of the UI (C22/C23) holds; and the mode stack is `[disassembler]`,
`[emulator, disassembler]` or `[memory view, emulator, disassembler]`, coupled with the real code (`Shaped`) -/
theorem session_invariants (info : Info) {bs : List BytesMem.Block} (rx : Str → Option (String → Bool))
    {d0 : Deps.Code} (henv : EnvOK bs d0) (hd : CInv d0) (r : RUI) (h : RReach info bs rx d0 r) :
    CInv r.deps ∧ SameCode d0 r.deps ∧ UIInv EGood r.ui ∧ Shaped info r.deps r.ui.stack := by
  obtain ⟨h1, h2⟩ := reach_inv info rx henv hd r h
  exact ⟨h1.deps, h1.same, h1.ui, h2⟩

open Mltwist.UI Mltwist.Lemmas.UI in
/-- C23 INSIDE THE UI, OVER THE REAL CODE: whenever the disassembler mode is the current mode of a session, its code
state is the view of the CURRENT real code — so the operations its `move` command calls are the real `code.Move` /
`code.Index(b).Move` (`real_ops_are_real`) — and its listing is, apart from the marks, the fresh rendering of the
current real code -/
theorem ui_listing_reflects_real_code (info : Info) {bs : List BytesMem.Block} (rx : Str → Option (String → Bool))
    {d0 : Deps.Code} (henv : EnvOK bs d0) (hd : CInv d0) (r : RUI) (h : RReach info bs rx d0 r)
    (top : NamedMode ESt) (below : List (NamedMode ESt)) (st : Listing.St) (hst : r.ui.stack = top :: below)
    (hm : top.mode = .dis st) :
    st.code = listingOf info r.deps ∧
      Listing.Spec.shown st.lines = Listing.Spec.rows (listingOf info r.deps) := by
  have hr := reach_rinv info rx henv hd r h hst hm
  exact ⟨hr.coupled, hr.coupled ▸ (Lemmas.Listing.inv_shows st hr.listing).1⟩

open Mltwist.UI Mltwist.Lemmas.UI in
/-- … and whenever the emulator mode is the current mode, its emulator runs on the code view of the CURRENT real
code (the code cannot change while an emulator exists), its own listing shows the current real code, and its state
is good (`EGood`: C03 `CodeWF`, C04 `Ready`, …) -/
theorem ui_emulator_runs_on_current_code (info : Info) {bs : List BytesMem.Block}
    (rx : Str → Option (String → Bool)) {d0 : Deps.Code} (henv : EnvOK bs d0) (hd : CInv d0) (r : RUI)
    (h : RReach info bs rx d0 r) (top : NamedMode ESt) (below : List (NamedMode ESt)) (e : EmuMode ESt)
    (hst : r.ui.stack = top :: below) (hm : top.mode = .emu e) :
    e.emu.code = codeViewOf r.deps ∧ e.view.code = listingOf info r.deps ∧ EGood e.emu := by
  obtain ⟨_, _, hui, hsh⟩ := session_invariants info rx henv hd r h
  have hinv : ModeInv EGood (.emu e) := top_inv (uiinv_of_stack hui hst) hm
  obtain ⟨hv, hc⟩ := (hst ▸ hsh).of_emu hm
  exact ⟨hc, hv, hinv.good⟩

/-- every instruction `infoOfParsed is` describes has four bytes: the listing's modelling assumption "instructions have at
least one byte" (`byteStr`) is a theorem of C21 -/
theorem infoOfParsed_bytes {image : List Elf.Block} (ht : Elf.Spec.Tidy image)
    {is : List (Parse.Ins (Riscv.Entry × Riscv.Ins))} (h : Parse.parseRv64 image = .ok is) :
    ∀ i ∈ is, ((infoOfParsed is) i.addr).2.length = 4 := by
  intro i hi
  unfold infoOfParsed
  cases hf : is.find? fun j => j.addr == i.addr with
  | none =>
    have := List.find?_eq_none.1 hf i hi
    simp at this
  | some j =>
    -- the instruction is as long as an accepted answer of the decoder says, and the RISC-V decoder only says 4
    obtain ⟨⟨_, _, _, hd, _, hl⟩, _⟩ := (Lemmas.Parse.tilingAll_layout
      ((Props.C21.parse_ok_iff _ (Props.C21.rv_honest _) image ht.1 is).1 h) ht).1 j (List.mem_of_find?_eq_some hf)
    exact hl.trans (Lemmas.Parse.rvDecoder_ok hd).1

/-- `addi x1,x0,1 ; addi x2,x0,2 ; jal x0,0` at 0x1000 (the jump targets itself: two blocks) -/
def exImage : List Elf.Block :=
  [(4096, [0x93, 0x00, 0x10, 0x00, 0x13, 0x01, 0x20, 0x00, 0x6f, 0x00, 0x00, 0x00])]

/-- the real dependency model start-up builds for it: `parser.Parse`, then `deps.NewCode` at entry 0x1000 -/
def exCode : Option Deps.Code :=
  match Parse.parseRv64 exImage with
  | .ok is => (Deps.newCode 4096 (rawOf is)).toOption
  | .error _ => none

def exInfo : Info := fun a => (toString a, [0, 0, 0, 0])

example : Elf.Spec.Tidy exImage := by decide

set_option maxRecDepth 100000 in
/-- parser ⇒ dependency model ⇒ emulator: the chain succeeds; the code view of the real model is `liftCode` of the image; `Code.Address` +
`Block.Address` find the instruction at 0x1004 and report "not found" inside an instruction -/
example : (exCode.map fun c => ((codeViewOf c).map (·.addr), Emulator.liftCode exImage == some (codeViewOf c),
      (instruction c 4100).map (·.map (·.currAddr)), instruction c 4102)) =
    some ([4096, 4100, 4104], true, some (some 4100), some none) := by decide +kernel

set_option maxRecDepth 100000 in
/-- listing: on the real model, `move 1 2` swaps the two independent `addi` (the REAL code changes: the instruction
from 0x1004 now sits at 0x1000), `move 3 1` (from the blank row) is rejected and changes nothing but marks, `goto 2`
moves the cursor; the listing state shows the real code afterwards -/
example : (exCode.bind fun c => (realRun exInfo (RSt.init exInfo c) [.move 1 2, .move 3 1, .goto 2]).map fun r =>
      (r.deps.store.map fun b => b.seq.map fun i => (i.origAddr, i.currAddr),
        r.st.code == listingOf exInfo r.deps,
        r.st.lines.lines.map (·.mark), r.st.cursor.value)) =
    some ([[(4100, 4096), (4096, 4100)], [(4104, 4104)]], true, ["", "!>", "", "!<", "", "", ""], 2) := by
  decide +kernel

end Mltwist.Props.Compose
