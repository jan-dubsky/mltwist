import Mltwist.Lemmas.Structural
/-
C28 — structural expression utilities are exact.
-/
namespace Mltwist.Props.C28
open Mltwist

/-- structural equality holds exactly for identically built trees -/
theorem equal_iff (a b : Expr) : equal a b = true ↔ a = b := by
  induction a generalizing b <;> cases b <;>
    simp only [equal, Bool.and_eq_true, beq_iff_eq, reduceCtorEq, Bool.false_eq_true, Expr.const.injEq,
      Expr.binary.injEq, Expr.less.injEq, Expr.memLoad.injEq, Expr.regLoad.injEq, *]
  -- what is left: `equal` compares the width first, the constructor's equality has it last
  all_goals constructor <;> (intro h; simp only [h, and_self])

/-- searching returns every sub-expression of the requested kind, in pre-order -/
theorem findAll_spec (k : Kind) (e : Expr) :
    findAll k e = e.subterms.filter (fun s => decide (s.kind = k)) := by
  -- per constructor: `filter` over the node followed by its children, in the shape `findAll` has
  induction e <;>
    simp only [findAll, Expr.subterms, Lemmas.Structural.filter_cons_eq_append, List.filter_append,
      List.filter_nil, List.append_nil, List.append_assoc, decide_eq_true_eq, *]

/-- substitution replaces exactly the matching sub-expressions, bottom-up -/
theorem replaceAll_spec (k : Kind) (f : Expr → Option Expr) (e : Expr) :
    replaceAll k f e = e.mapBottomUp (fun s => if s.kind = k then (f s).getD s else s) :=
  Lemmas.Structural.replaceAll_spec k f e

/-- … and returns the same tree when nothing matches -/
theorem replaceAll_nomatch (k : Kind) (f : Expr → Option Expr) (e : Expr)
    (h : ∀ s ∈ e.subterms, s.kind = k → f s = none) : replaceAll k f e = e := by
  rw [replaceAll_spec]
  refine Lemmas.Structural.mapBottomUp_eq_self _ e fun s hs => ?_
  split
  · next hk => rw [h s hs hk]; rfl
  · rfl

/-- the effect helpers list exactly the operand expressions … -/
theorem exprs_memStore (v a : Expr) (k : String) (w : Nat) :
    (Effect.memStore v k a w).exprs = [a, v] := rfl
theorem exprs_regStore (v : Expr) (k : String) (w : Nat) :
    (Effect.regStore v k w).exprs = [v] := rfl

/-- … and transform exactly those, preserving kind, key and width -/
theorem apply_memStore (g : Expr → Expr) (v a : Expr) (k : String) (w : Nat) :
    (Effect.memStore v k a w).apply g = .memStore (g v) k (g a) w := rfl
theorem apply_regStore (g : Expr → Expr) (v : Expr) (k : String) (w : Nat) :
    (Effect.regStore v k w).apply g = .regStore (g v) k w := rfl
theorem apply_width (g : Expr → Expr) (ef : Effect) : (ef.apply g).width = ef.width := by
  cases ef <;> rfl

example : findAll .regLoad (.binary .add (.regLoad "a" 1) (.memLoad "m" (.regLoad "b" 8) 1) 1)
    = [.regLoad "a" 1, .regLoad "b" 8] := by decide

end Mltwist.Props.C28
