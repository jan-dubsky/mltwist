import Mltwist.Lemmas.RiscvLift
/-
C01 — lifted RISC-V instructions have exactly the RISC-V semantics.

Reference: `Spec/Riscv.lean` (`Spec.Rv.exec`, my transcription of the unprivileged ISA with the
tool's documented approximations); meaning of an effect list and of "a valuation represents a
machine state": `Spec/RiscvLift.lean`.  What "lifts correctly" means is `LiftOK`, defined at the top of
`Lemmas/RiscvLift.lean`; `Cfg xlen` (`xlen = 32 ∨ xlen = 64`) is in `Lemmas/RiscvFields.lean`.  The tables are regenerated from /repo on every run.
Scope (`noWrap`): memory accesses that wrap around the end of the variant's address space are
excluded; wrapping address arithmetic is in scope.
-/
namespace Mltwist.Props.C01
open Mltwist Mltwist.Riscv Mltwist.Spec.Rv Mltwist.Spec.Lift
open Mltwist.Lemmas.RiscvDecode (Cfg)
open Mltwist.Lemmas.RiscvLift (LiftOK)

/-- every entry of every configuration (RV32/RV64, any subset of M and A) lifts correctly -/
theorem lift_correct (xlen : Nat) (hx : Cfg xlen) (m a : Bool) :
    ∀ e ∈ instructionSet xlen m a, LiftOK xlen e :=
  Lemmas.RiscvLift.lift_correct xlen hx m a

/-- no entry of any configuration has an effect that writes register x0 -/
theorem x0_never_written (xlen : Nat) (hx : Cfg xlen) (m a : Bool) :
    ∀ e ∈ instructionSet xlen m a, ∀ i : Ins, ∀ v k w,
      Effect.regStore v k w ∈ e.validEffects i → k ≠ xName 0 :=
  fun _ he i v k w hm => (Lemmas.RiscvLift.entryNoX0_of_mem hx he).validEffects i v k w hm

/-- a read of register x0 is lifted to the constant zero, whatever the width -/
theorem x0_reads_zero (r : Reg) (i : Ins) (w : Nat) (h : regNum r i.value = 0) :
    regLoad r i w = Expr.zero :=
  (Lemmas.RiscvLift.regLoad_cases r i w).elim (·.2) fun h' => absurd h h'.1

/-- CSR instructions use one register per unsigned 12-bit CSR number (and per number beyond: the bounds are not used) -/
theorem csrName_injective (n m : Nat) (hn : n < 4096) (hm : m < 4096) (h : csrName n = csrName m) :
    n = m :=
  Lemmas.RiscvLift.csrName_inj h

/-- the register a CSR instruction accesses is the one named by its CSR number (for any word: the bound is not used) -/
theorem csrKey_eq (i : Ins) (h : i.value < 2 ^ 32) : csrKey i = csrName (csrNum i.value) :=
  Lemmas.RiscvLift.csrKey_eq (a := i.addr)

/-- the hypothesis `matchesWord` of `LiftOK` can be met: the RV64 entry `addi` matches the word of
`addi x10, x1, -16` -/
example : (Gen.integer64.find? (·.name == "addi")).map (fun e => e.matchesWord 0xff008513) = some true := by
  decide

end Mltwist.Props.C01
