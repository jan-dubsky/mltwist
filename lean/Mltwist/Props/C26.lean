import Mltwist.Lemmas.Startup
/-
C26 — start-up is total over input files.  PARTIAL by nature: `debug/elf`, the operating system, the
allocator and the terminal are outside the model.

Model (`Model/Startup.lean`): `run lim nargs view` = `run()`/`parseElf`/`runIU` of
`cmd/mltwist/main.go` up to (excluding) `ui.Run()`, composed of the component models of C20 (`load`,
`machineCode`, `memory`), C19/C02 (`newMatcher` over the regenerated RV64IMA table =
`riscv.NewParser`), C21 (`parseRv64`), C08 (`newCode`) and C15 (`newBytes`).  Its input is the
argument count and the `debug/elf` view of the file (`none` when `elf.Open` fails: missing file,
directory, empty, not ELF, truncated header or tables).  Outcomes: `ui` (the interactive UI is entered),
`exit1 stage` (`mltwist: <message>` on stderr, exit status 1), `panic` (crash).

What the theorem says: for every argument count and every view, the outcome is `ui` or `exit1 _`,
never `panic` — provided the zero fill of every loadable segment is within what the allocator grants
(`lim`).  Without that proviso the claim is FALSE for the code as it is (F19: `Parser.Memory`
allocates `p_memsz` bytes blindly; the binary crashes on such a file) — a known finding, not repaired.
`ViewOK` collects the facts about `debug/elf` values taken for granted (C20).

Not modelled: `disassemble.New`/`consoleui.New` (construction of the UI objects out of constant
command tables — executed by the differential check), `ui.Run()` itself (C22), the conversion of the
file into the view (`debug/elf`; exercised by the differential check on generated, mutated and junk
files, in-process and through the real binary).
-/
namespace Mltwist.Props.C26
open Mltwist Mltwist.Elf Mltwist.Startup

/-- start-up never crashes: the outcome is the UI or an error exit -/
theorem run_total (lim nargs : Nat) (v : Option View) (hv : ∀ w, v = some w → Elf.Spec.ViewOK w)
    (hlim : ∀ w, v = some w → ∀ p ∈ w.progs, p.typ = 1 → p.memsz ≤ lim) :
    run lim nargs v = .ui ∨ ∃ s, run lim nargs v = .exit1 s := by
  have h := Lemmas.Startup.run_total lim nargs v hv hlim
  cases hr : run lim nargs v with
  | ui => exact Or.inl rfl
  | exit1 s => exact Or.inr ⟨s, rfl⟩
  | panic => exact absurd hr h

/-- a wrong number of arguments is an error exit, whatever the files are -/
theorem run_args (lim nargs : Nat) (v : Option View) (h : nargs ≠ 1) : run lim nargs v = .exit1 .args := by
  unfold run
  rw [if_pos (by omega)]

/-- a file that `debug/elf` does not open is an error exit -/
theorem run_unopened (lim : Nat) : run lim 1 none = .exit1 .elf := rfl

/-- so is a file of type none / relocatable / core -/
theorem run_wrong_type (lim : Nat) (w : View) (h : w.typ = 0 ∨ w.typ = 1 ∨ w.typ = 4) :
    run lim 1 (some w) = .exit1 .elf := by
  unfold run
  rw [Props.C20.type_rejected lim w h]
  rfl

/-- `riscv.NewParser(Variant64, ExtM, ExtA)` cannot hit its `bug: matcher creation failed` panic -/
theorem newParser_no_panic : ∃ M, Opcode.newMatcher (Riscv.patsOf Parse.rv64Table) = .ok M :=
  Lemmas.Parse.rv64Facts.newMatcher_ok

/-- once code and memory are loaded the rest of start-up cannot crash (no allocation proviso needed) -/
theorem runLoaded_total (entry : Nat) (code mem : List Block) (hc : Elf.Spec.Fits code) :
    runLoaded entry code mem ≠ .panic :=
  Lemmas.Startup.runLoaded_total entry code mem hc

/-- `memory.NewBytes` cannot fail on the program memory of a loaded file: "cannot create byte memory"
is unreachable -/
theorem runIU_ui (mem : List Block) (ht : Elf.Spec.Tidy mem) : runIU mem = .ui :=
  ((Lemmas.Startup.runIU_cases mem).resolve_right fun h => Lemmas.Startup.not_overlap_of_tidy mem ht h.2).1

/-- `addi x1,x0,1 ; jal x0,0` at 0x1000 with entry 0x1000 and one loadable segment reaches the UI;
entry in the middle of an instruction, an undefined word, no code, overlapping segments, too many
arguments exit with an error; an enormous `p_memsz` is the crash F19 -/
def goodView : View :=
  { typ := 2, entry := 4096,
    sections := [⟨1, 6, 4096, 8, 8, some [0x93, 0x00, 0x10, 0x00, 0x6f, 0x00, 0x00, 0x00]⟩],
    progs := [⟨1, 4096, 8, 16, some [0x93, 0x00, 0x10, 0x00, 0x6f, 0x00, 0x00, 0x00]⟩] }

-- the runs that get past loading go through `run_loaded` and `runLoaded_eq`: `decide` on `run` itself would
-- evaluate the opcode matcher over the whole table (see `Lemmas.Startup.runLoaded_eq`)
example : run 100 1 (some goodView) = .ui := by
  rw [Lemmas.Startup.run_loaded (hl := rfl) (hc := rfl) (hm := rfl), Lemmas.Startup.runLoaded_eq]
  decide +kernel
example : run 100 1 (some { goodView with entry := 4098 }) = .exit1 .model := by
  rw [Lemmas.Startup.run_loaded (hl := rfl) (hc := rfl) (hm := rfl), Lemmas.Startup.runLoaded_eq]
  decide +kernel
example : run 100 1 (some { goodView with
    sections := [⟨1, 6, 4096, 4, 4, some [0xff, 0xff, 0xff, 0xff]⟩] }) = .exit1 .parse := by
  rw [Lemmas.Startup.run_loaded (hl := rfl) (hc := rfl) (hm := rfl), Lemmas.Startup.runLoaded_eq]
  decide +kernel
example : run 100 1 (some { goodView with sections := [] }) = .exit1 .code := by decide +kernel
example : run 100 1 (some { goodView with
    progs := goodView.progs ++ [⟨1, 4100, 2, 2, some [1, 2]⟩] }) = .exit1 .memory := by decide +kernel
example : run 100 2 (some goodView) = .exit1 .args := by decide +kernel
example : run 100 1 (some { goodView with
    progs := [⟨1, 4096, 8, 4611686018427387904, some [0x93, 0x00, 0x10, 0x00, 0x6f, 0x00, 0x00, 0x00]⟩] }) = .panic := by
  decide +kernel

end Mltwist.Props.C26
