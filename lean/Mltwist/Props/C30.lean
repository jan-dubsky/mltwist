import Mltwist.Lemmas.NumParse
/-
C30 — numeric user input is parsed exactly.

Strings are byte strings (`List UInt8`).  `Spec.NumParse.AddrDenotes s v`: `s` is an address
numeral with value `v` (decimal | `0x`/`0X` hex | `0b`/`0B` binary | `0`-prefixed octal; a lone `0`
is zero).  `Spec.NumParse.ValueDenotes line n`: `line` is an integer accepted at a value prompt
(optional sign, the same bases plus `0o`/`0O`; no underscore, no blank, never empty).
`natToLE w (Spec.ofInt w n)` is the `w`-byte little-endian constant of the residue of `n` modulo
`2^(8w)` (`encoding_residue`).

`NumParse.parseAddr` is the model of `memview.parseAddr` after the repair of F27,
`NumParse.parseAddrPinned` the model of the pinned code (the witnesses at the end show it crashing),
`NumParse.readValue w` the model of `emulate.readValue(w)` on the line handed over by the line
reader.  Go's `expr.Width` is `uint8`, hence `w ≤ 255`.
-/
namespace Mltwist.Props.C30
open Mltwist Mltwist.NumParse Mltwist.Spec.NumParse

/-- an argument of the address grammar denotes exactly its value, provided it fits 64 bits -/
theorem parseAddr_ok_iff (s : List UInt8) (v : Nat) :
    parseAddr s = .ok v ↔ AddrDenotes s v ∧ v < 2 ^ 64 := by
  rw [Lemmas.NumParse.parseAddr_eq, ← Lemmas.NumParse.addrExpected_eq_some]
  cases addrExpected s <;> simp

/-- every other argument is answered with an error … -/
theorem parseAddr_err_iff (s : List UInt8) :
    parseAddr s = .err ↔ ¬ ∃ v, AddrDenotes s v ∧ v < 2 ^ 64 := by
  rw [Lemmas.NumParse.parseAddr_eq]
  simp only [← Lemmas.NumParse.addrExpected_eq_some]
  cases addrExpected s <;> simp

/-- … and the parser never crashes -/
theorem parseAddr_no_panic (s : List UInt8) : parseAddr s ≠ .panic :=
  Lemmas.NumParse.parseAddr_no_panic s

/-- the grammar is unambiguous … -/
theorem addrDenotes_unique {s : List UInt8} {n m : Nat} (h1 : AddrDenotes s n)
    (h2 : AddrDenotes s m) : n = m :=
  Option.some.inj (((Lemmas.NumParse.addrValue_iff s n).mpr h1).symm.trans
    ((Lemmas.NumParse.addrValue_iff s m).mpr h2))

/-- … and the executable oracle used by the differential check decides it -/
theorem addrValue_iff (s : List UInt8) (v : Nat) : addrValue s = some v ↔ AddrDenotes s v :=
  Lemmas.NumParse.addrValue_iff s v

/-- a typed integer becomes its residue modulo `2^(8w)` as a `w`-byte constant -/
theorem readValue_ok_iff (w : Nat) (hw : w ≤ 255) (line c : List UInt8) :
    readValue w line = .ok c ↔ ∃ n, ValueDenotes line n ∧ c = natToLE w (Spec.ofInt w n) := by
  rw [Lemmas.NumParse.readValue_eq w hw, ← Lemmas.NumParse.valueExpected_eq_some]
  cases valueExpected w line <;> simp

/-- everything else is rejected … -/
theorem readValue_err_iff (w : Nat) (hw : w ≤ 255) (line : List UInt8) :
    readValue w line = .err ↔ ¬ ∃ n, ValueDenotes line n := by
  rw [Lemmas.NumParse.readValue_eq w hw]
  unfold valueExpected
  simp only [← Lemmas.NumParse.lineValue_iff]
  cases lineValue line <;> simp

/-- … without a crash (the type assertion `.(expr.Const)` after `ConstFold` cannot fail) -/
theorem readValue_no_panic (w : Nat) (hw : w ≤ 255) (line : List UInt8) :
    readValue w line ≠ .panic :=
  Lemmas.NumParse.readValue_no_panic w hw line

/-- empty input and underscores are rejected -/
theorem readValue_empty (w : Nat) : readValue w [] = .err := rfl

theorem readValue_underscore (w : Nat) (line : List UInt8) (h : (0x5f : UInt8) ∈ line) :
    readValue w line = .err := by
  unfold readValue
  have : line.any (· == (0x5f : UInt8)) = true := List.any_eq_true.mpr ⟨_, h, beq_self_eq_true _⟩
  simp only [this, if_true]
  split_ifs <;> rfl

/-- the value grammar is unambiguous … -/
theorem valueDenotes_unique {s : List UInt8} {n m : Int} (h1 : ValueDenotes s n)
    (h2 : ValueDenotes s m) : n = m :=
  Option.some.inj (((Lemmas.NumParse.lineValue_iff s n).mpr h1).symm.trans
    ((Lemmas.NumParse.lineValue_iff s m).mpr h2))

/-- … and its executable oracle decides it -/
theorem lineValue_iff (s : List UInt8) (n : Int) : lineValue s = some n ↔ ValueDenotes s n :=
  Lemmas.NumParse.lineValue_iff s n

/-- meaning of the constant: `w` bytes whose little-endian value is `n mod 2^(8w)`
(two's complement for negative `n`) -/
theorem encoding_residue (w : Nat) (n : Int) :
    (natToLE w (Spec.ofInt w n)).length = w ∧
    (leToNat (natToLE w (Spec.ofInt w n)) : Int) = n % (2 ^ (8 * w) : Nat) := by
  refine ⟨Lemmas.Bytes.natToLE_length _ _, ?_⟩
  rw [Lemmas.Bytes.leToNat_natToLE, Nat.mod_eq_of_lt (Lemmas.EvalBasic.ofInt_lt w n)]
  exact Lemmas.TwosComplement.natCast_wrap (8 * w) n

/-! Non-vacuity and the F27 witnesses.  Strings: `5`, `0`, `0b101`, `0x1F`, `017`, `0x`,
`18446744073709551615` (= 2^64-1), `18446744073709551616`. -/

example : parseAddr [0x35] = .ok 5 ∧ parseAddr [0x30] = .ok 0
    ∧ parseAddr [0x30, 0x62, 0x31, 0x30, 0x31] = .ok 5
    ∧ parseAddr [0x30, 0x78, 0x31, 0x46] = .ok 31
    ∧ parseAddr [0x30, 0x31, 0x37] = .ok 15
    ∧ parseAddr [0x30, 0x78] = .err ∧ parseAddr [] = .err ∧ parseAddr [0x30, 0x39] = .err := by
  decide

example : parseAddr [0x31, 0x38, 0x34, 0x34, 0x36, 0x37, 0x34, 0x34, 0x30, 0x37, 0x33, 0x37, 0x30,
      0x39, 0x35, 0x35, 0x31, 0x36, 0x31, 0x35] = .ok (2 ^ 64 - 1)
    ∧ parseAddr [0x31, 0x38, 0x34, 0x34, 0x36, 0x37, 0x34, 0x34, 0x30, 0x37, 0x33, 0x37, 0x30,
      0x39, 0x35, 0x35, 0x31, 0x36, 0x31, 0x36] = .err := by
  decide

/-- F27: the pinned parser crashes on `5`, `0` and the empty string and rejects `0b101` -/
example : parseAddrPinned [0x35] = .panic ∧ parseAddrPinned [0x30] = .panic
    ∧ parseAddrPinned [] = .panic
    ∧ parseAddrPinned [0x30, 0x62, 0x31, 0x30, 0x31] = .err := by
  decide

/-- `-1` at width 4, `0x123456` truncated to 2 bytes, `-0b1` at width 1, `1_0` and `-` rejected -/
example : readValue 4 [0x2d, 0x31] = .ok [0xff, 0xff, 0xff, 0xff]
    ∧ readValue 2 [0x30, 0x78, 0x31, 0x32, 0x33, 0x34, 0x35, 0x36] = .ok [0x56, 0x34]
    ∧ readValue 1 [0x2d, 0x30, 0x62, 0x31] = .ok [0xff]
    ∧ readValue 1 [0x31, 0x5f, 0x30] = .err ∧ readValue 1 [0x2d] = .err
    ∧ readValue 1 [0x30] = .ok [0] := by
  decide

example : AddrDenotes [0x30, 0x78, 0x31, 0x46] 31 := (addrValue_iff _ _).mp (by decide)
example : ValueDenotes [0x2d, 0x30, 0x6f, 0x37] (-7) := (lineValue_iff _ _).mp (by decide)

end Mltwist.Props.C30
