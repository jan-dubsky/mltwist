import Mltwist.Lemmas.Gadgets
/-
C11 — expression gadgets compute their documented functions (`Spec/Gadgets.lean`), in terms of the reference evaluator:
for all operand values and every width, or every width from 1 to 255 where the gadget builds a two-byte shift amount
(`hw`, `hw'`; see `Lemmas/Gadgets.lean`).  `signedDiv` and `signedMod` are stated for operands of the operator's own width
(`Lemmas.Gadgets.eval_signedDiv_of_widths` is the division for narrower operands, which the RISC-V lifting needs);
`signedMul` for operands of any widths up to `2 * w`.
-/
namespace Mltwist.Props.C11
open Mltwist

theorem eval_negate (ρ : Env) (e : Expr) (w : Nat) :
    (Tools.negate e w).eval ρ = Spec.neg w (e.eval ρ) :=
  Lemmas.Gadgets.eval_negate ρ e w

theorem eval_sub (ρ : Env) (a b : Expr) (w : Nat) :
    (Tools.sub a b w).eval ρ = Spec.sub w (trunc w (a.eval ρ)) (trunc w (b.eval ρ)) :=
  Lemmas.Gadgets.eval_sub ρ a b w

theorem eval_abs (ρ : Env) (e : Expr) (w : Nat) (hw : 1 ≤ w) (hw' : w ≤ 255) :
    (Tools.abs e w).eval ρ = Spec.abs w (e.eval ρ) :=
  Lemmas.Gadgets.eval_abs ρ e w hw hw'

theorem eval_ones (ρ : Env) (w : Nat) :
    (Tools.ones w).eval ρ = Spec.ones w :=
  Lemmas.Gadgets.eval_ones ρ w

theorem eval_mod (ρ : Env) (a b : Expr) (w : Nat) :
    (Tools.mod a b w).eval ρ = Spec.umod w (a.eval ρ) (b.eval ρ) :=
  Lemmas.Gadgets.eval_mod ρ a b w

theorem eval_signedMul (ρ : Env) (a b : Expr) (w : Nat) (hw : w ≤ 127)
    (ha : 1 ≤ a.width ∧ a.width ≤ 2 * w) (hb : 1 ≤ b.width ∧ b.width ≤ 2 * w) :
    (Tools.signedMul a b w).eval ρ = Spec.smul w a.width b.width (a.eval ρ) (b.eval ρ) :=
  Lemmas.Gadgets.eval_signedMul ρ a b w hw ha hb

theorem eval_signedDiv (ρ : Env) (a b : Expr) (w : Nat) (hw : 1 ≤ w) (hw' : w ≤ 255)
    (ha : a.width = w) (hb : b.width = w) :
    (Tools.signedDiv a b w).eval ρ = Spec.sdiv w (a.eval ρ) (b.eval ρ) :=
  Lemmas.Gadgets.eval_signedDiv ρ a b w hw hw' ha hb

theorem eval_signedMod (ρ : Env) (a b : Expr) (w : Nat) (hw : 1 ≤ w) (hw' : w ≤ 255)
    (ha : a.width = w) (hb : b.width = w) :
    (Tools.signedMod a b w).eval ρ = Spec.smod w (a.eval ρ) (b.eval ρ) :=
  Lemmas.Gadgets.eval_signedMod ρ a b w hw hw' ha hb

theorem eval_signExtend (ρ : Env) (e sb : Expr) (w : Nat)
    (hbit : trunc w (sb.eval ρ) < 8 * w) :
    (Tools.signExtend e sb w).eval ρ = Spec.sext w (trunc w (e.eval ρ)) (trunc w (sb.eval ρ)) :=
  Lemmas.Gadgets.eval_signExtend ρ e sb w hbit

theorem eval_rshA (ρ : Env) (e s : Expr) (w : Nat) (hw : 1 ≤ w) (hw' : w ≤ 255) :
    (Tools.rshA e s w).eval ρ = Spec.rsha w (e.eval ρ) (trunc w (s.eval ρ)) :=
  Lemmas.Gadgets.eval_rshA ρ e s w hw hw'

theorem eval_bitNot (ρ : Env) (e : Expr) (w : Nat) :
    (Tools.bitNot e w).eval ρ = Spec.bnot w (e.eval ρ) :=
  Lemmas.Gadgets.eval_bitNot ρ e w

theorem eval_bitAnd (ρ : Env) (a b : Expr) (w : Nat) :
    (Tools.bitAnd a b w).eval ρ = Spec.band w (a.eval ρ) (b.eval ρ) :=
  Lemmas.Gadgets.eval_bitAnd ρ a b w

theorem eval_bitOr (ρ : Env) (a b : Expr) (w : Nat) :
    (Tools.bitOr a b w).eval ρ = Spec.bor w (a.eval ρ) (b.eval ρ) :=
  Lemmas.Gadgets.eval_bitOr ρ a b w

theorem eval_bitXor (ρ : Env) (a b : Expr) (w : Nat) :
    (Tools.bitXor a b w).eval ρ = Spec.bxor w (a.eval ρ) (b.eval ρ) :=
  Lemmas.Gadgets.eval_bitXor ρ a b w

theorem eval_bool (ρ : Env) (e : Expr) (he : 1 ≤ e.width) :
    (Tools.bool e).eval ρ = if e.eval ρ = 0 then 0 else 1 :=
  Lemmas.Gadgets.eval_bool ρ e he

theorem eval_not (ρ : Env) (e : Expr) (he : 1 ≤ e.width) :
    (Tools.not e).eval ρ = if e.eval ρ = 0 then 1 else 0 := by
  rw [Tools.not, Lemmas.Gadgets.eval_zeroTest ρ e _ _ he]
  simp only [Lemmas.EvalBasic.eval_zero, Lemmas.EvalBasic.eval_one, Lemmas.Bytes.trunc_zero,
    Lemmas.Bytes.trunc_one he, Lemmas.Bytes.trunc_one (Nat.le_refl 1)]

theorem eval_boolCond (ρ : Env) (c t f : Expr) (w : Nat) :
    (Tools.boolCond c t f w).eval ρ =
      if trunc w (c.eval ρ) ≠ 0 then trunc w (t.eval ρ) else trunc w (f.eval ρ) :=
  Lemmas.Gadgets.eval_boolCond ρ c t f w

theorem eval_eq (ρ : Env) (a b t f : Expr) (w : Nat) (hw : 1 ≤ w) :
    (Tools.eq a b t f w).eval ρ =
      if trunc w (a.eval ρ) = trunc w (b.eval ρ) then trunc w (t.eval ρ) else trunc w (f.eval ρ) :=
  Lemmas.Gadgets.eval_eq ρ a b t f w hw

theorem eval_lts (ρ : Env) (a b t f : Expr) (w : Nat) (hw : 1 ≤ w) (hw' : w ≤ 255) :
    (Tools.lts a b t f w).eval ρ =
      if toInt w (trunc w (a.eval ρ)) < toInt w (trunc w (b.eval ρ))
      then trunc w (t.eval ρ) else trunc w (f.eval ρ) :=
  Lemmas.Gadgets.eval_lts ρ a b t f w hw hw'

theorem eval_leu (ρ : Env) (a b t f : Expr) (w : Nat) (hw : 1 ≤ w) :
    (Tools.leu a b t f w).eval ρ =
      if trunc w (a.eval ρ) ≤ trunc w (b.eval ρ) then trunc w (t.eval ρ) else trunc w (f.eval ρ) := by
  simp only [Tools.leu, Lemmas.EvalBasic.eval_less, eval_eq _ _ _ _ _ _ hw, Lemmas.EvalBasic.trunc_ite,
    Lemmas.EvalBasic.ite_or]
  exact Lemmas.EvalBasic.ite_congr_prop Nat.le_iff_lt_or_eq.symm _ _

theorem eval_les (ρ : Env) (a b t f : Expr) (w : Nat) (hw : 1 ≤ w) (hw' : w ≤ 255) :
    (Tools.les a b t f w).eval ρ =
      if toInt w (trunc w (a.eval ρ)) ≤ toInt w (trunc w (b.eval ρ))
      then trunc w (t.eval ρ) else trunc w (f.eval ρ) := by
  simp only [Tools.les, eval_lts _ _ _ _ _ _ hw hw', eval_eq _ _ _ _ _ _ hw, Lemmas.EvalBasic.trunc_ite,
    Lemmas.EvalBasic.ite_or]
  refine Lemmas.EvalBasic.ite_congr_prop ?_ _ _
  rw [Int.le_iff_lt_or_eq]
  exact or_congr Iff.rfl
    ⟨congrArg (toInt w), Lemmas.EvalBasic.toInt_inj (Lemmas.Bytes.trunc_lt' _ _) (Lemmas.Bytes.trunc_lt' _ _)⟩

/-- bit masking, for EVERY bit count: `bitMask` clamps the count to the width (F34), so there is neither a two-byte
count truncated at width 1 nor a `NewConstUint` panic for `8w < cnt ≤ 64` -/
theorem eval_maskBits (ρ : Env) (e : Expr) (cnt w : Nat) (hw : w ≤ 255) :
    (Tools.maskBits e cnt w).eval ρ = Spec.mask w (e.eval ρ) cnt :=
  Lemmas.Gadgets.eval_maskBits ρ e cnt w hw

/-- the clamped count never makes `NewConstUint` inside `bitMask` panic -/
theorem bitMask_never_panics (cnt w : Nat) :
    Tools.bitMaskOk (if cnt > 8 * w then 8 * w else cnt) w = true :=
  Lemmas.Gadgets.bitMaskOk_clamp cnt w

theorem eval_intNegative (ρ : Env) (e : Expr) (w : Nat) (hw : 1 ≤ w) (hw' : w ≤ 255) :
    (Tools.intNegative e w).eval ρ =
      if toInt w (trunc w (e.eval ρ)) < 0 then 2 ^ (8 * w - 1) else 0 :=
  Lemmas.Gadgets.eval_intNegative ρ e w hw hw'

theorem eval_widthGadget (ρ : Env) (e : Expr) (w : Nat) :
    (newWidthGadget e w).eval ρ = trunc w (e.eval ρ) :=
  Lemmas.Gadgets.eval_widthGadget ρ e w

theorem widthGadgetArg_newWidthGadget (e : Expr) (w : Nat) :
    widthGadgetArg (newWidthGadget e w) = some e := by
  simp [newWidthGadget, widthGadgetArg, Expr.zero]

/-- non-vacuity: signed division of -7 by 2 at one byte is -3 (0xfd) under the real folding -/
example : constFold (Tools.signedDiv (.const [0xf9]) (.const [2]) 1) = .const [0xfd] := by decide

/-- F34: unclamped, the two-byte count 259 is cut to one byte by the enclosing `Lsh` and `MaskBits(0xff, 259, 1)` keeps
3 bits; with the clamp it keeps all eight, as documented. -/
example : (Tools.maskBits (.const [0xff]) 259 1).eval ⟨fun _ => 0, fun _ _ => 0⟩ = 255
    ∧ Spec.mask 1 0xff 259 = 255 := by decide

/-- `MaskBits(e, 40, 4)`: the clamped count gives the 4-byte all-ones mask (unclamped, `NewConstUint(2^40 - 1, 4)` panics) -/
example : constFold (Tools.maskBits (.const [1, 2, 3, 4]) 40 4) = .const [1, 2, 3, 4] := by decide

end Mltwist.Props.C11
