import Mltwist.Lemmas.EmulatorRefine
import Mltwist.Props.C04
/-
C03 — emulation agrees step by step with a RISC-V machine.

Model: `Model/Emulator.lean` (`new`, `mustIP`, `step`, `eval`, `regValue`, `evalRegs`, `memValue`, `evalMem`,
`Report.recordOutput`, `run`) over `state.State` with `Overlay(Bytes(image), Sparse)` (the layering of
`cmd/mltwist runIU`), the code as a `CodeView` (the instruction whose current address equals ip — an
assumption: that `deps.Code.Address` + `Block.Address` implement this lookup is C07, `Props.Compose.lookup_exact`),
the instructions lifted by the front end (`liftCode`: `Riscv.parse (instructionSet 64 true true)` + `constFold`).
The model follows the REPAIRED code: F03 (`memValue` folds what `Mems.Load` returns before the type
assertion), F44 (a register is requested at the greatest width the code uses it with) and F45 (`checkAccess`:
an access that does not fit the address space, `addr + w ≥ 2^64`, makes `Step` return an error instead of
panicking inside the memories; nothing is applied, the instruction pointer stays).

Reference: `Spec.Rv.exec 64` (`Spec/Riscv.lean`); `Spec.Lift.Rel ρ σ` = the valuation `ρ` of the IR's
registers/memories represents the machine state `σ`; `Agree p code ρ s` = the emulator state `s` and the
not-yet-asked answers of the provider `p` represent `ρ` (on every width the code observes a register with);
`R p code σ s` = both, plus "the emulator's instruction pointer is `σ.pc`" and the invariants.

PROVED here (for every provider, image, state, step count — no sampling): `statement`, the full claim, and its parts,
each a theorem of its own with its claim above it.

What `Statement` still ASSUMES (all outside this model): the exact lookup — `deps.Code.Address` + `Block.Address`
find exactly the instruction whose current address equals ip (C07); the instructions of `deps.Code` are
`liftCode` of the image's code blocks (C21); the start states are related — `tool_start_related` proves this
for the state the tool starts from whenever the provider answers consistently with one machine state
(`ProviderFor`).  Scope of the claim: programs that do not modify their code,
accesses with `addr + n < 2^64` (C14's domain), code blocks that do not wrap around the address space.
-/
namespace Mltwist.Props.C03
open Mltwist Mltwist.State Mltwist.Overlay Mltwist.Emulator Mltwist.Riscv
open Mltwist.Spec.Rv Mltwist.Spec.Lift
open Mltwist.Lemmas.Emulator

/-- C03 in full over the model (`Statement`, `refStep`, `refRun`, `Intact`, `InScope`: `Lemmas/EmulatorRefine.lean`).  The
reference machine runs on its OWN memory (fetch at `pc`, `Spec.Rv.decode`, `Spec.Rv.exec 64`).  For every provider `p`,
every image `blocks` (not wrapping around the address space) whose code lifts to `code`, all related start states `σ0`,
`s0` and every `n`: if during the first `n` steps of the reference the code blocks stay intact (`Intact`: the program
does not modify its code), the accesses stay below `2^64` (`InScope`) and (before step `n`) the `pc` is at an instruction
of the code, then the emulator makes `n` SUCCESSFUL steps (no error, no panic), is related to the reference's state
(`R`), and its next step is the error if the `pc` has left the instructions of the code and otherwise succeeds with the
report `specReport ρ effects` (the registers and bytes read and written, with the reference's values) for a valuation
`ρ` representing the reference state. -/
theorem statement : Statement := by
  intro p blocks code σ0 s0 hok hc hR n σn h1 h2 hrun
  obtain ⟨sn, g1, g2⟩ := full_run p hok hc n σ0 σn s0 hR h1 h2 hrun
  refine ⟨sn, g1, g2, fun hl => step_none p code g2.mustIP hl, fun ins hl => ?_⟩
  obtain ⟨hint, hsc⟩ := h1 n σn (Nat.le_refl n) hrun
  obtain ⟨e, hlift, hdec⟩ := fetch_lifted hok hc hint hl
  -- the report is the reference's: `step_sound`
  obtain ⟨_, _, log, _, hs⟩ := steps_of_lifted g2 hl hlift (hsc e.name hdec)
  obtain ⟨ρ, hrel, hag⟩ := g2.rep
  exact ⟨_, log, ρ, hrel, (step_sound hs g2.ready.inv hag (lookup_mem hl)).report ▸ hs.eq⟩

/-- the statement unfolded, to be read without the definitions -/
example : Statement =
    (∀ (p : Provider) (blocks : List (Nat × List UInt8)) (code : CodeView) (σ0 : St) (s0 : State),
      BlocksOK blocks → liftCode blocks = some code → R p code σ0 s0 →
      ∀ n σn,
        (∀ k σk, k ≤ n → refRun k σ0 = some σk → Intact blocks σk ∧ InScope σk) →
        (∀ k σk, k < n → refRun k σ0 = some σk → code.lookup σk.pc ≠ none) →
        refRun n σ0 = some σn →
        ∃ sn, stateAfter p code n s0 = some sn ∧ R p code σn sn ∧
          (code.lookup σn.pc = none → step p code sn = .err) ∧
          (∀ ins, code.lookup σn.pc = some ins →
            ∃ s' log ρ, Rel ρ σn ∧ step p code sn = .ok s' (specReport ρ ins.effects) log)) := rfl

/-- with the code intact the reference fetches the word the instruction was lifted from, and the reference
decoder (C02) names the table entry it was lifted by -/
theorem fetch {blocks : List (Nat × List UInt8)} {code : CodeView} (hok : BlocksOK blocks)
    (hc : liftCode blocks = some code) {σ : St} (hint : Intact blocks σ) {ins : Emulator.Ins}
    (hl : code.lookup σ.pc = some ins) :
    ∃ e, LiftedFrom ins e (σ.load σ.pc 4) ∧ decode 64 true true (σ.load σ.pc 4) = some e.name :=
  fetch_lifted hok hc hint hl

/-- at related states the emulator's accesses at a lifted instruction lie in the domain of C14 whenever the reference's
access does (because every load node and every store of a lifted instruction addresses the reference's access range:
`effShape_of_lifted`, `steps_of_lifted`) -/
theorem memory_shape (p : Provider) (code : CodeView) {σ : St} {s : State} {ins : Emulator.Ins} {e : Entry}
    {word : Nat} (hR : R p code σ s) (hl : code.lookup σ.pc = some ins) (hlift : LiftedFrom ins e word)
    (hs : RefScope e.name word σ) : StepDom p code s ins :=
  let ⟨_, _, _, _, h⟩ := steps_of_lifted hR hl hlift hs.fits; h.dom

/-- ONE STEP NEVER PANICS — from any ready state of any well-formed code, whatever the provider answers and
WHATEVER MEMORY THE INSTRUCTION ACCESSES (no `addr + w < 2^64` hypothesis; REPAIR F45).  `Step` returns the
error iff no instruction starts at the instruction pointer.  Otherwise it succeeds (provider fills `log`, then the
program's writes, ready again), or it returns the access error `accessErr s1 log a w`: an access `[a, a+w)` of the
instruction does not fit the address space (`2^64 ≤ a + w`, so the step is outside `StepDom`); the state `s1` it
leaves results from `s` by the provider calls `log` of the failed step alone (`Fill`), no effect was applied, the
instruction pointer holds the same constant, and `s1` is ready: the emulator can be used further. -/
theorem never_panics_step (p : Provider) (code : CodeView) {s : State} (hr : Ready s) (hw : CodeWF code)
    (hs : CodeSW code) :
    ∃ c, assocGet Emulator.ipKey s.regs = some (.const c) ∧
      match code.lookup (leToNat c % 2 ^ 64) with
      | none => step p code s = .err
      | some ins =>
        (∃ s1 s2 log rep,
          step p code s = .ok (finish ins (ins.effects.any isJump) s2) rep log ∧
          Fill p s log s1 ∧ Applied s1 (ins.effects.map (evalEff s1)) s2 ∧
          Ready (finish ins (ins.effects.any isJump) s2)) ∨
        (∃ s1 log a w, step p code s = .accessErr s1 log a w ∧ Fill p s log s1 ∧ Ready s1 ∧
          assocGet Emulator.ipKey s1.regs = some (.const c) ∧ 2 ^ 64 ≤ a + w ∧ ¬ StepDom p code s ins) :=
  C04.step_shape p code hr hw hs

/-- … in particular a step is NEVER a panic -/
theorem step_is_no_panic (p : Provider) (code : CodeView) {s : State} (hr : Ready s) (hw : CodeWF code)
    (hs : CodeSW code) (x : Emulator.Panic) : step p code s ≠ .panic x := by
  intro hx
  cases StepEnds.of_ready p code hr hw fun _ ins _ hl => hs ins (lookup_mem hl) with
  | err h | ok h | accessErr h => exact nomatch h.symm.trans hx

/-- what a failed step leaves behind (the state after `Fill`): every register and every byte the state held —
pre-set, written by the program, supplied earlier — is still there with its value; what was added was unknown
before and is the provider's answer -/
theorem failed_step_keeps_state {p : Provider} {s s1 : State} {log : List Req} (hf : Fill p s log s1)
    (hi : Inv s) :
    (∀ k e, assocGet k s.regs = some e → assocGet k s1.regs = some e) ∧
    (∀ key x b, s.mems.abs key x = some b → s1.mems.abs key x = some b) ∧
    (∀ r ∈ log, Unknown s r ∧ Supplied p s1 r) :=
  ⟨(C04.fills_keep_values hf hi).1, (C04.fills_keep_values hf hi).2,
    fun r hr => ⟨hf.unknown hi r hr, hf.supplied hi r hr⟩⟩

/-- with all accesses of the step in the domain of C14 (`addr + w < 2^64`) there is no access error -/
theorem never_panics_step_in_domain (p : Provider) (code : CodeView) {s : State} (hr : Ready s) (hw : CodeWF code)
    (hd : ∀ c ins, assocGet Emulator.ipKey s.regs = some (.const c) →
      code.lookup (leToNat c % 2 ^ 64) = some ins → StepDom p code s ins) :
    ∃ c, assocGet Emulator.ipKey s.regs = some (.const c) ∧
      match code.lookup (leToNat c % 2 ^ 64) with
      | none => step p code s = .err
      | some ins => ∃ s1 s2 log rep,
          step p code s = .ok (finish ins (ins.effects.any isJump) s2) rep log ∧
          Fill p s log s1 ∧ Applied s1 (ins.effects.map (evalEff s1)) s2 ∧
          Ready (finish ins (ins.effects.any isJump) s2) :=
  C04.step_shape_in_domain p code hr hw hd

/-- WHOLE RUNS, WHATEVER THE ACCESSES: no outcome of any step is a panic, and the run ends in a ready state (a run
ends with the first error: no instruction at the instruction pointer, or an access outside the address space) -/
theorem never_panics (p : Provider) (code : CodeView) (hw : CodeWF code) (hs : CodeSW code) (n : Nat) (s : State)
    (hr : Ready s) :
    Ready (run p code n s).2 ∧ ∀ o ∈ (run p code n s).1, match o with | .panic _ => False | _ => True :=
  let h := C04.run_requests p code hw hs n s hr
  ⟨h.1, h.2.1⟩

/-- … for the code the tool runs on — the lifting of the code blocks of an image — with no hypothesis on the code
at all (`CodeWF` and `CodeSW` are theorems, `code_of_image_wellformed`) -/
theorem never_panics_of_image (p : Provider) {blocks : List (Nat × List UInt8)} {code : CodeView}
    (hc : liftCode blocks = some code) (n : Nat) (s : State) (hr : Ready s) :
    Ready (run p code n s).2 ∧ ∀ o ∈ (run p code n s).1, match o with | .panic _ => False | _ => True :=
  never_panics p code (codeWF_of_liftCode hc) (codeSW_of_liftCode hc) n s hr

/-- whole runs inside the domain of C14 (needs no `CodeSW`) -/
theorem never_panics_in_domain (p : Provider) (code : CodeView) (hw : CodeWF code) (n : Nat) (s : State)
    (hr : Ready s) (hd : RunDom p code n s) :
    Ready (run p code n s).2 ∧ ∀ o ∈ (run p code n s).1, match o with | .panic _ => False | _ => True :=
  let h := C04.run_requests_in_domain p code hw n s hr hd
  ⟨h.1, h.2.1⟩

/-- REPAIR F03 in one statement: whatever a memory that stores constants returns for a load in the domain
— a cut piece of a wider store, several stores, image bytes + written bytes — is closed and well formed,
hence folds to a constant of its value; the type assertion of the repaired `memValue` cannot fail -/
theorem load_folds_to_constant {m : MemMap} (hi : m.Inv) (hc : MemsConst m) {key : String} {a w : Nat} {e : Expr}
    (hd : InDom a w) (h : m.load key a w = .ok (some e)) :
    ∃ v, foldConst e = .ok v ∧ v.length = e.width ∧ ∀ ρ, leToNat v = e.eval ρ := by
  obtain ⟨v, h1, _, h3, h4⟩ := foldConst_shape (memmap_shape hi hc hd h)
  exact ⟨v, h1, h3, h4⟩

/-- the constant `eval` returns for an expression of the code (all of whose loads are present in the
state after the provider calls) is the value of the expression under the represented valuation -/
theorem eval_is_value {p : Provider} {code : CodeView} {ρ : Env} {s : State} (hi : Inv s)
    (ha : Agree p code ρ s) {e : Expr} (hp : Present s e) (hle : RegsLe code e) :
    leToNat (valBytes s e) = e.eval ρ :=
  valBytes_eval hi ha hp hle

/-- `eval` computes `valBytes` of the state it ends in, never panics, and only fills unknown state -/
theorem eval_computes (p : Provider) (code : CodeView) (e : Expr) (c : Ctx) (hi : Inv c.st) (hw : e.wf = true)
    (hd : EvalDom p code e c) : ∃ c', eval p code e c = .ok (valBytes c'.st e, c') ∧ EvalOut p code e c c' := by
  obtain ⟨_, c', h, hf, o⟩ := (eval_ends p code (List.mem_singleton_self e) c hi hw).of_dom hd
  obtain ⟨hp, hr, rfl⟩ := o.up _ (SExt.refl _)
  refine ⟨c', h, hf.mono fun r h => ?_, o.inv, hp e (List.mem_singleton_self e), hr⟩
  cases h with
  | reg he h => exact .inl (List.mem_singleton.1 he ▸ h)
  | mem k a w => exact .inr ⟨k, a, w, rfl⟩

/-- If the state and the provider represent `ρ`, a step at an instruction of the code succeeds; the
provider calls `log` extend the state to `s1`, which still represents `ρ` (effects are evaluated against
the PRE-state); the new state represents `ρ` with the effects applied in order and the instruction
pointer at the last instruction-pointer write, else at the end of the instruction. -/
theorem step_is_applyEffects (p : Provider) (code : CodeView) {s : State} {ρ : Env} {c : List UInt8}
    {ins : Emulator.Ins} (hr : Ready s) (ha : Agree p code ρ s)
    (hip : assocGet Emulator.ipKey s.regs = some (.const c))
    (hl : code.lookup (leToNat c % 2 ^ 64) = some ins) (hw : InsWF ins) (hd : StepDom p code s ins) :
    ∃ s1 s' rep log, step p code s = .ok s' rep log ∧ Ready s' ∧
      Fill p s log s1 ∧ Agree p code ρ s1 ∧ PresentAll s1 (evalOrders ins.effects) ∧ Inv s1 ∧
      recordAll (noteExprs s1 {} (evalOrders ins.effects)) (ins.effects.map (evalEff s1)) = some rep ∧
      Agree p code (withIp (Env.applyEffects ρ ins.effects) (nextIp ρ ins.effects ins.end_)) s' ∧
      ∃ c', assocGet Emulator.ipKey s'.regs = some (.const c') ∧ leToNat c' = nextIp ρ ins.effects ins.end_ :=
  let ⟨s1, _, log, _, hs⟩ := step_ok p code hr.inv (mustIP_spec hip) hl hw hd
  let h := step_sound hs hr.inv ha (lookup_mem hl)
  ⟨s1, _, _, log, hs.eq, hs.stores.ready hr, hs.fill, h.filled, hs.present, hs.inv1, hs.report, h.agree, h.ip⟩

/-- … and its report lists exactly the registers and bytes read and written, with the values of `ρ` -/
theorem report_exact (p : Provider) (code : CodeView) {s : State} {ρ : Env} {c : List UInt8}
    {ins : Emulator.Ins} (hr : Ready s) (ha : Agree p code ρ s)
    (hip : assocGet Emulator.ipKey s.regs = some (.const c))
    (hl : code.lookup (leToNat c % 2 ^ 64) = some ins) (hw : InsWF ins) (hd : StepDom p code s ins) :
    ∃ s' log, step p code s = .ok s' (specReport ρ ins.effects) log :=
  let ⟨_, _, log, _, hs⟩ := step_ok p code hr.inv (mustIP_spec hip) hl hw hd
  ⟨_, log, (step_sound hs hr.inv ha (lookup_mem hl)).report ▸ hs.eq⟩

/-- the instructions of the code view of an image are liftings of its words by entries of the RV64IMA
tables (that the reference decoder names the same entry is `fetch`) -/
theorem lifted_instruction {addr : Nat} {bs : List UInt8} {ins : Emulator.Ins} (h : liftIns addr bs = some ins) :
    ∃ e, LiftedFrom ins e (wordOf bs) ∧ ins.addr = addr :=
  let ⟨e, _, _, he, ha⟩ := liftIns_parse h
  ⟨e, he, ha⟩

/-- the emulator the tool starts is related to the reference state whose registers and memory are "what
the state holds, else what the provider would answer" -/
theorem related_at_start {p : Provider} {code : CodeView} {σ : St} {s0 : State} {ρ : Env} (hi : Inv s0)
    (hwf : St.WF 64 σ) (hrel : Rel ρ σ) (ha : Agree p code ρ s0) : R p code σ (Emulator.new σ.pc s0) :=
  -- `new` stores the instruction pointer; eight bytes hold `σ.pc` without truncation
  let ⟨hag, hip⟩ := agree_setIp ha hwf.pc
  { ready := ready_new hi σ.pc, wf := hwf, ip := hip, rep := ⟨withIp ρ σ.pc, rel_withIp hrel _, hag⟩ }

/-- every instruction of the code view of an image is lifted from the tables, and all its expressions
(before and after constant folding) are well formed (table-wide: `Lemmas/RiscvLiftWF.lean`, `Transform.lean`) -/
theorem code_of_image_wellformed {blocks : List (Nat × List UInt8)} {code : CodeView}
    (h : liftCode blocks = some code) :
    CodeWF code ∧ CodeSW code ∧ ∀ ins ∈ code, ∃ e word, LiftedFrom ins e word ∧
      ∀ ef ∈ e.validEffects ⟨ins.addr, word⟩, Effect.wfE ef := by
  refine ⟨codeWF_of_liftCode h, codeSW_of_liftCode h, fun ins hins => ?_⟩
  obtain ⟨e, word, hl⟩ := liftCode_lifted h ins hins
  exact ⟨e, word, hl, hl.wfRaw⟩

/-- … concretely: for a provider that answers consistently with one machine state (`ProviderFor`), the
emulator `cmd/mltwist` creates — pre-set registers, the image under an empty sparse memory, `emulator.New` —
is related to the reference machine "pre-set value / image byte, otherwise the provider's answer" -/
theorem tool_start_related {p : Provider} {code : CodeView} {V : String → Nat} {B : String → Nat → Nat}
    (hp : ProviderFor p code V B) (pre : List (String × List UInt8)) {image bs : List BytesMem.Block}
    (h : BytesMem.newBytes image = .ok bs) (entry : Nat) (he : entry < 2 ^ 64)
    (hwf : ∀ k, (startEnv (toolState pre bs) V B).reg k < 2 ^ 64) :
    R p code (stOf (startEnv (toolState pre bs) V B) entry) (Emulator.new entry (toolState pre bs)) :=
  related_at_start (σ := stOf (startEnv (toolState pre bs) V B) entry) (inv_toolState pre h) ⟨fun _ => hwf _, fun _ => hwf _, he⟩
    (rel_stOf _ _) (agree_toolState hp pre bs)

/-- one step (composition with C01 `lift_correct`): the reference executes the lifted instruction, the emulator's `Step`
succeeds, related again; the only side condition is on the reference (its access lies in the domain of C14) -/
theorem refinement_step (p : Provider) (code : CodeView) {σ : St} {s : State} {ins : Emulator.Ins}
    {e : Entry} {word : Nat} (hR : R p code σ s) (hl : code.lookup σ.pc = some ins)
    (hlift : LiftedFrom ins e word) (hs : RefScope e.name word σ) :
    ∃ σ', exec 64 e.name word σ = some σ' ∧ ∃ s' rep log, step p code s = .ok s' rep log ∧ R p code σ' s' :=
  refine_step_of_fits p code hR hl hlift hs.fits

/-- the emulator returns the error when the reference's `pc` is not the start of an instruction of the code (at an
instruction it succeeds: `refinement_step`) -/
theorem refinement_err (p : Provider) (code : CodeView) {σ : St} {s : State} (hR : R p code σ s)
    (hl : code.lookup σ.pc = none) : step p code s = .err :=
  step_none p code hR.mustIP hl

/-- by induction: after every number of steps -/
theorem refinement_run (p : Provider) (code : CodeView) (n : Nat) (σ σn : St) (s : State)
    (hR : R p code σ s) (hs : RefRunScope code n σ) (hrun : RefSteps code n σ σn) :
    ∃ sn, stateAfter p code n s = some sn ∧ R p code σn sn :=
  refine_run (fun n σ _ => RefRunScope code n σ) (fun _ _ _ ins e word h hR hl hlift =>
    let ⟨h1, h2⟩ := h ins e word hl hlift
    let ⟨σ', he, s', rep, log, hs, hR'⟩ := refine_step_of_fits p code hR hl hlift h1.fits
    ⟨σ', s', rep, log, he, hs, hR', h2 σ' he⟩) n σ σn s hR hs hrun

/-- `addi x1,x0,5; sd x1,0(x2); lw x3,4(x2)` — the F03 witness (a load that is a cut piece of a wider
store) — at 0x1000 over the tool's layering, `x2 = 0x2000` pre-set -/
def exBlocks : List (Nat × List UInt8) :=
  [(4096, [0x93, 0x00, 0x50, 0x00, 0x23, 0x30, 0x11, 0x00, 0x83, 0x21, 0x41, 0x00])]

def exProv : Provider := ⟨fun _ w => List.replicate w 7, fun _ _ w => List.replicate w 9⟩

def exState : State := Emulator.new 4096 (toolState [("x2", [0, 0x20, 0, 0, 0, 0, 0, 0])] exBlocks)

set_option maxRecDepth 100000 in
set_option synthInstance.maxSize 2048 in
/-- three steps succeed (the third reads the upper half of the stored doubleword: 0), the fourth is the
error: the instruction pointer has left the code -/
example :
    ((liftCode exBlocks).map fun code => (run exProv code 4 exState).1.map fun o => match o with
      | .ok _ rep log => some (log, rep.regStores, rep.memStores)
      | _ => none)
    = some [some ([], [("x1", [5, 0, 0, 0, 0, 0, 0, 0])], []),
        some ([], [], [⟨"memory", 8192, [5, 0, 0, 0, 0, 0, 0, 0]⟩]),
        some ([], [("x3", [0, 0, 0, 0, 0, 0, 0, 0])], []),
        none] := by decide +kernel

/-- the provider of the console scenario of F45: every register is answered with `0xff…ff` -/
def topProv : Provider := ⟨fun _ w => List.replicate w 0xff, fun _ _ w => List.replicate w 9⟩

set_option maxRecDepth 100000 in
set_option synthInstance.maxSize 2048 in
/-- REPAIR F45, non-vacuity of the access error: `lb x3,-1(x0)` (one byte at `2^64 - 1`: the end is exactly
`2^64`) and `lw x3,0(x2)` with `x2` answered `0xff…ff` by the provider (the end wraps) — from the state the tool
starts with, `Step` returns the access error naming the access; the provider call of the second one stays in the
state (`x2` is known afterwards), register `x3` is not written, the instruction pointer is still `0x1000` -/
example :
    [[0x83, 0x01, 0xf0, 0xff], [0x83, 0x21, 0x01, 0x00]].map (fun word =>
      (liftCode [(4096, word)]).map fun code =>
        match step topProv code (Emulator.new 4096 (toolState [] [])) with
        | .accessErr s log a w =>
          some (log, a, w, s.regs.map (·.1), match mustIP s with | .ok ip => some ip | .error _ => none)
        | _ => none)
    = [some (some ([], 2 ^ 64 - 1, 1, [Emulator.ipKey], some 4096)),
       some (some ([.reg "x2" 8], 2 ^ 64 - 1, 4, [Emulator.ipKey, "x2"], some 4096))] := by decide +kernel

end Mltwist.Props.C03
