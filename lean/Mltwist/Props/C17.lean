import Mltwist.Lemmas.Interval
/-
C17 — interval sets obey set algebra.

`Mem x m`: the integer `x` lies in the set denoted by the interval list `m`;
`Normal m`: sorted, disjoint, non-adjacent, non-empty intervals.
The functions of `map.go` have no failure outcome: every slice access is guarded in the Go code itself
(`if j < i2.Len()` in `MapComplement`, `if j >= i2.Len()` in `MapIntersect`), and the model follows the guards and the
index bookkeeping (`cnt`, `j`) literally, including `List.drop j`.  So the model functions are plain functions and
"always succeeds" is not a separate clause of the statements.
-/
namespace Mltwist.Props.C17
open Mltwist.Interval
open Mltwist.Lemmas.Interval (normalOf_self union_spec complement_spec intersect_spec)

theorem newMap_normal (l : List Intv) (h : ∀ i ∈ l, i.1 < i.2) : Normal (newMap l) :=
  (Lemmas.Interval.newMap_spec l h).normal

theorem newMap_mem (l : List Intv) (h : ∀ i ∈ l, i.1 < i.2) (x : Int) :
    Mem x (newMap l) ↔ Mem x l :=
  (Lemmas.Interval.newMap_spec l h).mem x

theorem union_normal (a b : List Intv) (ha : Normal a) (hb : Normal b) : Normal (mapUnion a b) :=
  (union_spec (normalOf_self ha) (normalOf_self hb)).normal

theorem union_mem (a b : List Intv) (ha : Normal a) (hb : Normal b) (x : Int) :
    Mem x (mapUnion a b) ↔ Mem x a ∨ Mem x b :=
  (union_spec (normalOf_self ha) (normalOf_self hb)).mem x

theorem complement_normal (a b : List Intv) (ha : Normal a) (hb : Normal b) :
    Normal (mapComplement a b) :=
  (complement_spec (normalOf_self ha) (normalOf_self hb)).normal

theorem complement_mem (a b : List Intv) (ha : Normal a) (hb : Normal b) (x : Int) :
    Mem x (mapComplement a b) ↔ Mem x a ∧ ¬ Mem x b :=
  (complement_spec (normalOf_self ha) (normalOf_self hb)).mem x

theorem intersect_normal (a b : List Intv) (ha : Normal a) (hb : Normal b) :
    Normal (mapIntersect a b) :=
  (intersect_spec (normalOf_self ha) (normalOf_self hb)).normal

theorem intersect_mem (a b : List Intv) (ha : Normal a) (hb : Normal b) (x : Int) :
    Mem x (mapIntersect a b) ↔ Mem x a ∧ Mem x b :=
  (intersect_spec (normalOf_self ha) (normalOf_self hb)).mem x

/-- non-vacuity: the F33 witness keeps `[18,21)`, the F04 witness does not fail -/
example : mapIntersect [(1, 3), (8, 14), (18, 23)] [(5, 21), (23, 24)] = [(8, 14), (18, 21)]
    ∧ mapComplement [(0, 2), (4, 6)] [] = [(0, 2), (4, 6)]
    ∧ newMap [(4, 6), (0, 2), (2, 3), (5, 9)] = [(0, 3), (4, 9)] := by decide

end Mltwist.Props.C17
