import Mltwist.Lemmas.RiscvDecode
import Mltwist.Lemmas.RiscvTextTables
/-
C25 — disassembly text is faithful.  `Entry.text` is the model of `instruction.String()`
(`Model/Riscv.lean`), compared byte for byte with the implementation on every run.
-/
namespace Mltwist.Props.C25
open Mltwist Mltwist.Riscv
open Mltwist.Lemmas.RiscvDecode (Cfg)

/-- the text starts with the mnemonic -/
theorem text_prefix (e : Entry) (i : Ins) : ∃ rest, e.text i = e.name ++ " " ++ rest :=
  ⟨_, Lemmas.RiscvTextArgs.text_eq e i⟩

/-- two accepted words at the same address that are shown with identical text have identical
lifted effects (so words whose lifted behaviour differs are never shown alike).  This holds of any two words and entries
of the table: `hw1`, `hw2`, `hm1`, `hm2` are not used. -/
theorem text_faithful (xlen : Nat) (hx : Cfg xlen) (m a : Bool)
    (e1 e2 : Entry) (h1 : e1 ∈ instructionSet xlen m a) (h2 : e2 ∈ instructionSet xlen m a)
    (addr w1 w2 : Nat) (hw1 : w1 < 2 ^ 32) (hw2 : w2 < 2 ^ 32)
    (hm1 : e1.matchesWord w1 = true) (hm2 : e2.matchesWord w2 = true)
    (ht : e1.text ⟨addr, w1⟩ = e2.text ⟨addr, w2⟩) :
    e1.validEffects ⟨addr, w1⟩ = e2.validEffects ⟨addr, w2⟩ :=
  Lemmas.RiscvText.text_faithful (Lemmas.RiscvDecode.names_nodup xlen hx m a)
    (Lemmas.RiscvTextTables.good_of_mem xlen hx m a) h1 h2 addr w1 w2 ht

end Mltwist.Props.C25
