import Mltwist.Lemmas.BytesMemOps
import Mltwist.Lemmas.BytesHeap
/-
C15 — byte memory behaves like byte-addressed memory.

Value model `BytesMem` (blocks = list of `(begin, bytes)`, addresses in `Nat`; it coincides with the
Go code for ranges whose end is representable, `addr + w < 2^64`), abstract meaning `BytesSpec`:
`ofBlocks bs : Nat → Option UInt8` is the byte map of a block list, `write m a data` the map after
writing `data` at `a`, `storeBytes c w = natToLE w (leToNat c)` the bytes a store of constant `c`
with width `w` writes, `Inv` the block invariant (sorted, disjoint, non-adjacent, non-empty),
`Overlap l` = two blocks of `l` cover a common address (an empty block covers nothing).

All model functions return `Except Fail _`; `.ok` in a conclusion therefore says that none of the
failure points of the Go code (index/slice bounds panics, the `bug: store resulted in byte overlap`
panic) is reached.  `Load`/`Missing` are specified for widths `w ≥ 1`.

The aliasing clause ("never modifies a constant or byte slice it was given or returned") is a
statement about backing arrays and is proved on the heap-level model `BytesHeap` of the same
functions (slices `(array, off, len, cap)`, Go `make`/`copy`/`append`/re-slicing), for the repaired
`store` (`Cfg.fixF05 = true`) and every capacity growth function.
-/
namespace Mltwist.Props.C15
open Mltwist Mltwist.BytesMem Mltwist.BytesSpec

/-- `NewBytes` fails iff two initial blocks overlap -/
theorem newBytes_error_iff (l : List Block) : newBytes l = .error .overlap ↔ Overlap l := by
  rcases Lemmas.BytesMem.newBytes_spec l with ⟨he, ho⟩ | ⟨bs, hb, hno, _, _⟩
  · exact ⟨fun _ => ho, fun _ => he⟩
  · exact ⟨fun h => (by rw [hb] at h; cases h), fun h => absurd h hno⟩

/-- … and it fails in no other way -/
theorem newBytes_no_panic (l : List Block) (e : Fail) (h : newBytes l = .error e) : e = .overlap := by
  rcases Lemmas.BytesMem.newBytes_spec l with ⟨he, _⟩ | ⟨bs, hb, _, _, _⟩
  · rw [he] at h; cases h; rfl
  · rw [hb] at h; cases h

/-- on success the block invariant holds and the memory contains exactly the initial bytes -/
theorem newBytes_ok (l : List Block) (bs : List Block) (h : newBytes l = .ok bs) :
    Inv bs ∧ ofBlocks bs = ofBlocks l :=
  have ⟨_, hinv, hm⟩ := Lemmas.BytesMem.newBytes_ok h
  ⟨hinv, funext hm⟩

/-- a store of a constant succeeds (no panic, in particular not the overlap panic), preserves the
block invariant and writes exactly the `w` bytes of the constant -/
theorem store_spec (bs : List Block) (h : Inv bs) (a w : Nat) (c : List UInt8) :
    ∃ bs', storeExpr bs a w (.const c) = .ok bs' ∧ Inv bs' ∧
      ofBlocks bs' = write (ofBlocks bs) a (storeBytes c w) :=
  Lemmas.BytesMem.storeConst_spec bs (Lemmas.BytesMem.inv_pre h) a w c

/-- a store of a non-constant is the documented panic and nothing else -/
theorem store_nonConst (bs : List Block) (a w : Nat) (ex : Expr) (h : ex.isConst = false) :
    storeExpr bs a w ex = .error .nonConst := by
  cases ex <;> simp_all [storeExpr, Expr.isConst]

/-- the state after `NewBytes` and any history of constant stores: invariant and byte map -/
theorem history_spec (l : List Block) (bs0 : List Block) (h0 : newBytes l = .ok bs0)
    (hist : List (Nat × Nat × List UInt8)) :
    ∃ bs, BytesMem.runStores bs0 hist = .ok bs ∧ Inv bs ∧
      ofBlocks bs = BytesSpec.runStores (ofBlocks l) hist := by
  obtain ⟨hinv, hm⟩ := newBytes_ok l bs0 h0
  obtain ⟨bs, h1, h2, h3⟩ := Lemmas.BytesMem.runStores_spec hist bs0 hinv
  exact ⟨bs, h1, h2, hm ▸ h3⟩

/-- `Load` never panics, succeeds iff all `w` bytes are present, and then returns exactly these bytes
as a `w`-byte constant -/
theorem load_spec (bs : List Block) (h : Inv bs) (a w : Nat) (hw : 1 ≤ w) :
    ∃ r, load bs a w = .ok r ∧ (r.isSome = true ↔ Present (ofBlocks bs) a w) ∧
      ∀ v, r = some v → v.length = w ∧ ∀ i, i < w → v[i]? = ofBlocks bs (a + i) :=
  Lemmas.BytesMem.load_spec bs h a w hw

/-- `Missing` is the normal form of the absent part of `[a, a+w)` -/
theorem missing_spec (bs : List Block) (h : Inv bs) (a w : Nat) (hw : 1 ≤ w) :
    Interval.Normal (missing bs a w) ∧
    ∀ x : Int, Interval.Mem x (missing bs a w) ↔
      (a : Int) ≤ x ∧ x < ((a + w : Nat) : Int) ∧ ofBlocks bs x.toNat = none :=
  have := Lemmas.BytesMem.missing_spec bs h a w hw
  ⟨this.normal, fun x => (this.mem x).trans and_assoc⟩

/-- `Blocks` is the normal form of the set of present addresses -/
theorem blocks_spec (bs : List Block) (h : Inv bs) :
    Interval.Normal (blocks bs) ∧
    ∀ x : Int, Interval.Mem x (blocks bs) ↔ 0 ≤ x ∧ ofBlocks bs x.toNat ≠ none :=
  have := Lemmas.BytesMem.blocks_spec bs h
  ⟨this.normal, this.mem⟩

open Mltwist.BytesHeap in
/-- `NewBytes` on caller-held slices followed by any history of `Store`s (of constants the caller held
from the start or got from `Load`) and `Load`s: every slice handed over or returned — the initial
block slices, every constant at the time it is passed to `Store`, every constant returned by
`Load` — still denotes, at the end, the bytes it denoted when it was handed over -/
theorem no_write_through (cfg : Cfg) (hfix : cfg.fixF05 = true) (h0 : Heap) (input : List HBlock)
    (ops : List HOp) (hin : ∀ b ∈ input, b.2.arr < h0.length)
    (hops : ∀ op ∈ ops, WfOp h0.length op)
    (st : HState) (hrun : runH cfg h0 input ops = some st) : changed st = 0 := by
  have := Lemmas.BytesHeap.no_write_through cfg hfix h0 input ops hin hops st hrun
  unfold changed
  rw [List.length_eq_zero_iff, List.filter_eq_nil_iff]
  intro m hm
  simp [this m hm]

open Mltwist.BytesHeap in
/-- the frame of one operation: an array into which no live slice of a block points (in particular
every array reachable from a caller-held constant or slice) is not written -/
theorem step_frame (cfg : Cfg) (hfix : cfg.fixF05 = true) (base : Nat) (st : HState)
    (g : Good base st) (op : HOp) (id : Nat) (hid : id < st.heap.length)
    (hno : ¬ Owns st.blocks id) :
    arrOf (stepH cfg st op).heap id = arrOf st.heap id :=
  (Lemmas.BytesHeap.step_spec cfg hfix g op).1.2 id hid hno

open Mltwist.BytesHeap in
/-- `Good` holds after `NewBytes` on slices of existing arrays … -/
theorem good_after_newBytes (cfg : Cfg) (h0 : Heap) (input : List HBlock)
    (hin : ∀ b ∈ input, b.2.arr < h0.length) (bs : List HBlock)
    (hnew : (newBytesH cfg h0 input).2 = .ok bs) :
    Good h0.length { heap := (newBytesH cfg h0 input).1, blocks := bs, loaded := [],
                     mon := input.foldl (fun m b => watch h0 b.2 m) [] } :=
  Lemmas.BytesHeap.good_init cfg h0 input hin bs hnew

open Mltwist.BytesHeap in
/-- … and is preserved by every well-formed operation -/
theorem good_preserved (cfg : Cfg) (hfix : cfg.fixF05 = true) (base : Nat) (st : HState)
    (g : Good base st) (op : HOp) (hop : WfOp base op) : Good base (stepH cfg st op) :=
  (Lemmas.BytesHeap.step_spec cfg hfix g op).2 hop

/-- adjacent blocks are merged, a gap stays, overlapping blocks are rejected, empty blocks are
ignored (F36) -/
example :
    newBytes [(12, [3]), (10, [1, 2]), (20, [9]), (14, [])] = .ok [(10, [1, 2, 3]), (20, [9])]
    ∧ newBytes [(10, [1, 2, 3]), (12, [4])] = .error .overlap
    ∧ newBytes [(5, [0, 1, 2, 3, 4, 5, 6, 7, 8, 9]), (10, [])] = .ok [(5, [0, 1, 2, 3, 4, 5, 6, 7, 8, 9])] := by
  decide

/-- the F32 witness: a store in front of three blocks keeps all of them; a store spanning a block
and two gaps merges everything -/
example :
    storeExpr [(10, [0xaa]), (20, [0xbb]), (30, [0xcc])] 0 1 (.const [0x11])
      = .ok [(0, [0x11]), (10, [0xaa]), (20, [0xbb]), (30, [0xcc])]
    ∧ storeExpr [(10, [0xaa]), (20, [0xbb])] 8 4 (.const [1, 2])
      = .ok [(8, [1, 2, 0, 0]), (20, [0xbb])]
    ∧ storeExpr [(10, [0xaa, 0xab]), (14, [0xbb])] 11 4 (.const [1, 2, 3, 4, 5])
      = .ok [(10, [0xaa, 1, 2, 3, 4])] := by
  decide

example :
    load [(10, [1, 2, 3])] 11 2 = .ok (some [2, 3]) ∧ load [(10, [1, 2, 3])] 12 2 = .ok none
    ∧ load [(10, [1, 2, 3])] 13 1 = .ok none
    ∧ missing [(10, [1, 2, 3]), (20, [9])] 8 14 = [(8, 10), (13, 20), (21, 22)]
    ∧ blocks [(10, [1, 2, 3]), (20, [9])] = [(10, 13), (20, 21)] := by
  decide

open Mltwist.BytesHeap in
/-- the F05 witness on the heap model: with the pinned `store` a second store rewrites the constant
of the first one (array 0), with the repaired `store` it does not -/
example :
    let c1 : Slice := { arr := 0, off := 0, len := 4, cap := 4 }
    let c2 : Slice := { arr := 1, off := 0, len := 4, cap := 4 }
    let h0 : Heap := [[1, 2, 3, 4], [5, 6, 7, 8]]
    let ops := [HOp.st 100 4 (.ext c1), HOp.st 100 4 (.ext c2), HOp.ld 100 4]
    (runH { grow := fun _ n => n, fixF05 := false } h0 [] ops).map changed = some 1
    ∧ (runH { grow := fun _ n => n, fixF05 := true } h0 [] ops).map changed = some 0 := by
  decide

end Mltwist.Props.C15
