import Mltwist.Lemmas.Opcode
/-
C19 — opcode matching is unambiguous and exact.

A pattern (`Pat`) is a pair of byte lists (bytes, mask); what identifies a pattern in a matcher is
its *position* in the list given to `newMatcher` (so a pattern listed twice conflicts with itself).

* `WellFormed p`  : non-empty, `bytes` and `mask` of equal length, last mask byte non-zero;
* `Matches p bs`  : `bs` is at least as long as the pattern and agrees with it on all masked bits;
* `Conflict p q`  : some byte string matches both;  `conflictB p q` is the executable criterion
  "the patterns agree on the bits selected by both masks over the common prefix".

The model follows the Go pipeline (`Validate` all, `newOpcodes`, sort by mask, runs of equal masks,
per group sort by masked bytes + adjacent duplicates, `checkConflicts`, `Match` = first group whose
binary search succeeds).  `checkConflicts` is the one of /repo: patterns of different groups are compared on their
common mask over the common prefix (`conflict` in `matcher.go`; comparing raw bytes instead was finding F17, whose
witness is among the examples below).  All statements are for all pattern lists and all byte strings.
-/
namespace Mltwist.Props.C19
open Mltwist.Opcode

/-- no two patterns at different positions are matched by a common byte string -/
def NoConflict (ps : List Pat) : Prop :=
  ∀ (i j : Nat) (p q : Pat), i ≠ j → ps[i]? = some p → ps[j]? = some q → ¬ Conflict p q

/-- The "∃ byte string" of the property is decidable: two patterns are matched by a common byte
string iff they agree on their common mask over the common prefix. -/
theorem conflict_iff_criterion (p q : Pat) : Conflict p q ↔ conflictB p q = true :=
  Lemmas.Opcode.conflict_iff p q

/-- Building a matcher succeeds exactly when every pattern is well formed and no byte string
matches two patterns (at different positions). -/
theorem newMatcher_ok_iff (ps : List Pat) :
    (∃ m, newMatcher ps = .ok m) ↔ (∀ p ∈ ps, WellFormed p) ∧ NoConflict ps :=
  ⟨fun ⟨m, h⟩ =>
      have hb := Lemmas.Opcode.built_of_ok ps m h
      ⟨hb.wf, (Lemmas.Opcode.noConflict_iff ps).2 hb.nc⟩,
    fun ⟨hwf, hnc⟩ => Lemmas.Opcode.newMatcher_ok_of ps hwf ((Lemmas.Opcode.noConflict_iff ps).1 hnc)⟩

/-- The failures are classified: `invalid` iff some pattern is ill-formed … -/
theorem newMatcher_invalid_iff (ps : List Pat) :
    newMatcher ps = .error .invalid ↔ ¬ ∀ p ∈ ps, WellFormed p := by
  have ho := Lemmas.Opcode.newMatcher_outcome ps
  generalize newMatcher ps = r at ho ⊢
  cases ho with
  | invalid hn => exact ⟨fun _ => hn, fun _ => rfl⟩
  | built _ hb => exact ⟨nofun, fun hn => absurd hb.wf hn⟩
  | ambiguous hwf _ => exact ⟨nofun, fun hn => absurd hwf hn⟩

/-- … and the Go run-time panic / fuel exhaustion of the model is unreachable. -/
theorem newMatcher_ne_panic (ps : List Pat) : newMatcher ps ≠ .error .panic := by
  have ho := Lemmas.Opcode.newMatcher_outcome ps
  generalize newMatcher ps = r at ho ⊢
  cases ho <;> nofun

/-- `ambiguous` is reported exactly when all patterns are well formed and two of them conflict. -/
theorem newMatcher_ambiguous_iff (ps : List Pat) :
    newMatcher ps = .error .ambiguous ↔ (∀ p ∈ ps, WellFormed p) ∧ ¬ NoConflict ps := by
  have ho := Lemmas.Opcode.newMatcher_outcome ps
  generalize newMatcher ps = r at ho ⊢
  cases ho with
  | invalid hn => exact ⟨nofun, fun h' => absurd h'.1 hn⟩
  | built _ hb => exact ⟨nofun, fun h' => absurd ((Lemmas.Opcode.noConflict_iff ps).2 hb.nc) h'.2⟩
  | ambiguous hwf hc => exact ⟨fun _ => ⟨hwf, fun h' => hc ((Lemmas.Opcode.noConflict_iff ps).1 h')⟩, fun _ => rfl⟩

/-- Soundness and completeness of `Match`: a successful matcher answers `some i` exactly when the
pattern at position `i` matches the byte string. -/
theorem match_some_iff (ps : List Pat) (m : Matcher) (h : newMatcher ps = .ok m)
    (bs : List UInt8) (i : Nat) :
    m.match bs = some i ↔ ∃ p, ps[i]? = some p ∧ Matches p bs :=
  (Lemmas.Opcode.built_of_ok ps m h).match_some_iff bs i

/-- Uniqueness: at most one position of an accepted list matches a given byte string. -/
theorem match_unique (ps : List Pat) (m : Matcher) (h : newMatcher ps = .ok m) (bs : List UInt8)
    (i j : Nat) (p q : Pat) (hp : ps[i]? = some p) (hq : ps[j]? = some q) (h1 : Matches p bs)
    (h2 : Matches q bs) : i = j :=
  (Lemmas.Opcode.built_of_ok ps m h).unique hp hq h1 h2

/-- "No match" is reported exactly when no pattern matches. -/
theorem match_none_iff (ps : List Pat) (m : Matcher) (h : newMatcher ps = .ok m)
    (bs : List UInt8) : m.match bs = none ↔ ∀ p ∈ ps, ¬ Matches p bs :=
  (Lemmas.Opcode.built_of_ok ps m h).match_none_iff bs

/-! Non-vacuity: the F17 witness (`0F/01` and `F0/10`, both matched by `11`) is rejected, the
same masks with disagreeing common bits are accepted and looked up, a pattern listed twice
conflicts with itself, prefixes conflict, ill-formed patterns are reported. -/
def err? : Except ErrClass Matcher → Option ErrClass
  | .error e => some e
  | .ok _ => none

example : err? (newMatcher [⟨[0x01], [0x0f]⟩, ⟨[0x10], [0xf0]⟩]) = some .ambiguous := by decide
example : conflictB ⟨[0x01], [0x0f]⟩ ⟨[0x10], [0xf0]⟩ = true
    ∧ matchesB ⟨[0x01], [0x0f]⟩ [0x11] = true ∧ matchesB ⟨[0x10], [0xf0]⟩ [0x11] = true := by decide
example : (newMatcher [⟨[0x01], [0x0f]⟩, ⟨[0x18], [0xf8]⟩]).toOption.map
      (fun m => [m.match [0x11], m.match [0x19], m.match [0x01, 0xff], m.match []]) =
    some [some 0, some 1, some 0, none] := by decide
example : err? (newMatcher [⟨[0x01], [0xff]⟩, ⟨[0x01], [0xff]⟩]) = some .ambiguous := by decide
example : err? (newMatcher [⟨[0x01, 0x02], [0xff, 0xff]⟩, ⟨[0x01], [0xff]⟩]) = some .ambiguous := by
  decide
example : err? (newMatcher [⟨[0x01], [0xff]⟩, ⟨[0x01, 0x00], [0xff, 0x00]⟩]) = some .invalid
    ∧ err? (newMatcher [⟨[], []⟩]) = some .invalid
    ∧ err? (newMatcher [⟨[0x01, 0x02], [0xff]⟩]) = some .invalid := by decide
example : (newMatcher []).toOption.map (fun m => m.match [0x00]) = some none := by decide

end Mltwist.Props.C19
