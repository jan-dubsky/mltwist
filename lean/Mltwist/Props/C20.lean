import Mltwist.Lemmas.ElfLoad
/-
C20 — ELF images are loaded faithfully.  PARTIAL by construction: `debug/elf`, the operating system
and the Go allocator are outside the model.

Model (`Model/Elf.lean`): `load lim view` = `NewParser` (type test) + `Entrypoint`, `MachineCode`
(`skipMachineCodeSection`, the size check), `Memory` (PT_LOAD only, `Memsz < Filesz`, zero fill),
`nonEmptyMemory`, `newMemory` (stable sort, overlap loop), `Memory.Address` (`sort.Search` literally)
and `Block.Address`, all starting from the `debug/elf` VIEW of the file (`View`: type, entry,
sections, program headers, the bytes `debug/elf` reads) — what happens between the file bytes and
this view is `debug/elf`'s business and is only exercised by the differential check, where an
independent ELF reader (`Spec/Elf.lean`, part 2) recomputes the expected images from the file bytes.

Spec (`Spec/Elf.lean`, part 1): `Tidy` (ends representable, sorted, non-overlapping), `lookup`, the images
`codeImages` and `loadImages`, and `ViewOK` — the facts taken for granted about a view (fields are `uint64`
values, slice lengths are machine integers, a program header's reader delivers at most `Filesz` bytes).

Allocation: `lim` is the largest zero fill the allocator grants.  All "no panic" statements are
relative to it: `memory lim v = .error .alloc` (the Go runtime panics or the process is killed) exactly
when a reached PT_LOAD header asks for more — finding F19, a known defect that is not repaired.

The model follows the code with one repair, F41: `newMemory` rejects a block whose exclusive end is
not representable (`Err.wrap`); the pinned code accepts it and then neither finds it in `Address`
nor sees overlaps with it.
-/
namespace Mltwist.Props.C20
open Mltwist Mltwist.Elf Mltwist.Elf.Spec

theorem open_failed (lim : Nat) : load lim none = .error .open := rfl

/-- untyped, relocatable and core files are rejected -/
theorem type_rejected (lim : Nat) (v : View) (h : v.typ = 0 ∨ v.typ = 1 ∨ v.typ = 4) :
    load lim (some v) = .error .type := by
  have hp : newParser v = .error .type := by
    unfold newParser etExec
    rcases h with h | h | h <;> rw [h] <;> rfl
  simp only [load, hp]

/-- executables and shared objects are accepted; entry point, code image and program memory are then
what `Entrypoint`, `MachineCode` and `Memory` deliver -/
theorem type_accepted (lim : Nat) (v : View) (h : v.typ = 2 ∨ v.typ = 3) :
    load lim (some v) = .ok ⟨v.entry, machineCode v, memory lim v⟩ := by
  have hp : newParser v = .ok () := by
    unfold newParser etExec
    rcases h with h | h <;> rw [h] <;> rfl
  simp only [load, hp, entrypoint]

/-- a successful `MachineCode` is exactly the qualifying sections (non-empty, executable,
address-bearing PROGBITS), each with the bytes `debug/elf` read, in address order, as tidy blocks -/
theorem machineCode_ok (v : View) (hv : ViewOK v) (bs : List Block) (h : machineCode v = .ok bs) :
    Readable v.sections ∧ bs = sortByBegin (codeImages v) ∧ bs.Perm (codeImages v) ∧ Tidy bs ∧ bs ≠ [] :=
  (Lemmas.Elf.machineCode_loads v hv).ok bs h

/-- overlapping sections are rejected -/
theorem machineCode_rejects_overlap (v : View) (hv : ViewOK v) (h : ¬ NoOverlap (codeImages v)) :
    ∃ e, machineCode v = .error e :=
  (Lemmas.Elf.machineCode_loads v hv).rejects h

/-- conversely, readable non-empty sections that fit below `2^64` and do not overlap are accepted -/
theorem machineCode_accepts (v : View) (hv : ViewOK v) (hr : Readable v.sections)
    (hne : codeImages v ≠ []) (hb : ∀ b ∈ codeImages v, b.2 ≠ []) (hf : Fits (codeImages v))
    (hno : NoOverlap (codeImages v)) : machineCode v = .ok (sortByBegin (codeImages v)) :=
  (Lemmas.Elf.machineCode_loads v hv).accepts hr hne hb hf hno

/-- `MachineCode` fails only with one of its error messages: never a panic, never an allocation -/
theorem machineCode_errors (v : View) (hv : ViewOK v) (e : Err) (h : machineCode v = .error e) :
    e = .read ∨ e = .size ∨ e = .empty ∨ e = .wrap ∨ e = .overlap :=
  or_assoc.1 ((Lemmas.Elf.machineCode_loads v hv).errors e h)

/-- the image of a loadable segment is the file bytes followed by zeros up to the in-memory size -/
theorem segImage_spec (p : Prog) (d : List UInt8) (hd : p.data = some d) (hle : d.length ≤ p.memsz) :
    (segImage p).1 = p.vaddr ∧ (segImage p).2.length = p.memsz ∧ (segImage p).2.take d.length = d ∧
      ∀ i, d.length ≤ i → i < p.memsz → (segImage p).2[i]? = some 0 := by
  unfold segImage
  simp only [hd, Option.getD_some]
  refine ⟨trivial, (by simp; omega), (by simp), ?_⟩
  intro i h1 h2
  rw [List.getElem?_append_right h1, List.getElem?_replicate]
  simp; omega

/-- a successful `Memory` is exactly the PT_LOAD images in address order, as tidy blocks -/
theorem memory_ok (lim : Nat) (v : View) (hv : ViewOK v) (bs : List Block) (h : memory lim v = .ok bs) :
    Loadable lim v.progs ∧ bs = sortByBegin (loadImages v) ∧ bs.Perm (loadImages v) ∧ Tidy bs ∧ bs ≠ [] :=
  (Lemmas.Elf.memory_loads lim v hv).ok bs h

/-- overlapping segments are rejected (or the load does not get that far) -/
theorem memory_rejects_overlap (lim : Nat) (v : View) (hv : ViewOK v) (h : ¬ NoOverlap (loadImages v)) :
    ∃ e, memory lim v = .error e :=
  (Lemmas.Elf.memory_loads lim v hv).rejects h

/-- conversely, loadable non-empty segments that fit below `2^64` and do not overlap are accepted -/
theorem memory_accepts (lim : Nat) (v : View) (hv : ViewOK v) (hl : Loadable lim v.progs)
    (hne : loadImages v ≠ []) (hb : ∀ b ∈ loadImages v, b.2 ≠ []) (hf : Fits (loadImages v))
    (hno : NoOverlap (loadImages v)) : memory lim v = .ok (sortByBegin (loadImages v)) :=
  (Lemmas.Elf.memory_loads lim v hv).accepts hl hne hb hf hno

/-- `Memory` fails only with one of its error messages, or because of the allocator (F19) — and the
latter only if some PT_LOAD header really asks for a zero fill beyond `lim`; never an index panic -/
theorem memory_errors (lim : Nat) (v : View) (hv : ViewOK v) (e : Err) (h : memory lim v = .error e) :
    e = .memsz ∨ e = .read ∨ e = .empty ∨ e = .wrap ∨ e = .overlap ∨
    (e = .alloc ∧ ∃ p ∈ v.progs, p.typ = 1 ∧ ∃ d, p.data = some d ∧ p.memsz - d.length > lim) := by
  -- the same disjunction in another order (the loop's third error, the allocation, stands last in the statement)
  refine Eq.mp ?_ ((Lemmas.Elf.memory_loads lim v hv).errors e h)
  unfold Lemmas.Elf.MemErr
  ac_rfl

/-- no crash given that allocation succeeds: if every loadable segment's size is within `lim`, the
outcome of `Memory` is a result or one of its own errors -/
theorem memory_no_crash (lim : Nat) (v : View) (hv : ViewOK v)
    (hlim : ∀ p ∈ v.progs, p.typ = 1 → p.memsz ≤ lim) :
    memory lim v ≠ .error .alloc ∧ memory lim v ≠ .error .panic := by
  refine ⟨fun h => ?_, fun h => ?_⟩ <;> have he := memory_errors lim v hv _ h
  · simp only [reduceCtorEq, false_or, true_and] at he
    obtain ⟨p, hp, h1, d, _, hgt⟩ := he
    have := hlim p hp h1
    omega
  · simp only [reduceCtorEq, false_or, false_and] at he

/-- on the blocks of a loaded memory, `Address a` is the suffix from `a` of the block covering `a`,
or nothing if `a` is unmapped; it never panics -/
theorem address_spec (bs : List Block) (ht : Tidy bs) (a : Nat) : address bs a = .ok (lookup bs a) :=
  Lemmas.Elf.address_spec bs ht a

/-- in a tidy list at most one block covers an address: `lookup` is that block's suffix -/
theorem lookup_some_iff (bs : List Block) (ht : Tidy bs) (a : Nat) (r : List UInt8) :
    lookup bs a = some r ↔ ∃ b ∈ bs, Covers b a ∧ r = b.2.drop (a - b.1) := by
  rw [Lemmas.Elf.lookup_eq_find, Option.map_eq_some_iff]
  constructor
  · rintro ⟨b, hb, rfl⟩
    exact ⟨b, List.mem_of_find?_eq_some hb,
      of_decide_eq_true (List.find?_some (p := fun b => decide (Covers b a)) hb), rfl⟩
  · rintro ⟨b, hb, hc, rfl⟩
    -- a block that ends at or below the begin of `b` cannot cover `a`
    refine ⟨b, Lemmas.find?_of_pairwise ht.2 hb (decide_eq_true hc) fun x hx => decide_eq_false ?_, rfl⟩
    unfold Covers at hc ⊢
    omega

theorem lookup_none_iff (bs : List Block) (a : Nat) : lookup bs a = none ↔ ∀ b ∈ bs, ¬ Covers b a := by
  rw [Lemmas.Elf.lookup_eq_find, Option.map_eq_none_iff, List.find?_eq_none]
  exact forall₂_congr fun _ _ => by rw [decide_eq_true_eq]

/-- both memories the loader hands out satisfy the premise of `address_spec` -/
theorem loaded_tidy (lim : Nat) (v : View) (hv : ViewOK v) (l : Loaded) (h : load lim (some v) = .ok l) :
    (∀ bs, l.code = .ok bs → Tidy bs) ∧ (∀ bs, l.mem = .ok bs → Tidy bs) := by
  obtain rfl := Lemmas.Elf.load_some h
  exact ⟨fun _ => (Lemmas.Elf.machineCode_loads v hv).tidy, fun _ => (Lemmas.Elf.memory_loads lim v hv).tidy⟩

/-- `Address` does not panic on any block list, tidy or not (`hs` is not used) -/
theorem address_never_panics (bs : List Block) (hs : ∀ b ∈ bs, b.1 < 2 ^ 64 ∧ b.2.length < 2 ^ 64) (a : Nat) :
    address bs a ≠ .error .panic :=
  Lemmas.Elf.address_no_panic bs a

/-- `.text` at 0x1000 (8 bytes), a non-executable section, a PT_LOAD segment with 4 file bytes and
memsz 8, a PT_NOTE header -/
def exampleView : View :=
  { typ := 2, entry := 4096,
    sections := [⟨1, 6, 4096, 8, 8, some [1, 2, 3, 4, 5, 6, 7, 8]⟩, ⟨1, 3, 8192, 2, 2, some [9, 9]⟩,
                 ⟨8, 3, 8200, 16, 16, none⟩],
    progs := [⟨4, 0, 4, 4, some [0, 0, 0, 0]⟩, ⟨1, 8192, 4, 8, some [9, 9, 7, 7]⟩] }

example : machineCode exampleView = .ok [(4096, [1, 2, 3, 4, 5, 6, 7, 8])] ∧
    memory 100 exampleView = .ok [(8192, [9, 9, 7, 7, 0, 0, 0, 0])] ∧
    address [(8192, [9, 9, 7, 7, 0, 0, 0, 0])] 8194 = .ok (some [7, 7, 0, 0, 0, 0]) ∧
    address [(8192, [9, 9, 7, 7, 0, 0, 0, 0])] 8200 = .ok none ∧
    memory 3 exampleView = .error .alloc := by decide

/-- overlapping and unsorted segments; a zero-length block; the top of the address space (F41) -/
example : newMemory [(16, [1, 2]), (8, [3, 4])] = .ok [(8, [3, 4]), (16, [1, 2])] ∧
    newMemory [(8, [1, 2, 3]), (10, [4])] = .error .overlap ∧
    newMemory [(8, []), (8, [1])] = .ok [(8, []), (8, [1])] ∧
    newMemory [(8, [1]), (8, [])] = .error .overlap ∧
    newMemory [(18446744073709551614, [1, 2])] = .error .wrap ∧
    newMemory [(18446744073709551613, [1, 2])] = .ok [(18446744073709551613, [1, 2])] := by decide

example : (load 0 (some { exampleView with typ := 1 })).toOption.isNone ∧
    (load 0 (some { exampleView with typ := 3 })).toOption.isSome := by decide

end Mltwist.Props.C20
