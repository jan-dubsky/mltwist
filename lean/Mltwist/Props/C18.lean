import Mltwist.Lemmas.State
/-
C18 — register state holds whole-register values.

Model: `Mltwist.State` (`Model/State.lean`): `RegMap` (a Go map as an association list), `State`,
`State.apply` after `internal/state/regs.go` and `state.go`.  Vocabulary (`Spec/State.lean`): a write
history `RegHist` (oldest first), `lastWrite k h`, and the value a read must have,
`readVal ρ r w' = trunc w' (trunc r.w ⟦r.value⟧ρ)`.  `runWrites m h` replays a history on the model.

`State.apply` returns `Except Fail (State × Bool)`: `.error` is a panic of the memory underneath
(C14: a store whose end `addr + w` reaches `2^64`), the boolean is the result of
`Apply`.  The "fits" flag of `expr.ConstUint` is ignored by the code: a constant address wider than 8
bytes is reduced modulo `2^64` (stated in `apply_memStore_const`).
-/
namespace Mltwist.Props.C18
open Mltwist Mltwist.State Mltwist.Overlay Mltwist.Spec.State Mltwist.Spec.Overlay
open Mltwist.Lemmas.State (runWrites Good)

/-- a register that was never written reads as absent -/
theorem load_empty (k : String) (w : Nat) : RegMap.load RegMap.empty k w = none := rfl

/-- reading the register just written: the value adjusted to the write width, then to the read width -/
theorem load_store_same (m : RegMap) (k : String) (e : Expr) (w w' : Nat) :
    (m.store k e w).load k w' = some (setWidth (setWidth e w) w') :=
  Lemmas.State.load_store_same m k e w w'

/-- writes to other registers do not interfere -/
theorem load_store_other (m : RegMap) (k k2 : String) (e : Expr) (w w' : Nat) (h : k2 ≠ k) :
    (m.store k e w).load k2 w' = m.load k2 w' :=
  Lemmas.State.load_store_other m k k2 e w w' h

/-- after any history of writes of any widths, a read of `k` at width `w'` is absent iff `k` was never
written, and otherwise is a `w'`-byte expression whose value under every valuation is the last value
written to `k`, adjusted to its write width and then zero-extended or truncated to `w'` -/
theorem history_read (h : RegHist) (k : String) (w' : Nat) :
    match lastWrite k h with
    | none => (runWrites RegMap.empty h).load k w' = none
    | some r => ∃ e, (runWrites RegMap.empty h).load k w' = some e ∧ e.width = w' ∧
        ∀ ρ, e.eval ρ = readVal ρ r w' := by
  have := Lemmas.State.runWrites_load k w' h RegMap.empty
  cases hl : lastWrite k h with
  | none => rw [hl] at this; exact this
  | some r =>
    rw [hl] at this
    refine ⟨_, this, Lemmas.Transform.setWidth_width _ _, fun ρ => ?_⟩
    rw [Lemmas.Transform.setWidth_eval, Lemmas.Transform.setWidth_eval]
    rfl

/-- `lastWrite` is what its name says: absent iff no write to `k` occurs, otherwise a write to `k`
of the history, and it only depends on the writes to `k` -/
theorem lastWrite_none_iff (k : String) (h : RegHist) : lastWrite k h = none ↔ ∀ r ∈ h, r.key ≠ k := by
  induction h with
  | nil => simp [lastWrite]
  | cons r rest ih =>
    rw [lastWrite, List.forall_mem_cons, ← ih]
    cases lastWrite k rest <;> simp

theorem lastWrite_some_mem (k : String) (h : RegHist) (r : RegWrite) (hr : lastWrite k h = some r) :
    r ∈ h ∧ r.key = k := by
  induction h with
  | nil => cases hr
  | cons x rest ih =>
    rw [Lemmas.State.lastWrite_cons, Option.or_eq_some_iff] at hr
    rcases hr with hr | ⟨_, hr⟩
    · exact ⟨List.mem_cons_of_mem _ (ih hr).1, (ih hr).2⟩
    · split at hr
      · next hk => cases hr; exact ⟨List.mem_cons_self, hk⟩
      · cases hr

theorem lastWrite_append_same (k : String) (r : RegWrite) (hk : r.key = k) (h : RegHist) :
    lastWrite k (h ++ [r]) = some r := by
  induction h with
  | nil => simp [lastWrite, hk]
  | cons x rest ih => rw [List.cons_append, lastWrite, ih]

theorem lastWrite_append_other (k : String) (r : RegWrite) (hk : r.key ≠ k) (h : RegHist) :
    lastWrite k (h ++ [r]) = lastWrite k h := by
  induction h with
  | nil => simp [lastWrite, hk]
  | cons x rest ih => rw [List.cons_append, lastWrite, lastWrite, ih]

/-- a register store is a write to the register map (and nothing else) -/
theorem apply_regStore (s : State) (v : Expr) (k : String) (w : Nat) :
    s.apply (.regStore v k w) = .ok ({ s with regs := s.regs.store k v w }, true) := rfl

/-- a memory store whose folded address is not a constant is refused and leaves the state equal -/
theorem apply_memStore_refused (s : State) (v : Expr) (key : String) (addr : Expr) (w : Nat)
    (h : (constFold addr).isConst = false) : s.apply (.memStore v key addr w) = .ok (s, false) := by
  cases hc : constFold addr with
  | const c => rw [hc] at h; cases h
  | _ => simp only [State.apply, hc]

/-- conversely, whenever `Apply` answers `false` the state is unchanged, and the effect was a memory
store whose address does not fold to a constant -/
theorem apply_false (s s' : State) (ef : Effect) (h : s.apply ef = .ok (s', false)) :
    s' = s ∧ ∃ v key addr w, ef = .memStore v key addr w ∧ (constFold addr).isConst = false := by
  cases ef with
  | regStore v k w => cases h
  | memStore v key addr w =>
    cases hc : (constFold addr).isConst with
    | false =>
      rw [apply_memStore_refused s v key addr w hc] at h
      cases h
      exact ⟨rfl, v, key, addr, w, rfl, hc⟩
    | true =>
      obtain ⟨c, hcc⟩ := Lemmas.Transform.isConst_iff.1 hc
      rw [Lemmas.State.apply_memStore_const s v key addr w c hcc] at h
      split at h <;> cases h

/-- with a constant address the effect is `MemMap.Store` at the address formed by the low 8 bytes of
the constant (the registers are untouched) -/
theorem apply_memStore_const (s : State) (v : Expr) (key : String) (addr : Expr) (w : Nat)
    (c : List UInt8) (h : constFold addr = .const c) :
    s.apply (.memStore v key addr w) =
      match s.mems.store key (leToNat c % 2 ^ 64) v w with
      | .ok mems' => .ok ({ s with mems := mems' }, true)
      | .error f => .error f :=
  Lemmas.State.apply_memStore_const s v key addr w c h

/-- … and that constant is the value of the address expression under every valuation -/
theorem const_is_value (addr : Expr) (hwf : addr.wf = true) (c : List UInt8)
    (h : constFold addr = .const c) (ρ : Env) : leToNat c = addr.eval ρ := by
  have := Lemmas.Transform.constFold_eval ρ addr hwf
  rw [h] at this
  simpa [Expr.eval] using this

/-- a closed address always reduces to a constant, so such a store is never refused (C09) -/
theorem closed_is_const (addr : Expr) (h : addr.closed = true) : (constFold addr).isConst = true :=
  Lemmas.Transform.constFold_closed addr h

/-- in a state whose memories satisfy their invariants (`Good`; holds for `state.New()` and is
preserved), an accepted store is the store of C14/C16 on the byte map of its address space: bytes
`[a, a+w)` of the address space `key` become the bytes of the value, every other address space and
the registers are unchanged, and nothing panics -/
theorem apply_memStore_spec (s : State) (hg : Good s) (v : Expr) (key : String) (addr : Expr) (w : Nat)
    (c : List UInt8) (hc : constFold addr = .const c) (hd : InDom (leToNat c % 2 ^ 64) w) :
    ∃ s', s.apply (.memStore v key addr w) = .ok (s', true) ∧ s'.regs = s.regs ∧ Good s' ∧
      s'.mems.abs key = (s.mems.abs key).store (leToNat c % 2 ^ 64) v w ∧
      ∀ key', key' ≠ key → s'.mems.abs key' = s.mems.abs key' := by
  obtain ⟨m', h1, h2, h3, h4⟩ := Lemmas.State.storable_store hg key (leToNat c % 2 ^ 64) v w hd
  exact ⟨{ s with mems := m' }, by rw [apply_memStore_const s v key addr w c hc, h1], rfl, h2, h3, h4⟩

/-- `state.New()` is good … -/
theorem good_new : Good State.new :=
  ⟨fun _ _ h => by simp [State.new, assocGet] at h, fun _ _ => by simp [State.new, MemMap.Storable, assocGet]⟩

/-- … and every effect whose constant store address lies in the domain of C14 applies without panic and
keeps the state good -/
theorem good_apply (s : State) (hg : Good s) (ef : Effect)
    (hd : ∀ v key addr w c, ef = .memStore v key addr w → constFold addr = .const c →
      InDom (leToNat c % 2 ^ 64) w) :
    ∃ s' b, s.apply ef = .ok (s', b) ∧ Good s' := by
  cases ef with
  | regStore v k w => exact ⟨_, true, apply_regStore s v k w, hg⟩
  | memStore v key addr w =>
    cases hc : (constFold addr).isConst with
    | false => exact ⟨s, false, apply_memStore_refused s v key addr w hc, hg⟩
    | true =>
      obtain ⟨c, hcc⟩ := Lemmas.Transform.isConst_iff.1 hc
      obtain ⟨s', h1, _, h3, _⟩ := apply_memStore_spec s hg v key addr w c hcc (hd v key addr w c rfl hcc)
      exact ⟨s', true, h1, h3⟩

/-- reads of the memories of a good state obey the memory laws of C16 for `mems.abs key` -/
theorem good_reads (s : State) (hg : Good s) (key : String) : MemLaws (s.mems.view key) (s.mems.abs key) :=
  Lemmas.Overlay.memmap_laws s.mems hg.1 key

/-- write 5 bytes 4 wide, read 8 wide: truncated to 4, then zero-extended -/
example :
    (RegMap.empty.store "x1" (.const [1, 2, 3, 4, 5]) 4).load "x1" 8
      = some (.const [1, 2, 3, 4, 0, 0, 0, 0])
    ∧ (RegMap.empty.store "x1" (.const [1, 2, 3, 4, 5]) 4).load "x2" 8 = none
    ∧ ((RegMap.empty.store "x1" (.regLoad "a" 8) 4).store "x1" (.regLoad "b" 2) 2).load "x1" 4
      = some (.binary .add (.regLoad "b" 2) (.const [0]) 4) := by decide

/-- a symbolic address is refused, a foldable one and a 9-byte constant are applied at the low 8 bytes -/
example :
    (State.new.apply (.memStore (.const [1]) "m" (.regLoad "x1" 8) 1)).toOption.map (·.2) = some false
    ∧ (State.new.apply (.memStore (.const [0xaa]) "m"
        (.binary .add (.const [16, 0, 0, 0, 0, 0, 0, 0]) (.const [4, 0, 0, 0, 0, 0, 0, 0]) 8) 1)).toOption.map
        (fun r => (r.2, (r.1.mems.load "m" 20 1).toOption)) = some (true, some (some (.const [0xaa])))
    ∧ (State.new.apply (.memStore (.const [0xbb]) "m" (.const [7, 0, 0, 0, 0, 0, 0, 0, 1]) 1)).toOption.map
        (fun r => (r.2, (r.1.mems.load "m" 7 1).toOption)) = some (true, some (some (.const [0xbb]))) := by decide

end Mltwist.Props.C18
