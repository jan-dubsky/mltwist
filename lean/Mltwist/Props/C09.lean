import Mltwist.Lemmas.Transform
/-
C09 — constant folding preserves meaning.
-/
namespace Mltwist.Props.C09
open Mltwist

/-- the folded expression has the width of the original -/
theorem constFold_width (e : Expr) : (constFold e).width = e.width :=
  Lemmas.Transform.constFold_width e

/-- … and denotes the same value under every assignment of registers and memory -/
theorem constFold_eval (ρ : Env) (e : Expr) (h : e.wf = true) :
    (constFold e).eval ρ = e.eval ρ :=
  Lemmas.Transform.constFold_eval ρ e h

/-- an expression built only from constants folds to a single constant -/
theorem constFold_closed (e : Expr) (h : e.closed = true) : (constFold e).isConst = true :=
  Lemmas.Transform.constFold_closed e h

/-- no operation whose operands are all constants remains -/
theorem constFold_noConstOp (e : Expr) : (constFold e).noConstOp = true :=
  Lemmas.Transform.purgeWidthGadgets_noConstOp _ (Lemmas.Transform.cfr_noConstOp e)

/-- folding a folded expression changes nothing -/
theorem constFold_idem (e : Expr) : constFold (constFold e) = constFold e := by
  -- the second `constFoldRaw` finds nothing to fold, the second purge nothing to drop
  show purgeWidthGadgets (constFoldRaw (constFold e)) = constFold e
  rw [Lemmas.Transform.cfr_of_noConstOp _ (constFold_noConstOp e)]
  exact Lemmas.Transform.purgeWidthGadgets_idem (constFoldRaw e)

/-- the `panic("unreachable")` in `dropUselessWidthGadget` cannot be reached -/
theorem dropDecision_total (w x a : Nat) : dropDecision w x a ≠ none :=
  Lemmas.Transform.dropDecision_eq w x a ▸ Option.some_ne_none _

/-- non-vacuity: a well-formed mixed tree that folding really changes -/
example :
    let e : Expr := .binary .add (.regLoad "x1" 4) (.binary .add (.const [1]) (.const [2]) 4) 4
    e.wf = true ∧ constFold e = .binary .add (.regLoad "x1" 4) (.const [3, 0, 0, 0]) 4 := by decide

end Mltwist.Props.C09
