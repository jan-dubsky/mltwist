import Mltwist.Lemmas.RenderTool
import Mltwist.Lemmas.RenderPhi
/-
C24 — screen rendering fits the granted space.

For every view state (listing and cursor, registers, memory rows and cursor) and every granted height of
at least the view's declared minimum, rendering never crashes and never writes more lines than granted,
and a view that declares a fixed height writes exactly that many lines.

The model (`Model/Render.lean`) follows `view/composite.go`, `lines/view.go`, `memview/view.go`,
`emulate/reg_view.go`, `prompt.go` literally; what a `Print(n)` call writes is reduced to `Out`: the
number of `\n` bytes and whether the output ends with an unterminated row.

Accounting (`Spec/Render.lean`): rows used = number of `\n`, plus 2 if the output ends with an
unterminated row.  Only the command prompt ends that way: it declares `MinLines = MaxLines = 2` and
writes `"Enter command: "` without `\n` — its two rows are the prompt row and the row the cursor reaches
when the user ends the command with Enter.  `Composite.MinLines` adds one row per separator `\n`
between two elements.  With this accounting "rows used ≤ n" for the whole screen means the terminal
does not scroll.

`FitsView v n` is the property for one view state and one height:
  `n ≥ MinLines → no panic ∧ rows used ≤ n`, and `MinLines = MaxLines = n → returned nil → rows used = n`.

The model follows the tree with the two repairs C24 required (F24: listing window clamped, F25: the
register view does not print the instruction pointer row it does not count); `linesViewPinned`,
`regViewPinned` are the code before them, for which the property fails — see "The two defects".
The property is stated for the views the tool builds: listing, memory view, register view, prompt, and
the composites `NewComposite(lineView, regView)` and `NewComposite(mode.View(), commandPrompt{})`, nested as
the tool nests them.  Two peculiarities of the code are modelled as they are and recorded as
*observations* (last section), not as violations: `lines.View.MinLines` is the constant 5 (> `MaxLines`
for a listing of 3 or 4 lines) and `distributeLines` never decrements `remLines` (over-grants only with two
growable elements, which the tool never builds).

Of the grants of `distributeLines` the theorems below say that they are valid (`grants`, `grant_le_max`: within the
bounds of the elements, together at most the height) and, for the variant with `remLines--`, that they use all rows
unless every element has its full difference (`obs_F26_with_decrement`).  The oracle applied to the Go results
(`Spec.Render.checkGrants`) also tests that the distribution is fair; no theorem states fairness.

Outside the model (trusted base, `vcheck/props_render.py`): the text of the rows (every row is one
`fmt.Printf` ending in `\n` whose arguments contain no `\n`), the float64 evaluation of
`math.Floor(float64(n)/(math.Phi+1))` (validated against `phiCut` for all `n ≤ 100000`), how memory
blocks become rows of the memory view (C32; the state here is the number of rows and the cursor), and
`terminal.GetSize` of screen.go (`screenHeight` takes the terminal height as a parameter).
-/
namespace Mltwist.Props.C24
open Mltwist.Render
open Mltwist.Lemmas.Render (FitsView Good OneIP)

/-- The cut `int(math.Floor(float64(n)/(math.Phi+1)))` of the listing and memory windows is at most the height `n` … -/
theorem phiCut_le (n : Nat) : phiCut n ≤ n := Lemmas.Render.phiCut_eq n ▸ Nat.findGreatest_le n

/-- … `phiCut n < n` for `n ≥ 1` keeps the cursor row inside the window … -/
theorem phiCut_lt (n : Nat) (hn : 1 ≤ n) : phiCut n < n := Lemmas.Render.phiCut_lt n hn

/-- … and its exact meaning: the integer part of `n/(φ+1)`, `φ` the golden ratio (`math.Phi`). -/
theorem phiCut_eq_floor (n : Nat) : (phiCut n : ℤ) = ⌊(n : ℝ) / (Real.goldenRatio + 1)⌋ := by
  have hpos : (0 : ℝ) < Real.goldenRatio + 1 := by have := Real.goldenRatio_pos; linarith
  symm
  rw [Int.floor_eq_iff, le_div_iff₀ hpos, div_lt_iff₀ hpos]
  refine ⟨by exact_mod_cast (Lemmas.Render.phiOK_iff_real n (phiCut n)).1 (Lemmas.Render.phiCut_ok n),
    lt_of_not_ge fun h => ?_⟩
  have := (Lemmas.Render.phiOK_iff_real n (phiCut n + 1)).2 (by exact_mod_cast h)
  rw [Lemmas.Render.phiCut_succ_not] at this
  cases this

/-- the oracle used on the Go results (`phicut`, `phisweep`) accepts exactly this value -/
theorem phiCut_oracle (n k : Nat) : Spec.Render.isPhiCut n k = true ↔ k = phiCut n := by
  rw [Lemmas.Render.isPhiCut_eq, Bool.and_eq_true, Bool.not_eq_true']
  constructor
  · rintro ⟨h1, h2⟩
    have hle := Lemmas.Render.phiCut_max n k h1
    -- if `k + 1 ≤ phiCut n` then `k + 1` satisfies the condition, as `phiCut n` does
    by_contra hne
    rw [Lemmas.Render.phiOK_anti (show k + 1 ≤ phiCut n by omega) (Lemmas.Render.phiCut_ok n)] at h2
    cases h2
  · rintro rfl
    exact ⟨Lemmas.Render.phiCut_ok n, Lemmas.Render.phiCut_succ_not n⟩

/-- **Listing** (`lines.View`), any number of lines `L`, any cursor, any height: `Print` returns nil
having written `min n L` complete rows. -/
theorem listing_rows (L c n : Nat) : (linesView L c).print n = ⟨.ok, ⟨Spec.Render.linesRows L n, false⟩⟩ :=
  Lemmas.Render.linesView_print L c n

/-- the property for the listing (`MinLines = 5`, `MaxLines = L`: a fixed height exactly when `L = 5`;
for `L < 5` the bounds are inconsistent — observation O-F24b — and the property only asks for `≤ n`) -/
theorem listing_fits (L c n : Nat) : FitsView (linesView L c) n :=
  Lemmas.Render.fitsView_of_rows _ (Lemmas.Render.linesView_good L c) (Lemmas.Render.linesView_exactRows L c) n

/-- more than the property asks: the window always shows the cursor row -/
theorem listing_shows_cursor (L c n : Nat) (hc : c < L) (hn : 1 ≤ n) :
    linesBegin L c n ≤ c ∧ c < linesBegin L c n + Spec.Render.linesRows L n :=
  Lemmas.Render.linesBegin_cursor L c n hc hn

/-- **Memory view** with `R > 0` rows and cursor `c < R`: the rows of the window, clamped to `R`. -/
theorem memory_rows (R c n : Nat) (hR : R ≠ 0) (hc : c < R) :
    (memView R c).print n = ⟨.ok, ⟨Spec.Render.memRows R (c - phiCut n) n, false⟩⟩ :=
  Lemmas.Render.memView_print R c n hc

/-- without rows (no cursor) it writes its fixed text of five rows -/
theorem memory_empty (c n : Nat) : (memView 0 c).print n = ⟨.ok, ⟨5, false⟩⟩ :=
  Lemmas.Render.memView_print_empty c n

/-- the property for the memory view (`MinLines = 5`, unbounded: never a fixed height) -/
theorem memory_fits (R c : Nat) (h : R = 0 ∨ c < R) (n : Nat) : FitsView (memView R c) n :=
  Lemmas.Render.fitsView_of_rows _ (Lemmas.Render.memView_good R c h) (Lemmas.Render.memView_exactRows R c) n

/-- **Register view** of a register file (`OneIP`: at most one entry is the instruction pointer — keys
of a map are distinct): it never panics; it returns nil with exactly `lines()` complete rows, or an error
(a value too wide for the 80 columns) with fewer.  `MinLines = MaxLines = lines()`: always fixed. -/
theorem registers_rows (regs : List Reg) (h : OneIP regs) (n : Nat) :
    (((regView regs).print n).status = .ok ∧ ((regView regs).print n).out = ⟨regLines regs, false⟩) ∨
    (((regView regs).print n).status = .err ∧ ((regView regs).print n).out.op = false ∧
      ((regView regs).print n).out.nl < regLines regs) :=
  Lemmas.Render.regView_print regs h n

/-- the property for the register view -/
theorem registers_fits (regs : List Reg) (h : OneIP regs) (n : Nat) : FitsView (regView regs) n :=
  Lemmas.Render.fitsView_of_rows _ (Lemmas.Render.regView_good regs h) (Lemmas.Render.regView_exactRows regs h) n

/-- **Command prompt**: fixed height 2, no `\n`, one unterminated row = 2 rows used. -/
theorem prompt_rows (n : Nat) : promptView.print n = ⟨.ok, ⟨0, true⟩⟩ := rfl

/-- the property for the command prompt -/
theorem prompt_fits (n : Nat) : FitsView promptView n :=
  Lemmas.Render.fitsView_of_good _ Lemmas.Render.promptView_good Lemmas.Render.promptView_exact n

/-- **`distributeLines` terminates** — for every list of elements (any bounds, also inconsistent ones)
and every `remLines`, as the code is (`dec = false`) and with `remLines--` (`dec = true`): the fuel of the
model never runs out. -/
theorem distribute_terminates (dec : Bool) (els : List View) (remLines : Int) :
    (distributeLines dec els remLines).isSome = true :=
  Lemmas.Render.distributeLines_isSome dec els remLines

/-- **The grants for the shape of the tool's composites** — two elements, the second of fixed height
(register table, prompt) — for `remLines ≥ 0` (what `Composite.Print` passes): one grant per element, at
least the minimum, at most minimum + difference (hence at most the maximum of a bounded element,
`grant_le_max`), together at most `remLines` above the minimums: grants + separator ≤ height. -/
theorem grants (a b : View) (hb : b.maxLines = b.minLines) (hb0 : 0 ≤ b.minLines)
    (remLines : Int) (h : 0 ≤ remLines) :
    ∃ gs, distributeLines false [a, b] remLines = some gs ∧ gs.length = 2 ∧
      (∀ j, (mins [a, b]).getD j 0 ≤ gs.getD j 0 ∧
            gs.getD j 0 ≤ (mins [a, b]).getD j 0 + (diffLinesMax [a, b] (mins [a, b]) remLines).getD j 0) ∧
      sumInts gs ≤ sumInts (mins [a, b]) + remLines := by
  rw [Lemmas.Render.distribute_agree _ _ h (Lemmas.Render.covered_pair a b ⟨hb, hb0⟩ remLines h)]
  obtain ⟨gs, h1, g⟩ := Lemmas.Render.distributeLines_spec true [a, b] remLines h
  exact ⟨gs, h1, g.len, fun j => ⟨g.lo j, g.hi j⟩, g.sum_le rfl⟩

/-- minimum + difference never exceeds the maximum of a bounded element (a maximum below the minimum
counts as the minimum, view.go) -/
theorem grant_le_max (min max remLines : Int) (hm : 0 ≤ max) :
    min + diffOf min max remLines ≤ (if max < min then min else max) :=
  Lemmas.Render.diffOf_le_max min max remLines hm

/-- **A composite of the tool's shape inherits the bound from its elements**: two good views (non-negative
minimum; for every height ≥ the minimum no panic and rows used ≤ height), the second of fixed height:
for every `n ≥ MinLines` of the composite `Print(n)` does not panic and uses at most `n` rows — and the
composite is again a good view (the tool nests one composite as first element of another). -/
theorem composite_good (a b : View) (ha : Good a) (hb : Good b) (hfix : b.maxLines = b.minLines) :
    Good (composite [a, b]) := Lemmas.Render.pair_good ha hb hfix

/-- below `MinLines` `Composite.Print` returns an error and writes nothing -/
theorem composite_below_min (els : List View) (n : Int) (h : n < compMinLines els) :
    (composite els).print n.toNat = ⟨.err, .none⟩ ∨ n < 0 := by
  by_cases hn : n < 0
  · right; exact hn
  · left
    show compPrint false els ((n.toNat : Nat) : Int) = _
    rw [Int.toNat_of_nonneg (by omega)]
    exact Lemmas.Render.compPrint_below_min false els n h

/-- a composite of fixed-height elements declares a fixed height -/
theorem composite_fixed (els : List View) (h : ∀ e ∈ els, e.maxLines = e.minLines ∧ 0 ≤ e.minLines) :
    (composite els).maxLines = (composite els).minLines :=
  Lemmas.Render.compMaxLines_fixed els fun e he => ⟨(h e he).1, (h e he).2⟩

/-- `view.NewComposite(lineView, regView)` of the emulation mode -/
theorem emulation_view_fits (L c : Nat) (regs : List Reg) (h : OneIP regs) (n : Nat) :
    FitsView (emuView L c regs) n :=
  Lemmas.Render.fitsView_of_rows _ (Lemmas.Render.emuView_good L c regs h) (Lemmas.Render.emuView_exactRows L c regs h) n

/-- `view.NewComposite(mode.View(), commandPrompt{})` for any mode whose view is good and, when it declares a
fixed height, writes exactly that many complete rows -/
theorem screen_fits (v : View) (hg : Good v)
    (hex : v.minLines = v.maxLines → (v.print v.minLines.toNat).status = .ok →
      (v.print v.minLines.toNat).out = ⟨v.minLines.toNat, false⟩) (n : Nat) : FitsView (uiScreen v) n :=
  Lemmas.Render.fitsView_of_good _ (Lemmas.Render.uiScreen_good v hg) (Lemmas.Render.uiScreen_exact v hg.min_nonneg hex) n

/-- … for the disassembly mode: listing above the prompt -/
theorem screen_disassemble_fits (L c n : Nat) : FitsView (uiScreen (linesView L c)) n :=
  screen_fits _ (Lemmas.Render.linesView_good L c) (Lemmas.Render.linesView_exactRows L c) n

/-- … for the emulation mode (nested composite): listing, register table, prompt -/
theorem screen_emulate_fits (L c : Nat) (regs : List Reg) (h : OneIP regs) (n : Nat) :
    FitsView (uiScreen (emuView L c regs)) n :=
  screen_fits _ (Lemmas.Render.emuView_good L c regs h) (Lemmas.Render.emuView_exactRows L c regs h) n

/-- … for the memory mode: memory view above the prompt -/
theorem screen_memory_fits (R c : Nat) (h : R = 0 ∨ c < R) (n : Nat) :
    FitsView (uiScreen (memView R c)) n :=
  screen_fits _ (Lemmas.Render.memView_good R c h) (Lemmas.Render.memView_exactRows R c) n

/-- screen.go (read off the code, the terminal height is a parameter): a view whose `MaxLines` is
unbounded or at least its `MinLines` is printed with a height between its minimum and the terminal
height — so by the theorems above (which need `n ≥ MinLines` only) the screen does not scroll — or not
at all if the terminal is too small. -/
theorem screen_height (e : View) (screenLines : Int) (hwf : e.maxLines < 0 ∨ e.minLines ≤ e.maxLines) :
    (screenLines < e.minLines → screenHeight e screenLines = none) ∧
    (e.minLines ≤ screenLines →
      ∃ n, screenHeight e screenLines = some n ∧ e.minLines ≤ n ∧ n ≤ screenLines) := by
  unfold screenHeight
  refine ⟨fun h => if_pos h, fun h => ?_⟩
  rw [if_neg (by omega)]
  simp only
  split
  · exact ⟨_, rfl, h, Int.le_refl _⟩
  · exact ⟨_, rfl, by omega, by omega⟩

/-- the executable oracle applied to the Go results decides exactly the property -/
theorem oracle_iff (min max n : Int) (o : Spec.Render.Outcome) (nl : Nat) (op : Bool) :
    Spec.Render.check min max n o nl op = none ↔ Spec.Render.Fits min max n o nl op := by
  unfold Spec.Render.check Spec.Render.Fits
  simp only [ite_eq_iff, reduceCtorEq, and_false, false_or, and_true, not_lt, not_and, Decidable.not_not]
  constructor
  · rintro (h | ⟨h1, h2, h3, h4⟩)
    · exact ⟨fun h' => absurd h' (by omega), fun _ h' => absurd h' (by omega)⟩
    · exact ⟨fun _ => ⟨h2, by omega⟩, h4⟩
  · intro ⟨h1, h2⟩
    by_cases hn : n < min
    · exact Or.inl hn
    · exact Or.inr ⟨by omega, (h1 (by omega)).1, by have := (h1 (by omega)).2; omega, h2⟩

/-! ## The two defects (repaired by `fix:` commits)

F24 — the listing window was not clamped; F25 — the register view printed the instruction pointer row it
does not count. -/

/-- F24: the listing before the repair panics exactly when the window reaches behind the last line, e.g.
whenever the cursor is on the last line (`n ≥ 5`: `phiCut n < n − 1`). -/
theorem F24_panic_iff (L c n : Nat) (hc : c < L) :
    ((linesViewPinned L c).print n).status = .panic ↔ L < (c - phiCut n) + n :=
  Lemmas.Render.linesPrintPinned_panic_iff L c n hc

/-- F25: the register view before the repair writes the rows of all registers: one more than `lines()`
exactly when the instruction pointer is present and the number of other registers is even. -/
theorem F25_rows (regs : List Reg) (h : OneIP regs) (n : Nat)
    (hok : ((regViewPinned regs).print n).status = .ok) :
    ((regViewPinned regs).print n).out.nl = regLines regs +
      (if regs.any (·.key == ipKey) ∧ (regs.filter (fun r => !(r.key == ipKey))).length % 2 = 0 then 1 else 0) := by
  have hl := Lemmas.Render.length_filter_not regs
  unfold OneIP at h
  rw [Lemmas.Render.regPrintPinned_spec regs n hok, Lemmas.Render.regLines_eq regs h, Lemmas.Render.any_isIP]
  simp only [decide_eq_true_eq, Spec.Render.regRows]
  split <;> omega

/-! ## Observations (theorems about the model of the code as it is; NOT violations of C24)

O-F26 — `distributeLines` never decrements `remLines`; O-F24b — `lines.View.MinLines` is the constant 5. -/

/-- O-F26, what the loop computes for `remLines > 0`: *every* element gets its full difference (up to
`remLines` each) — with two growable elements the grants exceed the height (example below). -/
theorem obs_F26_grants (els : List View) (remLines : Int) (h : 0 < remLines) :
    ∃ gs, distributeLines false els remLines = some gs ∧ gs.length = els.length ∧
      ∀ j, gs.getD j 0 = (mins els).getD j 0 + (diffLinesMax els (mins els) remLines).getD j 0 := by
  obtain ⟨gs, h1, g⟩ := Lemmas.Render.distributeLines_spec false els remLines (by omega)
  exact ⟨gs, h1, g.len, g.full_of_pos rfl h⟩

/-- O-F26 cannot show in the tool: both composites it builds have two elements the second of which has
a fixed height (register table, prompt); then at most one element can grow and the loop computes the
same grants as the variant with `remLines--` … -/
theorem obs_F26_unreachable (a b : View) (hb : b.maxLines = b.minLines) (hb0 : 0 ≤ b.minLines)
    (remLines : Int) (h : 0 ≤ remLines) :
    distributeLines false [a, b] remLines = distributeLines true [a, b] remLines :=
  Lemmas.Render.distribute_agree _ _ h (Lemmas.Render.covered_pair a b ⟨hb, hb0⟩ remLines h)

/-- … for which the general statement holds: grants of *any* list of elements sum to at most
`remLines` above the minimums (and to exactly that unless every element has all it can take), and a
composite of *any* non-empty list of good views is a good view. -/
theorem obs_F26_with_decrement (els : List View) (remLines : Int) (h : 0 ≤ remLines) :
    ∃ gs, distributeLines true els remLines = some gs ∧ gs.length = els.length ∧
      (∀ j, (mins els).getD j 0 ≤ gs.getD j 0 ∧
            gs.getD j 0 ≤ (mins els).getD j 0 + (diffLinesMax els (mins els) remLines).getD j 0) ∧
      sumInts gs ≤ sumInts (mins els) + remLines ∧
      (sumInts gs = sumInts (mins els) + remLines ∨
        ∀ j, gs.getD j 0 = (mins els).getD j 0 + (diffLinesMax els (mins els) remLines).getD j 0) := by
  obtain ⟨gs, h1, g⟩ := Lemmas.Render.distributeLines_spec true els remLines h
  exact ⟨gs, h1, g.len, fun j => ⟨g.lo j, g.hi j⟩, g.sum_le rfl, g.sum_or_full rfl⟩

/-- with `remLines--` a composite of any non-empty list of good views is a good view -/
theorem obs_F26_composite_with_decrement (els : List View) (hne : els ≠ []) (hgood : ∀ e ∈ els, Good e) :
    Good (compositeDec els) := Lemmas.Render.compositeDec_good els hne hgood

/-- O-F24b: composites of views with consistent bounds have consistent bounds (so `screen_height`
applies to every screen of the tool whose listing has at least five lines); a listing of 3 or 4 lines
breaks the premise — see the example below. -/
theorem obs_F24b_consistent (els : List View) (h : ∀ e ∈ els, e.maxLines < 0 ∨ e.minLines ≤ e.maxLines) :
    (composite els).maxLines < 0 ∨ (composite els).minLines ≤ (composite els).maxLines :=
  Lemmas.Render.compMaxLines_ge els h

/-- a view that prints exactly the height it is given (the stub of the harness) -/
def stub (min max : Int) : View := ⟨min, max, fun n => ⟨.ok, ⟨n, false⟩⟩⟩

-- the code (with the repairs of F24, F25) on the witnesses of the two defects
example : (linesView 10 9).print 5 = ⟨.ok, ⟨5, false⟩⟩ ∧ linesBegin 10 9 5 = 5
    ∧ (linesView 10 0).print 11 = ⟨.ok, ⟨10, false⟩⟩
    ∧ (linesView 5 4).print 5 = ⟨.ok, ⟨5, false⟩⟩
    ∧ (linesView 3 0).print 5 = ⟨.ok, ⟨3, false⟩⟩ := by decide +kernel

example : (regView [⟨ipKey, 8⟩]).print 0 = ⟨.ok, ⟨0, false⟩⟩
    ∧ (regView [⟨ipKey, 8⟩, ⟨"x1", 4⟩, ⟨"x2", 4⟩]).print 1 = ⟨.ok, ⟨1, false⟩⟩
    ∧ (regView [⟨"x1", 4⟩, ⟨"x2", 32⟩]).print 1 = ⟨.err, ⟨0, false⟩⟩
    ∧ (regView [⟨"x1", 16⟩]).print 1 = ⟨.ok, ⟨1, false⟩⟩
    ∧ (regView [⟨"x10", 16⟩]).print 1 = ⟨.err, ⟨0, false⟩⟩ := by decide +kernel

-- the screens of the tool
example : ((uiScreen (linesView 10 0)).print 9).out = ⟨7, true⟩
    ∧ (uiScreen (linesView 10 0)).minLines = 8 ∧ (uiScreen (linesView 10 0)).maxLines = 13
    ∧ ((uiScreen (emuView 10 0 [⟨ipKey, 8⟩, ⟨"x1", 8⟩, ⟨"x2", 8⟩])).print 12) = ⟨.ok, ⟨10, true⟩⟩
    ∧ ((uiScreen (emuView 5 0 [⟨ipKey, 8⟩])).print 9) = ⟨.ok, ⟨7, true⟩⟩
    ∧ (uiScreen (emuView 5 0 [⟨ipKey, 8⟩])).minLines = 9 ∧ (uiScreen (emuView 5 0 [⟨ipKey, 8⟩])).maxLines = 9
    ∧ ((uiScreen (memView 4 3)).print 8).out = ⟨3, true⟩ := by decide +kernel

-- F24 before the repair: cursor on the last line; more rows than lines
example : ((linesViewPinned 10 9).print 5).status = .panic
    ∧ ((linesViewPinned 10 0).print 11).status = .panic
    ∧ ((linesViewPinned 5 4).print 5).status = .panic := by decide +kernel

-- F25 before the repair: only the instruction pointer: MaxLines = 0, one row written; in the emulation
-- view at its minimum height 6: seven rows
example : (regViewPinned [⟨ipKey, 8⟩]).maxLines = 0 ∧ ((regViewPinned [⟨ipKey, 8⟩]).print 0).out.nl = 1
    ∧ (composite [linesView 10 0, regViewPinned [⟨ipKey, 8⟩]]).minLines = 6
    ∧ ((composite [linesView 10 0, regViewPinned [⟨ipKey, 8⟩]]).print 6).out.nl = 7 := by decide +kernel

-- O-F26: two unbounded elements, height 10: both get 9 rows, 19 rows written; with `remLines--`: 5 + 4
example : distributeLines false [stub 0 (-1), stub 0 (-1)] 9 = some [9, 9]
    ∧ ((composite [stub 0 (-1), stub 0 (-1)]).print 10).out.nl = 19
    ∧ distributeLines true [stub 0 (-1), stub 0 (-1)] 9 = some [5, 4]
    ∧ ((compositeDec [stub 0 (-1), stub 0 (-1)]).print 10).out = ⟨10, false⟩
    ∧ distributeLines true [stub 1 3, stub 2 2, stub 0 (-1)] 5 = some [3, 2, 3] := by decide +kernel

-- O-F24b: a listing of three lines declares MinLines 5 > MaxLines 3; the property holds (3 rows ≤ 5), but
-- screen.go on a terminal of 24 rows asks for MaxLines = 6 < MinLines = 8 and `Print` returns an error
example : (linesView 3 0).minLines = 5 ∧ (linesView 3 0).maxLines = 3
    ∧ ((uiScreen (linesView 3 0)).print 8) = ⟨.ok, ⟨4, true⟩⟩
    ∧ (uiScreen (linesView 3 0)).minLines = 8 ∧ (uiScreen (linesView 3 0)).maxLines = 6
    ∧ screenHeight (uiScreen (linesView 3 0)) 24 = some 6
    ∧ (uiScreen (linesView 3 0)).print 6 = ⟨.err, .none⟩ := by decide +kernel

end Mltwist.Props.C24
