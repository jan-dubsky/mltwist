import Mltwist.Lemmas.Parse
/-
C21 — code parsing tiles the code image.

Model (`Model/Parse.lean`): `parse dec blocks` = `parser.Parse` (block loop, `parseIns`,
`Instruction.Validate`, `newInstruction`) generic over the platform decoder `dec`, with `uint64`
address arithmetic, the loop running on fuel = block length; `parseRv64` = its instance for
`riscv.NewParser(Variant64, ExtM, ExtA)`, the parser `cmd/mltwist` uses, over the REGENERATED
instruction tables.

Spec (`Spec/Parse.lean`): `Tiling dec a bytes is` — the instructions tile the bytes at `a`
contiguously, each one being what the decoder makes of the bytes from its address on (`IsIns`:
own bytes, `constFold`ed effects); `Stuck dec a bytes pos` — the walk reaches the instruction
position `pos`, which holds no valid instruction (`Bad`); `TilingAll` — block after block.
For RISC-V the positions are `begin + 4k`, `RvBadAt bytes k` says that the `k`-th word is truncated
or undefined for the reference decoder `Spec.Rv.decode 64 true true` (C02), and `rvTile` is the
tiling in closed form.

Code images are the block lists of an `elf.Memory` (C20: `Tidy`, in particular `Fits`: no block
reaches `2^64` — the F41 repair of `newMemory`; the pinned code silently skipped a block ending at
`2^64`).  The generic theorems assume a decoder that honours the contract of `parser.Parser`
(`Honest`: the reported length lies within the given bytes); `rv_honest` shows it for RISC-V.
-/
namespace Mltwist.Props.C21
open Mltwist Mltwist.Elf Mltwist.Parse Mltwist.Parse.Spec

variable {ε δ : Type}

/-- success = the instructions tile every block, in memory order -/
theorem parse_ok_iff (dec : Decoder ε δ) (hh : Honest dec) (bs : List Block) (hf : Elf.Spec.Fits bs)
    (is : List (Ins δ)) : parse dec bs = .ok is ↔ TilingAll dec bs is := by
  rcases Lemmas.Parse.parse_spec dec hh bs hf with ⟨js, hok, ht⟩ | ⟨b, hb, pos, f, hs, he, _⟩
  · rw [hok]
    constructor
    · intro h; cases h; exact ht
    · intro h; rw [Lemmas.Parse.tilingAll_unique dec ht h]
  · rw [he]
    exact ⟨nofun, fun h => (Lemmas.Parse.tilingAll_not_stuck dec h hb hs).elim⟩

/-- failure ⇔ the walk over some block reaches a position that holds no valid instruction
(undecodable, truncated — whatever the decoder rejects — or an improper `model.Instruction`) -/
theorem parse_error_iff (dec : Decoder ε δ) (hh : Honest dec) (bs : List Block) (hf : Elf.Spec.Fits bs) :
    (∃ f, parse dec bs = .error f) ↔ ∃ b ∈ bs, ∃ pos, Stuck dec b.1 b.2 pos := by
  rcases Lemmas.Parse.parse_spec dec hh bs hf with ⟨js, hok, ht⟩ | ⟨b, hb, pos, f, hs, he, _⟩
  · rw [hok]
    exact ⟨nofun, fun ⟨b, hb, pos, hs⟩ => (Lemmas.Parse.tilingAll_not_stuck dec ht hb hs).elim⟩
  · exact ⟨fun _ => ⟨b, hb, pos, hs⟩, fun _ => ⟨f, he⟩⟩

/-- the reported error names such a position -/
theorem parse_error_kind (dec : Decoder ε δ) (hh : Honest dec) (bs : List Block) (hf : Elf.Spec.Fits bs)
    (f : Fail ε) (h : parse dec bs = .error f) :
    ∃ b ∈ bs, ∃ pos, Stuck dec b.1 b.2 pos ∧ ((∃ e, f = .parse pos e) ∨ f = .invalid pos) := by
  rcases Lemmas.Parse.parse_spec dec hh bs hf with ⟨js, hok, _⟩ | ⟨b, hb, pos, f', hs, he, hk⟩
  · rw [hok] at h; cases h
  · rw [he] at h
    cases h
    exact ⟨b, hb, pos, hs, hk⟩

/-- `Parse` never panics, never reads beyond a block, and the fuel of the model always suffices (termination: every
accepted instruction has `ByteLen ≥ 1`) -/
theorem parse_never_panics (dec : Decoder ε δ) (hh : Honest dec) (bs : List Block) (hf : Elf.Spec.Fits bs) :
    parse dec bs ≠ .error .panic ∧ parse dec bs ≠ .error .slice ∧ parse dec bs ≠ .error .fuel := by
  refine ⟨fun h => ?_, fun h => ?_, fun h => ?_⟩ <;>
  · obtain ⟨_, _, _, _, h' | h'⟩ := parse_error_kind dec hh bs hf _ h
    · obtain ⟨_, h'⟩ := h'; cases h'
    · cases h'

/-- what a tiling says about its first instruction: it starts where the bytes start, carries the bytes at
its address and the folded effects of the decoder's lifting, and the rest tiles what follows it -/
theorem tiling_head (dec : Decoder ε δ) (a : Nat) (bytes : List UInt8) (i : Ins δ) (rest : List (Ins δ))
    (h : Tiling dec a bytes (i :: rest)) :
    ∃ r, dec a bytes = .ok r ∧ Valid r ∧ i.addr = a ∧ i.bytes = bytes.take r.byteLen ∧ i.bytes.length = r.byteLen ∧
      i.effects = (r.effects.filterMap id).map (Effect.apply constFold) ∧
      Tiling dec (a + i.bytes.length) (bytes.drop i.bytes.length) rest := by
  cases h with
  | step _ _ r _ _ _ hd hv hle hins ht =>
    have hl := Lemmas.Parse.isIns_length hins hle
    exact ⟨r, hd, hv, hins.addr, hins.bytes, hl, hins.effects, by rw [hl]; exact ht⟩

theorem tiling_nil (dec : Decoder ε δ) (a : Nat) (bytes : List UInt8) (h : Tiling dec a bytes []) : bytes = [] := by
  cases h; rfl

theorem rv_honest (tbl : List Riscv.Entry) : Honest (rvDecoder tbl) := by
  intro a bytes r h
  obtain ⟨hl, h4, _⟩ := Lemmas.Parse.rvDecoder_ok h
  exact hl ▸ h4

/-- parsing fails exactly when some instruction position (`begin + 4k` of some block) holds a
truncated word or a word that RV64IMA does not define -/
theorem parseRv64_error_iff (bs : List Block) (hf : Elf.Spec.Fits bs) :
    (∃ f, parseRv64 bs = .error f) ↔ ∃ b ∈ bs, ∃ k, RvBadAt b.2 k := by
  unfold parseRv64
  rw [parse_error_iff _ (rv_honest _) bs hf]
  constructor
  · rintro ⟨b, hb, pos, hs⟩
    obtain ⟨k, hk, _⟩ := Lemmas.Parse.stuck_rv_bad hs
    exact ⟨b, hb, k, hk⟩
  · rintro ⟨b, hb, k, hk⟩
    obtain ⟨pos, hs⟩ := Lemmas.Parse.bad_rv_stuck k b.1 b.2 hk
    exact ⟨b, hb, pos, hs⟩

/-- the error is reported for such a position `begin + 4k` -/
theorem parseRv64_error_at (bs : List Block) (hf : Elf.Spec.Fits bs) (f : Fail RvErr)
    (h : parseRv64 bs = .error f) :
    ∃ b ∈ bs, ∃ k, RvBadAt b.2 k ∧ ((∃ e, f = .parse (b.1 + 4 * k) e) ∨ f = .invalid (b.1 + 4 * k)) := by
  obtain ⟨b, hb, pos, hs, hk⟩ := parse_error_kind _ (rv_honest _) bs hf f h
  obtain ⟨k, hbad, rfl⟩ := Lemmas.Parse.stuck_rv_bad hs
  exact ⟨b, hb, k, hbad, hk⟩

/-- otherwise the result is the closed-form tiling of every block, all block lengths are multiples
of four and no position is bad -/
theorem parseRv64_ok (bs : List Block) (hf : Elf.Spec.Fits bs) (is : List (Ins (Riscv.Entry × Riscv.Ins)))
    (h : parseRv64 bs = .ok is) :
    is = bs.flatMap (fun b => rvTile rv64Table b.1 b.2) ∧ (∀ b ∈ bs, b.2.length % 4 = 0) ∧
      ∀ b ∈ bs, ∀ k, ¬ RvBadAt b.2 k := by
  obtain ⟨h1, h2⟩ := Lemmas.Parse.tilingAll_rv ((parse_ok_iff _ (rv_honest _) bs hf is).1 h)
  refine ⟨h1, h2, fun b hb k hk => ?_⟩
  obtain ⟨f, hf'⟩ := (parseRv64_error_iff bs hf).2 ⟨b, hb, k, hk⟩
  rw [h] at hf'
  cases hf'

/-- the `k`-th instruction of a block's tiling sits at `begin + 4k`, carries the four bytes of the
image at that address and the constant-folded lifting of exactly these bytes at that address
(`rvIns`); there is one instruction per word.  Under `hall`: every word of the block has an `rvIns` (no theorem
here derives `hall` from a successful parse; `parseRv64_ok` gives the tiling, and no bad position, directly) -/
theorem rvTile_spec (a : Nat) (bytes : List UInt8)
    (hall : ∀ j, 4 * j + 4 ≤ bytes.length → (rvIns rv64Table (a + 4 * j) ((bytes.drop (4 * j)).take 4)).isSome) :
    (rvTile rv64Table a bytes).length = bytes.length / 4 ∧
    ∀ k, 4 * k + 4 ≤ bytes.length →
      (rvTile rv64Table a bytes)[k]? = rvIns rv64Table (a + 4 * k) ((bytes.drop (4 * k)).take 4) :=
  Lemmas.Parse.rvTile_getElem rv64Table a bytes hall

/-- `rvIns`: address, bytes and effects of an instruction are those of its own word -/
theorem rvIns_spec (a : Nat) (w : List UInt8) (i : Ins (Riscv.Entry × Riscv.Ins)) (h : rvIns rv64Table a w = some i) :
    i.addr = a ∧ i.bytes = w ∧ Riscv.parse rv64Table a w = .ok i.details.1 i.details.2 ∧
      i.effects = (i.details.1.validEffects i.details.2).map (Effect.apply constFold) ∧ i.typ = i.details.1.typ := by
  unfold rvIns at h
  cases hp : Riscv.parse rv64Table a w with
  | short => rw [hp] at h; cases h
  | unknown => rw [hp] at h; cases h
  | ok e j =>
    rw [hp] at h
    cases h
    exact ⟨rfl, rfl, rfl, rfl, rfl⟩

/-- a comparable digest of a result: (address, bytes, mnemonic) per instruction, or the error -/
def digest : Except (Fail RvErr) (List (Ins (Riscv.Entry × Riscv.Ins))) →
    List (Nat × List UInt8 × String) ⊕ (Nat × String)
  | .ok is => .inl (is.map fun i => (i.addr, i.bytes, i.details.1.name))
  | .error (.parse a .short) => .inr (a, "short")
  | .error (.parse a .unknown) => .inr (a, "unknown")
  | .error (.invalid a) => .inr (a, "invalid")
  | .error _ => .inr (0, "crash")

/-- `addi x1,x0,1 ; jal x0,0` at 0x1000 is tiled by two instructions at 0x1000 and 0x1004; a
truncated tail and an undefined word are rejected at their positions -/
example :
    digest (parseRv64 [(4096, [0x93, 0x00, 0x10, 0x00, 0x6f, 0x00, 0x00, 0x00])]) =
      .inl [(4096, [0x93, 0x00, 0x10, 0x00], "addi"), (4100, [0x6f, 0x00, 0x00, 0x00], "jal")] ∧
    digest (parseRv64 [(4096, [0x93, 0x00, 0x10, 0x00, 0x6f, 0x00])]) = .inr (4100, "short") ∧
    digest (parseRv64 [(4096, [0x93, 0x00, 0x10, 0x00]), (8192, [0xff, 0xff, 0xff, 0xff])]) = .inr (8192, "unknown") ∧
    RvBadAt [0x93, 0x00, 0x10, 0x00, 0x6f, 0x00] 1 ∧ ¬ RvBadAt [0x93, 0x00, 0x10, 0x00, 0x6f, 0x00] 0 := by
  refine ⟨?_, ?_, ?_, ?_, ?_⟩ <;> decide +kernel

end Mltwist.Props.C21
