import Mltwist.Lemmas.ListingRun
import Mltwist.Lemmas.ListingRef
/-
C23 — the disassembly listing always reflects the current code.

`Model/Listing.lean` follows `internal/consoleui/internal/lines` and the `move`/`bounds` commands of
`internal/consoleui/disassemble/commands.go` (with the repairs F21, F23).  The code model underneath is
abstract: any code operations `ops` that satisfy `Spec.Lawful` (an accepted instruction move permutes
the instructions of that block and keeps the other blocks, an accepted block move permutes the
blocks, `Idx()` is the position afterwards, the entry point is constant; a rejected move yields no new
state) and any well-formed start code.

`Spec.rows code` is the fresh rendering the property speaks of: per block, in current order, the header
`Block <position+1>: 0x<start>` (`%x`: lower case, no padding) and one row per instruction in current order (text
padded to 24 columns, bytes as upper-case hex pairs), single blank rows between blocks and one at the end.
`Spec.shown lines` is the listing apart from the marks (text, block and instruction of every line).
-/
namespace Mltwist.Props.C23
open Mltwist.Listing Mltwist.Listing.Spec
open Mltwist.Lemmas.Listing (Reachable)

/-- a history of `move` commands, accepted or rejected, on arbitrary line numbers -/
def moves (h : List (Nat × Nat)) : List Cmd := h.map fun p => .move p.1 p.2

/-- The property: after any history of accepted and rejected instruction and block moves nothing has
panicked, the listing equals — apart from the marks — the fresh rendering of the current code, and
`Lines.Line` gives the row of every instruction. -/
theorem listing_reflects_code (ops : CodeOps) (hl : Lawful ops) (c : Code) (hwf : WF c)
    (h : List (Nat × Nat)) :
    ∃ st, run ops (St.init c) (moves h) = some st ∧ WF st.code ∧
      shown st.lines = rows st.code ∧
      ∀ (k : Nat) (b : Block), st.code.blocks[k]? = some b →
        ∀ i, st.lines.line b i = some (lineOf st.code k i) := by
  obtain ⟨st, hrun, k⟩ := Lemmas.Listing.run_spec ops hl (St.init c) (Lemmas.Listing.inv_init c hwf)
    (moves h) (fun x hx => by
      simp only [moves, List.mem_map] at hx
      obtain ⟨p, _, rfl⟩ := hx
      trivial)
  exact ⟨st, hrun, k.inv.wf, (Lemmas.Listing.inv_shows st k.inv).1, (Lemmas.Listing.inv_shows st k.inv).2⟩

/-- The same for histories of all commands of the mode (`move`, `bounds`, `up`, `down`, `goto`, `find`,
`entrypoint`) in any order; the number of lines never changes. -/
theorem listing_reflects_code_all (ops : CodeOps) (hl : Lawful ops) (c : Code) (hwf : WF c) (st : St)
    (h : Reachable ops c st) :
    WF st.code ∧ shown st.lines = rows st.code ∧
      (∀ (k : Nat) (b : Block), st.code.blocks[k]? = some b →
        ∀ i, st.lines.line b i = some (lineOf st.code k i)) ∧
      st.lines.lines.length = (rows c).length := by
  have k := Lemmas.Listing.reachable_inv ops hl c hwf st h
  exact ⟨k.inv.wf, (Lemmas.Listing.inv_shows st k.inv).1, (Lemmas.Listing.inv_shows st k.inv).2,
    k.length.trans (Lemmas.Listing.rows_length c hwf).symm⟩

/-- No command panics in a reachable state (line numbers beyond the listing included — F21), and a
command that does not report success — in particular a rejected move — changes nothing but marks:
the shown listing, the code and the cursor stay as they are. -/
theorem rejected_changes_nothing (ops : CodeOps) (hl : Lawful ops) (c : Code) (hwf : WF c) (st : St)
    (h : Reachable ops c st) (cmd : Cmd) (hv : ValidCmd st.lines.lines.length cmd) :
    ∃ s st', step ops st cmd = some (s, st') ∧
      (s ≠ .ok → shown st'.lines = shown st.lines ∧ st'.code = st.code ∧ st'.cursor = st.cursor) := by
  have hinv := (Lemmas.Listing.reachable_inv ops hl c hwf st h).inv
  obtain ⟨s, st', h1, d⟩ := Lemmas.Listing.step_does ops hl st hinv cmd hv
  exact ⟨s, st', h1, fun hs => ⟨(d.unchanged hs).rows, (d.unchanged hs).code, (d.unchanged hs).cursor⟩⟩

/-- The assumptions are satisfiable: the transcription of `internal/deps/moves.go` (`move`, `moveFwd`,
`moveBack`, `checkFromToIndex`, `checkMove` with the bounds stored in the state) is lawful.  This is the
instance the model driver runs against the implementation on every check. -/
theorem refOps_lawful : Lawful refOps := Lemmas.Listing.refOps_lawful

-- non-vacuity, and the pinned behaviour (F21, F23) for the record: `refOps` on small codes

/-- two blocks: `a`,`b` (`b` must stay behind `a`: lower bound 1) at 0x10, and `c` at 0x20 -/
def exCode : Code := ⟨16, [
  ⟨0, 16, 24, [⟨"a", [0x1f, 2], 0, 16, 0, 0⟩, ⟨"b", [3], 1, 20, 1, 1⟩]⟩,
  ⟨1, 32, 36, [⟨"c", [0xab], 0, 32, 0, 0⟩]⟩]⟩

example : rows exCode = [
    ⟨"Block 1: 0x10", some 0, none⟩,
    ⟨"     a                        | 1F 02", some 0, some 0⟩,
    ⟨"     b                        | 03", some 0, some 1⟩,
    ⟨"", none, none⟩,
    ⟨"Block 2: 0x20", some 1, none⟩,
    ⟨"     c                        | AB", some 1, some 0⟩,
    ⟨"", none, none⟩] := by decide +kernel

/-- a history of `move` commands; `pinned`: with the pinned `Lines.Move` (no marks); `none` = panic -/
def runMoves (pinned : Bool) : St → List (Nat × Nat) → Option St
  | st, [] => some st
  | st, (f, t) :: r =>
    if pinned then
      match st.lines.movePinned refOps st.code f t with
      | none => none
      | some m => runMoves pinned { st with lines := m.lines, code := m.code } r
    else
      match step refOps st (.move f t) with
      | none => none
      | some (_, st') => runMoves pinned st' r

/-- what a history leaves behind: start addresses of the blocks in current order, "the listing is the
fresh rendering", the marks -/
def after (pinned : Bool) (cmds : List (Nat × Nat)) : Option (List Nat × Bool × List String) :=
  (runMoves pinned (St.init exCode) cmds).map fun st =>
    (st.code.blocks.map (·.begin), shown st.lines == rows st.code, st.lines.lines.map (·.mark))

-- block move over blocks of different sizes
example : after false [(0, 4)] = some ([32, 16], true, ["<", "", "", "", ">", "", ""]) := by decide +kernel
-- then an instruction move in the block that is now second: rejected (`b` has to stay behind `a`)
example : after false [(0, 4), (5, 4)] = some ([32, 16], true, ["", "", "", "", "!>", "!<", ""]) := by decide +kernel
-- line numbers outside the listing (F21)
example : after false [(7, 0), (0, 999999)] = some ([16, 32], true, ["", "", "", "", "", "", ""]) := by decide +kernel
-- F23, pinned code: the same block move leaves a stale listing ...
example : after true [(0, 4)] = some ([32, 16], false, ["", "", "", "", "", "", ""]) := by decide +kernel
-- ... and on a code of 4 + 1 instructions it panics (slice bounds out of range [:5] with capacity 4)
def exCode41 : Code := ⟨0, [
  ⟨0, 0, 16, [⟨"p", [1], 0, 0, 0, 3⟩, ⟨"q", [2], 1, 4, 0, 3⟩, ⟨"r", [3], 2, 8, 0, 3⟩, ⟨"s", [4], 3, 12, 0, 3⟩]⟩,
  ⟨1, 16, 20, [⟨"t", [5], 0, 16, 0, 0⟩]⟩]⟩
example : (St.init exCode41).lines.movePinned refOps exCode41 0 6 = none := by decide +kernel
example : ((St.init exCode41).lines.move refOps exCode41 0 6).map (fun m => shown m.lines == rows m.code) = some true := by
  decide +kernel

end Mltwist.Props.C23
