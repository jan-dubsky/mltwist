import Mltwist.Lemmas.SparseMissing
/-
C14 — sparse memory behaves like byte-addressed memory.

Model: `Mltwist.Sparse` (`Model/Sparse.lean`): `store`, `load`, `missing`, `blocks` follow
`internal/state/memory/sparse.go` and `cut.go` line by line (after the repairs F01/F02 and F31),
with every Go panic as an explicit `Except.error`.  The interval tree library is a list sorted by
`low` (trusted base).  Vocabulary (`Spec/SparseAbs.lean`, `Spec/Sparse.lean`):

* `Inv t`: the tree list is sorted, its intervals are disjoint, non-empty, end below `2^64`, and each
  is exactly as long as the byte range `[begin, end)` it keeps of its expression, `end ≤ 255`
  (hence `1 ≤ high - low ≤ 255`);
* `abs t : SpecMem`: address ↦ (expression, byte index, width);  `SpecEq`: pointwise "same
  expression, same byte index, index inside both widths" — which implies equal presence and equal
  byte values under every valuation (`specEq_sound`).  Equality of the width component cannot be
  demanded: a cut interval does not remember the width of the store that created it, and byte
  `i < w` of `trunc w v` does not depend on `w`;
* `InDom a w`: `1 ≤ w ≤ 255 ∧ a + w < 2^64` — the non-wrapping ranges whose exclusive end is a
  `uint64`.  (For `a + w = 2^64` the Go code computes `end = 0` and the tree library panics; for
  `w = 0` `Load` answers `false`, or panics in `expr()` ("invalid begin and end") when `a` lies strictly inside a stored
  interval.  Both are outside the property as stated.)

The clause "no operation alters a value previously handed to or returned by the memory" is about
Go slices sharing; values of the model are immutable, so it is not a theorem here: the harness
monitors it at run time (`alias:ok`).
-/
namespace Mltwist.Props.C14
open Mltwist Mltwist.Sparse Mltwist.Spec.Sparse Mltwist.Interval

/-- `SpecEq` is sound: equal presence and equal byte values under every valuation -/
theorem specEq_sound {s s' : SpecMem} (h : SpecEq s s') (x : Nat) :
    (s x = none ↔ s' x = none) ∧ ∀ ρ, byteAt ρ (s x) = byteAt ρ (s' x) :=
  ⟨Lemmas.Sparse.cellEq_none_iff (h x), Lemmas.Sparse.cellEq_byteAt (h x)⟩

/-- the empty memory satisfies the invariant -/
theorem inv_nil : Inv [] := ⟨List.Pairwise.nil, fun _ h => nomatch h⟩

/-- under the invariant every stored interval has between 1 and 255 bytes and is as long as the byte
range it keeps of its expression -/
theorem inv_len (t : Tree) (hinv : Inv t) (kv : KV) (h : kv ∈ t) :
    1 ≤ kv.high - kv.low ∧ kv.high - kv.low ≤ 255 ∧
      kv.high - kv.low = kv.val.end_ - kv.val.begin := by
  have := Lemmas.Sparse.good_lin (hinv.2 kv h)
  omega

/-- `Store` does not panic, preserves the invariant and commutes with the abstraction up to `SpecEq` -/
theorem store_spec (t : Tree) (hinv : Inv t) (a : Nat) (ex : Expr) (w : Nat) (hd : InDom a w) :
    ∃ t', store t a ex w = .ok t' ∧ Inv t' ∧ SpecEq (abs t') ((abs t).store a ex w) :=
  Lemmas.Sparse.store_ok t hinv a ex w hd

/-- `Load` does not panic, succeeds exactly when every byte of `[a, a+w)` is present, and then
returns a `w`-byte expression whose value under every valuation is the little-endian sum of the
stored bytes -/
theorem load_spec (t : Tree) (hinv : Inv t) (a w : Nat) (hd : InDom a w) :
    ∃ r, load t a w = .ok r ∧ (r ≠ none ↔ ∀ i, i < w → abs t (a + i) ≠ none) ∧
      ∀ e, r = some e → e.width = w ∧
        ∀ ρ, e.eval ρ = sumBytes (fun i => byteAt ρ (abs t (a + i))) w :=
  have ⟨r, h1, h2⟩ := Lemmas.Sparse.load_ok t hinv a w hd
  ⟨r, h1, h2.law⟩

/-- `Missing` does not panic and returns, in normal form, exactly the unwritten part of `[a, a+w)` -/
theorem missing_spec (t : Tree) (hinv : Inv t) (a w : Nat) (hd : InDom a w) :
    ∃ m, missing t a w = .ok m ∧ Normal m ∧
      ∀ x : Int, Mem x m ↔ ((a : Int) ≤ x ∧ (x.toNat < a + w ∧ abs t x.toNat = none)) :=
  have ⟨m, h, hm⟩ := Lemmas.Sparse.missing_ok t hinv a w hd
  ⟨m, h, hm.normal, hm.mem⟩

/-- `Blocks` does not panic and returns, in normal form, exactly the written address set -/
theorem blocks_spec (t : Tree) (hinv : Inv t) :
    ∃ m, blocks t = .ok m ∧ Normal m ∧
      ∀ x : Int, Mem x m ↔ ((0 : Int) ≤ x ∧ abs t x.toNat ≠ none) :=
  have ⟨m, h, hm⟩ := Lemmas.Sparse.blocks_ok t hinv
  ⟨m, h, hm.normal, hm.mem⟩

/-- none of the panics of `cut.go` ("bug: expr is not long enough" twice, "invalid begin and end"),
of the tree library or of `interval.New` is reachable from a state satisfying `Inv` -/
theorem no_panic (t : Tree) (hinv : Inv t) (a w : Nat) (hd : InDom a w) (ex : Expr) (p : Panic) :
    store t a ex w ≠ .error p ∧ load t a w ≠ .error p ∧ missing t a w ≠ .error p ∧
      blocks t ≠ .error p := by
  obtain ⟨_, h1, _⟩ := store_spec t hinv a ex w hd
  obtain ⟨_, h2, _⟩ := load_spec t hinv a w hd
  obtain ⟨_, h3, _⟩ := missing_spec t hinv a w hd
  obtain ⟨_, h4, _⟩ := blocks_spec t hinv
  rw [h1, h2, h3, h4]
  exact ⟨nofun, nofun, nofun, nofun⟩

/-- any history of in-domain stores (most recent first) runs without panic, ends in a state that
satisfies the invariant and denotes the byte map replayed by the specification -/
theorem history_spec (h : List StoreReq) (hd : ∀ r ∈ h, InDom r.addr r.w) :
    ∃ t, implOf h = .ok t ∧ Inv t ∧ SpecEq (abs t) (specOf h) := by
  induction h with
  | nil => exact ⟨[], rfl, inv_nil, fun _ => trivial⟩
  | cons r rs ih =>
    obtain ⟨t, h1, h2, h3⟩ := ih fun r' h' => hd r' (List.mem_cons_of_mem _ h')
    obtain ⟨t', h4, h5, h6⟩ := store_spec t h2 r.addr r.ex r.w (hd r List.mem_cons_self)
    refine ⟨t', ?_, h5, Lemmas.Sparse.SpecEq.trans h6 (Lemmas.Sparse.SpecEq.store h3 _ _ _)⟩
    unfold implOf
    rw [h1]
    exact h4

/-- the read operations on any state whose byte map is `SpecEq` to `s` are described by `s`; the history theorems
below are the case `s = specOf h` -/
theorem load_of_specEq (t : Tree) (hinv : Inv t) {s : SpecMem} (hs : SpecEq (abs t) s) (a w : Nat)
    (hw : InDom a w) :
    ∃ r, load t a w = .ok r ∧ (r ≠ none ↔ ∀ i, i < w → s (a + i) ≠ none) ∧
      ∀ e, r = some e → e.width = w ∧ ∀ ρ, e.eval ρ = loadVal ρ s a w := by
  obtain ⟨r, h4, h5, h6⟩ := load_spec t hinv a w hw
  refine ⟨r, h4, ?_, fun e he => ⟨(h6 e he).1, fun ρ => ?_⟩⟩
  · simp only [h5, Ne, (specEq_sound hs _).1]
  · rw [(h6 e he).2 ρ]
    exact Lemmas.Sparse.SpecEq.loadVal hs ρ a w

theorem missing_of_specEq (t : Tree) (hinv : Inv t) {s : SpecMem} (hs : SpecEq (abs t) s) (a w : Nat)
    (hw : InDom a w) :
    ∃ m, missing t a w = .ok m ∧ Normal m ∧
      ∀ x : Int, Mem x m ↔ ((a : Int) ≤ x ∧ (x.toNat < a + w ∧ s x.toNat = none)) := by
  obtain ⟨m, h4, h5, h6⟩ := missing_spec t hinv a w hw
  exact ⟨m, h4, h5, fun x => by rw [h6 x, (specEq_sound hs x.toNat).1]⟩

theorem blocks_of_specEq (t : Tree) (hinv : Inv t) {s : SpecMem} (hs : SpecEq (abs t) s) :
    ∃ m, blocks t = .ok m ∧ Normal m ∧ ∀ x : Int, Mem x m ↔ ((0 : Int) ≤ x ∧ s x.toNat ≠ none) := by
  obtain ⟨m, h4, h5, h6⟩ := blocks_spec t hinv
  exact ⟨m, h4, h5, fun x => by rw [h6 x, Ne, (specEq_sound hs x.toNat).1]⟩

/-- reading after any history: success iff every byte was written, width `w`, and the value is the
little-endian sum of the most recently written bytes (each written value zero-extended or truncated
to its write width: `byteVal`) -/
theorem history_load (h : List StoreReq) (hd : ∀ r ∈ h, InDom r.addr r.w) (a w : Nat)
    (hw : InDom a w) :
    ∃ t r, implOf h = .ok t ∧ load t a w = .ok r ∧
      (r ≠ none ↔ ∀ i, i < w → specOf h (a + i) ≠ none) ∧
      ∀ e, r = some e → e.width = w ∧ ∀ ρ, e.eval ρ = loadVal ρ (specOf h) a w := by
  obtain ⟨t, h1, h2, h3⟩ := history_spec h hd
  obtain ⟨r, h4⟩ := load_of_specEq t h2 h3 a w hw
  exact ⟨t, r, h1, h4⟩

/-- `Missing` after any history: the normal form of the never-written part of the range -/
theorem history_missing (h : List StoreReq) (hd : ∀ r ∈ h, InDom r.addr r.w) (a w : Nat)
    (hw : InDom a w) :
    ∃ t m, implOf h = .ok t ∧ missing t a w = .ok m ∧ Normal m ∧
      ∀ x : Int, Mem x m ↔ ((a : Int) ≤ x ∧ (x.toNat < a + w ∧ specOf h x.toNat = none)) := by
  obtain ⟨t, h1, h2, h3⟩ := history_spec h hd
  obtain ⟨m, h4⟩ := missing_of_specEq t h2 h3 a w hw
  exact ⟨t, m, h1, h4⟩

/-- `Blocks` after any history: the normal form of the set of written addresses -/
theorem history_blocks (h : List StoreReq) (hd : ∀ r ∈ h, InDom r.addr r.w) :
    ∃ t m, implOf h = .ok t ∧ blocks t = .ok m ∧ Normal m ∧
      ∀ x : Int, Mem x m ↔ ((0 : Int) ≤ x ∧ specOf h x.toNat ≠ none) := by
  obtain ⟨t, h1, h2, h3⟩ := history_spec h hd
  obtain ⟨m, h4⟩ := blocks_of_specEq t h2 h3
  exact ⟨t, m, h1, h4⟩

/-- the F01 witness: 8 bytes at 0, read 4 bytes at 1 → bytes 1..4 of the value -/
example :
    (implOf [⟨0, .const [1, 2, 3, 4, 5, 6, 7, 8], 8⟩]).toOption.map (fun t => (load t 1 4).toOption)
      = some (some (some (.binary .add
          (.binary .rsh (.const [1, 2, 3, 4, 5, 6, 7, 8]) (.const [8, 0]) 8) (.const [0]) 4))) := by
  decide

/-- a store splitting an earlier one leaves three intervals -/
example :
    (implOf [⟨2, .regLoad "x" 2, 2⟩, ⟨0, .regLoad "y" 8, 8⟩]).toOption.map
        (fun t => t.map fun kv => (kv.low, kv.high, kv.val.begin, kv.val.end_))
      = some [(0, 2, 0, 2), (2, 4, 0, 2), (4, 8, 4, 8)] := by
  decide

/-- … `Missing`/`Blocks` on that state, and a load across the end of the written part fails -/
example :
    (implOf [⟨2, .regLoad "x" 2, 2⟩, ⟨0, .regLoad "y" 8, 8⟩]).toOption.map
        (fun t => ((missing t 6 4).toOption, (blocks t).toOption))
      = some (some [(8, 10)], some [(0, 8)]) := by
  decide

example :
    (implOf [⟨2, .regLoad "x" 2, 2⟩, ⟨0, .regLoad "y" 8, 8⟩]).toOption.map
        (fun t => ((load t 6 4).toOption.map Option.isSome, (load t 1 6).toOption.map Option.isSome))
      = some (some false, some true) := by
  decide

/-- the F31 witness: a 1-byte value stored 40 bytes wide reads as 0 at byte 32 -/
example :
    (implOf [⟨0, .const [0xab], 40⟩]).toOption.map (fun t => (load t 32 1).toOption)
      = some (some (some (.const [0]))) := by
  decide

/-- the library panic at the top of the address space is outside `InDom` -/
example : (match store [] (2 ^ 64 - 8) (.const [1]) 8 with | .error .lowGtHigh => true | _ => false) = true := by
  decide

end Mltwist.Props.C14
