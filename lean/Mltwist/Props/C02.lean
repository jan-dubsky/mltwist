import Mltwist.Lemmas.RiscvDecode
/-
C02 — the decoder accepts exactly the supported RISC-V instruction set.

`instructionSet xlen m a` is the REGENERATED table (from /repo on every run); `Spec.Rv.rows` /
`Spec.Rv.decode` are the reference encodings (`Spec/Riscv.lean`).  `parse` specifies the decoder as
"the entry whose pattern matches"; `parseM` is the literal model that goes through the opcode
matcher of C19; `parseM_eq_parse` ties them (and shows the `bug: matcher creation failed` panic of
`NewParser` cannot happen for any configuration).  `Cfg xlen` (`Lemmas/RiscvFields.lean`) says that `xlen`
is 32 or 64.
-/
namespace Mltwist.Props.C02
open Mltwist Mltwist.Riscv Mltwist.Lemmas.RiscvDecode

/-- the table and the reference contain the same (mnemonic, match, mask) rows, for both variants
and every extension subset -/
theorem table_eq_spec (xlen : Nat) (hx : Cfg xlen) (m a : Bool) (r : String × Nat × Nat) :
    r ∈ (instructionSet xlen m a).map (fun e => (e.name, e.wordMatch, e.wordMask)) ↔
    r ∈ (Spec.Rv.rows xlen m a).map (fun e => (e.name, e.mtch, e.mask)) :=
  (rowFacts xlen hx m a).rows r

/-- inputs shorter than four bytes are rejected -/
theorem parse_short (tbl : List Entry) (addr : Nat) (bs : List UInt8) (h : bs.length < 4) :
    parse tbl addr bs = .short :=
  parse_of_short tbl addr h

/-- a word is rejected exactly when the specification defines no instruction of the configuration -/
theorem parse_unknown_iff (xlen : Nat) (hx : Cfg xlen) (m a : Bool) (addr : Nat) (bs : List UInt8)
    (h : 4 ≤ bs.length) :
    parse (instructionSet xlen m a) addr bs = .unknown ↔ Spec.Rv.decode xlen m a (wordOf bs) = none :=
  parse_unknown_gen (rowFacts xlen hx m a) addr bs h

/-- … and accepted, with the right name, exactly when it defines one -/
theorem parse_ok_iff (xlen : Nat) (hx : Cfg xlen) (m a : Bool) (addr : Nat) (bs : List UInt8)
    (h : 4 ≤ bs.length) (n : String) :
    (∃ e, e ∈ instructionSet xlen m a ∧ e.name = n ∧
        parse (instructionSet xlen m a) addr bs = .ok e ⟨addr, wordOf bs⟩) ↔
      Spec.Rv.decode xlen m a (wordOf bs) = some n :=
  parse_ok_gen (rowFacts xlen hx m a) addr bs h n

/-- bytes after the first four never influence decoding -/
theorem parse_trailing (xlen : Nat) (hx : Cfg xlen) (m a : Bool) (addr : Nat) (bs : List UInt8)
    (h : 4 ≤ bs.length) :
    parse (instructionSet xlen m a) addr bs = parse (instructionSet xlen m a) addr (bs.take 4) :=
  parse_trailing_gen _ (rowFacts xlen hx m a).shaped addr bs h

/-- the literal model (through the C19 matcher) agrees with the specification-style decoder -/
theorem parseM_eq_parse (xlen : Nat) (hx : Cfg xlen) (m a : Bool) (addr : Nat) (bs : List UInt8) :
    parseM (instructionSet xlen m a) addr bs = some (parse (instructionSet xlen m a) addr bs) :=
  parseM_gen (rowFacts xlen hx m a) addr bs

/-- non-vacuity: `addi x1, x0, 1` decodes in RV64I, `mul` needs M -/
example : Spec.Rv.decode 64 false false 0x00100093 = some "addi"
    ∧ Spec.Rv.decode 64 false false 0x02000033 = none
    ∧ Spec.Rv.decode 64 true false 0x02000033 = some "mul" := by decide

end Mltwist.Props.C02
