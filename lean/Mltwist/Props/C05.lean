import Mltwist.Lemmas.DepsCode
import Mltwist.Lemmas.DepsOrig
import Mltwist.Lemmas.DepsNew
/-
C05 — accepted instruction reorderings preserve block behaviour.

Behaviour of a block (`Spec/Deps.lean`): `runSeq l ρ` executes the instructions of the current
order at their CURRENT addresses with the rule of the emulator — all effects of an instruction are
evaluated in its pre-state and applied in order (`Spec.Lift.Env.applyEffects`), a write of the
instruction pointer is a jump, otherwise execution falls through to `addr + len` (`nextIp`) — and
stops as soon as the instruction pointer leaves the straight-line order; the result is the final
valuation of all registers and memories and the final instruction pointer.  `Block.toS` is the
specification's view of a block of the model (`Lemmas/DepsView.lean`).

The proof has four steps; the letters are used below and, as "C05 (a)" … "C05 (d)", in
`Lemmas/DepsPaths.lean`, `DepsExec.lean`, `DepsOrig.lean`: (a) edge soundness — two conflicting
instructions are joined by a dependency path; (b) frame — evaluation only looks at the footprint;
(c) two non-conflicting instructions commute; (d) an accepted move passes only instructions that
are not related to the moved one; more generally, every state with the bookkeeping invariant keeps
the order of the edges, hence by (a) of every conflicting pair, so its order is reached from the
original one by commuting adjacent swaps (`Orig.runSeq_eq`), and the invariant holds after every
history.
Trusted, outside the theorems: the execution
semantics is the IR-level reference semantics, not the Go emulator (tied to it by C03/C04), and
an instruction cannot read the instruction-pointer key (`expr.NewRegLoad(expr.IPKey)` panics: the
key is write-only), so "evaluated at another address" can only matter through the fall-through
address and through instruction-pointer writes, both of which are modelled.

The model contains the repairs F07 (register output dependencies form a chain) and F08 (an
instruction that writes the instruction pointer is pinned); the pinned tree violates (a) and (d).
-/
namespace Mltwist.Props.C05
open Mltwist Mltwist.Deps Mltwist.Deps.Spec Mltwist.Lemmas.Deps Mltwist.Spec.Lift

abbrev Raw := Nat × Nat × Nat × List Effect

def WF (raw : List Raw) : Prop := BasicBlock.Spec.WF (toBB raw)

/-- (a) edge soundness: two instructions `i < j` of a block (original order) that conflict are
joined by a dependency path `i → … → j` in the edge set of the finders -/
theorem edge_soundness (seq : List Ins) (hid : IdsArePositions seq) (E : Edges)
    (h : findAllDeps seq = some E) (i j : Nat) (hij : i < j) (hj : j < seq.length)
    (hc : Conflict (seq[i].toS seq.length) (seq[j].toS seq.length)) : Path E i j :=
  conflict_path hid h hij (List.getElem?_eq_getElem (Nat.lt_trans hij hj)) (List.getElem?_eq_getElem hj)
    ((conflict_toS_iff _ _ _).1 hc)

/-- (a), used with it: in every state with the bookkeeping invariant, dependency paths go forward -/
theorem paths_forward (b : Block) (hb : BInv b) (x y : Nat) (h : Path b.edges x y) :
    (idsOf b.seq).idxOf x < (idsOf b.seq).idxOf y := path_fwd hb.fwd h

/-- (b) frame: evaluation only looks at the registers and memories the expression names -/
theorem frame_eval (e : Expr) (ρ ρ' : Env) (hr : ∀ k ∈ regReads e, ρ.reg k = ρ'.reg k)
    (hm : ∀ k ∈ memReads e, ρ.mem k = ρ'.mem k) : e.eval ρ = e.eval ρ' := eval_congr e ρ ρ' hr hm

/-- (b) frame: an effect list leaves alone the registers … -/
theorem frame_writes_reg (ρ : Env) (efs : List Effect) (k : String) (h : k ∉ efs.flatMap effRegWrites) :
    (Env.applyEffects ρ efs).reg k = ρ.reg k := foldl_reg_of_not_mem ρ efs k ρ h

/-- … and the memories it does not write -/
theorem frame_writes_mem (ρ : Env) (efs : List Effect) (k : String) (h : k ∉ efs.flatMap effMemWrites) :
    (Env.applyEffects ρ efs).mem k = ρ.mem k := foldl_mem_of_not_mem ρ efs k ρ h

/-- (c) two non-conflicting instructions commute on valuations -/
theorem commute (x y : SIns) (h : ¬ Conflict x y) (ρ : Env) :
    Env.applyEffects (Env.applyEffects ρ x.effects) y.effects =
      Env.applyEffects (Env.applyEffects ρ y.effects) x.effects := applyEffects_comm x y h ρ

/-- … and, laid out contiguously, as programs (up to the fall-through instruction pointer, which
is the same after both of them) -/
theorem commute_run (P S : List SIns) (x y : SIns) (h : ¬ Conflict x y) (a : Nat)
    (htop : a + bytes (P ++ x :: y :: S) ≤ 2 ^ 64) (ρ : Env) (hpos : ∀ i ∈ P ++ x :: y :: S, 0 < i.len) :
    runFrom (layout a (P ++ y :: x :: S)) ρ a = runFrom (layout a (P ++ x :: y :: S)) ρ a :=
  runFrom_swap P S x y (.inl h) a (by rw [bytes_append, bytes_cons, bytes_cons] at htop; omega)
    (hpos x (by simp)) (hpos y (by simp)) ρ a

/-- (d) an accepted forward move passes only instructions the moved one does not conflict with -/
theorem move_passes_fwd (b0 b : Block) (ho : Orig b0 b) (hb : BInv b) (f t : Nat) (hft : f < t)
    (ht : t < b.seq.length) (b' : Block) (hm : b.move (f : Int) (t : Int) = .ok b')
    (k : Nat) (hfk : f < k) (hkt : k ≤ t) :
    ¬ Conflict ((b.seq[f]'(by omega)).toS b.seq.length) ((b.seq[k]'(by omega)).toS b.seq.length) := by
  exact ho.move_passes_fwd hb (by omega) (by omega) hfk hkt hm

/-- (d) an accepted backward move passes only instructions that do not conflict with the moved one -/
theorem move_passes_back (b0 b : Block) (ho : Orig b0 b) (hb : BInv b) (f t : Nat) (htf : t < f)
    (hf : f < b.seq.length) (b' : Block) (hm : b.move (f : Int) (t : Int) = .ok b')
    (k : Nat) (htk : t ≤ k) (hkf : k < f) :
    ¬ Conflict ((b.seq[k]'(by omega)).toS b.seq.length) (b.seq[f].toS b.seq.length) := by
  exact ho.move_passes_back hb hf (by omega) htk hkf hm

/-- (d) an accepted move does not change the behaviour of its block -/
theorem move_preserves_behaviour (b0 b b' : Block) (ho : Orig b0 b) (hb : BInv b) (f t : Int)
    (hm : b.move f t = .ok b') (ρ : Env) : runSeq b'.toS ρ = runSeq b.toS ρ := by
  have hM := hb.move_ok hm
  exact ho.runSeq_eq hM.same hb hM.inv ρ

/-- C05: for every well-formed code, every history of operations (accepted and rejected
instruction moves, block moves, lookups) and every initial valuation, running the current order of
any block ends in the same registers, memory and control transfer as running the original block -/
theorem reorderings_preserve_behaviour (entry : Nat) (raw : List Raw) (hwf : WF raw) (c0 : Code)
    (h : newCode entry raw = .ok c0) (ops : List Op) (p : Nat) (hp0 : p < c0.store.length)
    (hp : p < (c0.run ops).store.length) (ρ : Env) :
    SameBehaviour (runSeq ((c0.run ops).store[p]).toS ρ) (runSeq (c0.store[p]).toS ρ) := by
  have hnew := newCode_inv entry raw hwf c0 h
  obtain ⟨hinv, hsame⟩ := hnew.inv.run ops
  -- the invariant holds after the history, and the block object is still the one of `c0`
  rw [(hnew.orig _ (List.getElem_mem hp0)).runSeq_eq (hsame.blocks p hp0 hp)
    (hnew.inv.blocks _ (List.getElem_mem hp0)) (hinv.blocks _ (List.getElem_mem hp)) ρ]
  exact ⟨fun _ => rfl, fun _ _ => rfl, rfl⟩

/-- reordering blocks never changes any instruction's address or behaviour: a block move keeps
every block object of `blocksByAddr` with its addresses, instructions (current addresses
included) and edges -/
theorem block_moves_change_nothing (c c' : Code) (hc : CInv c) (f t : Int) (h : c.move f t = .ok c') :
    c'.store.map frozen = c.store.map frozen ∧
    ∀ p (hp : p < c.store.length) (hp' : p < c'.store.length) (ρ : Env),
      runSeq (c'.store[p]).toS ρ = runSeq (c.store[p]).toS ρ := by
  obtain ⟨-, rfl⟩ := (hc.move_iff f t c').1 h
  refine ⟨reorder_frozen c _, fun p hp hp' ρ => ?_⟩
  rw [reorder_getElem c _ p hp' hp]
  rfl

/-- `x1 := 1 ; x2 := 2 ; x3 := x1`: `Move(1, 0)` and then `Move(2, 1)` are accepted (the order
becomes `x2 := 2 ; x1 := 1 ; x3 := x1` and stays that way: `x3 := x1` cannot pass `x1 := 1`) -/
def exampleRaw : List Raw :=
  [(0, 100, 4, [.regStore (.const [1]) "x1" 1]), (0, 104, 2, [.regStore (.const [2]) "x2" 1]),
   (0, 106, 4, [.regStore (.regLoad "x1" 1) "x3" 1])]

def exampleCode : Code := (newCode 100 exampleRaw).toOption.getD default

example : BasicBlock.Spec.WF (toBB exampleRaw) ∧
    (exampleCode.run [.mv 0 1 0]).store.map (·.seq.map fun i => (i.origAddr, i.currAddr)) =
      [[(104, 100), (100, 102), (106, 106)]] ∧
    (exampleCode.run [.mv 0 1 0, .mv 0 2 1]).store.map (·.seq.map fun i => (i.origAddr, i.currAddr)) =
      [[(104, 100), (100, 102), (106, 106)]] := by decide +kernel

end Mltwist.Props.C05
