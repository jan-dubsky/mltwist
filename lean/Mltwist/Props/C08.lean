import Mltwist.Lemmas.BasicBlock
/-
C08 — basic blocks partition the code exactly where control flow requires.

Model: `BasicBlock.parse entry ins` (`basicblock.Parse` with `sort.Slice`, `splitByAddress`,
`splitByJumps`, `splitByJumpTargets`, `blocks.split`, binary searches, insertion shift) and
`BasicBlock.jumps` (`deps.jumps`); `newCode` = `deps.NewCode` + `Code.Blocks()`.
Spec (`Spec/BasicBlock.lean`): `realTargets`, `WF`, `Fails`, `Cut`, `blocks`, `IsPartition`.

Well-formedness `WF ins` (decidable): every instruction has positive length, `addr + len ≤ 2^64`
(an instruction may end exactly at the top of the address space), no two instructions overlap
(hence pairwise distinct addresses).  The absence of panics is proved for ALL instruction lists.
Outside `WF` (duplicate addresses, overlaps, zero lengths, wrap-around) nothing else is
claimed; there the model is tied to the implementation by the differential check only.

The model follows the code with two repairs of the pinned tree: F09 (`splitByAddress` on an
empty sequence) and F35 (`blocks.split`/`contains` compare with the last byte of a block, so
that a block ending exactly at `2^64` is found).
-/
namespace Mltwist.Props.C08
open Mltwist Mltwist.BasicBlock Mltwist.BasicBlock.Spec

/-- `deps.jumps`: the possibilities of every value stored to the instruction pointer, constant
folded, except the constants denoting the address of the next instruction -/
theorem jumps_spec (addr len : Nat) (efs : List Effect) :
    jumps addr len efs = realTargets addr len efs := Lemmas.BasicBlock.jumps_spec addr len efs

/-- the constants `splitByJumpTargets` splits at are the constants that fit 64 bits -/
theorem constTarget_spec (e : Expr) : constTarget e = constAddr e := Lemmas.BasicBlock.constTarget_eq e

theorem sortIns_perm (l : List Ins) : (sortIns l).Perm l := Lemmas.BasicBlock.sortIns_perm l

theorem sortIns_sorted (l : List Ins) : (sortIns l).Pairwise fun a b => a.addr ≤ b.addr :=
  Lemmas.BasicBlock.sortIns_sorted l

/-- on well-formed code the sort of the model is the sort of the specification -/
theorem sortIns_eq (ins : List Ins) (h : WF ins) : sortIns ins = sortByAddr ins :=
  Lemmas.BasicBlock.sortIns_eq_sortByAddr ins h

theorem parse_never_panics (entry : Nat) (ins : List Ins) : parse entry ins ≠ .error .panic :=
  (Lemmas.BasicBlock.parse_nopanic entry ins).1

/-- no block is ever empty (all instruction lists) -/
theorem parse_blocks_nonempty (entry : Nat) (ins : List Ins) (bs : List (List Ins))
    (h : parse entry ins = .ok bs) : ∀ b ∈ bs, b ≠ [] :=
  (Lemmas.BasicBlock.parse_nopanic entry ins).2 bs h

/-- `NewCode` + `Blocks()` is `Parse` on the instructions with their `jumps` -/
theorem newCode_eq (entry : Nat) (raw : List (Nat × Nat × List Effect)) :
    newCode entry raw = parse entry (raw.map fun (a, l, efs) => mkIns a l efs) := by
  simp only [newCode, bind, Except.bind]
  cases hp : parse entry (raw.map fun (a, l, efs) => mkIns a l efs) with
  | error e => rfl
  | ok bs =>
    simp [Lemmas.BasicBlock.any_isEmpty_eq_false (parse_blocks_nonempty entry _ bs hp), pure, Except.pure]

theorem newCode_never_panics (entry : Nat) (raw : List (Nat × Nat × List Effect)) :
    newCode entry raw ≠ .error .panic := by
  rw [newCode_eq]; exact parse_never_panics _ _

/-- building fails exactly when the entry point or a constant 64-bit real jump target is not the
start of an instruction -/
theorem parse_fails_iff (entry : Nat) (ins : List Ins) (h : WF ins) :
    (∃ f, parse entry ins = .error f) ↔ Fails entry ins := by
  cases hp : parse entry ins with
  | ok bs => exact iff_of_false (fun ⟨_, hf⟩ => nomatch hf) ((Lemmas.BasicBlock.parse_ok_iff entry ins h bs).1 hp).1
  | error f =>
    refine iff_of_true ⟨f, rfl⟩ (Decidable.not_not.1 fun hF => ?_)
    have := (Lemmas.BasicBlock.parse_ok_iff entry ins h _).2 ⟨hF, rfl⟩
    rw [hp] at this
    cases this

/-- which stage reports the error: a bad jump target is found first -/
theorem parse_error_stage (entry : Nat) (ins : List Ins) (h : WF ins) :
    ((∃ t ∈ constTargets ins, t ∉ starts ins) → ∃ c, parse entry ins = .error (.jumpTarget c)) ∧
    ((∀ t ∈ constTargets ins, t ∈ starts ins) → entry ∉ starts ins →
      ∃ c, parse entry ins = .error (.entry c)) :=
  ⟨(Lemmas.BasicBlock.parse_wf entry ins h).1, fun ha => ((Lemmas.BasicBlock.parse_wf entry ins h).2 ha).1⟩

/-- otherwise the result is the specified partition of the address-sorted instructions -/
theorem parse_ok (entry : Nat) (ins : List Ins) (h : WF ins) (hf : ¬ Fails entry ins) :
    parse entry ins = .ok (blocks entry ins) :=
  (Lemmas.BasicBlock.parse_ok_iff entry ins h _).2 ⟨hf, rfl⟩

/-- the specified blocks: concatenation = sorted instructions, no empty block, and a boundary
between `sorted[k]` and `sorted[k+1]` exactly when `Cut` holds -/
theorem blocks_isPartition (entry : Nat) (ins : List Ins) :
    IsPartition (Cut entry ins) (sortByAddr ins) (blocks entry ins) :=
  Lemmas.BasicBlock.groups_isPartition (Cut entry ins) (sortByAddr ins)

/-- this characterisation determines the partition -/
theorem isPartition_unique (cut : Ins → Ins → Prop) (l : List Ins) (bs bs' : List (List Ins))
    (h : IsPartition cut l bs) (h' : IsPartition cut l bs') : bs = bs' := by
  classical
  exact (Lemmas.BasicBlock.eq_groups_of_isPartition cut l bs h).trans
    (Lemmas.BasicBlock.eq_groups_of_isPartition cut l bs' h').symm

theorem blocks_contiguous (entry : Nat) (ins : List Ins) (h : WF ins) :
    ∀ b ∈ blocks entry ins, Contiguous b :=
  (Lemmas.BasicBlock.ginv_blocks entry ins h).1.contiguous

/-- the property: whenever `Parse` succeeds on well-formed code, its blocks concatenate to the
address-sorted instructions, are non-empty and contiguous, and end exactly after each instruction
with a real jump target, at address gaps, before constant jump targets and before the entry point -/
theorem parse_partition (entry : Nat) (ins : List Ins) (h : WF ins) (bs : List (List Ins))
    (hp : parse entry ins = .ok bs) :
    IsPartition (Cut entry ins) (sortByAddr ins) bs ∧ ∀ b ∈ bs, Contiguous b := by
  obtain ⟨_, rfl⟩ := (Lemmas.BasicBlock.parse_ok_iff entry ins h bs).1 hp
  exact ⟨blocks_isPartition entry ins, blocks_contiguous entry ins h⟩

/-- equality of results is decidable (for the examples below) -/
instance decEqResult {α ε : Type} [DecidableEq α] [DecidableEq ε] : DecidableEq (Except ε α) :=
  fun a b =>
    match a, b with
    | .ok x, .ok y => if h : x = y then isTrue (by rw [h]) else isFalse (by intro e; cases e; exact h rfl)
    | .error x, .error y =>
      if h : x = y then isTrue (by rw [h]) else isFalse (by intro e; cases e; exact h rfl)
    | .ok _, .error _ => isFalse (by intro e; cases e)
    | .error _, .ok _ => isFalse (by intro e; cases e)

/-- a backward jump out of 80 (the block ends there), a gap before 96, the entry point 76 -/
def exampleCode : List Ins :=
  [⟨80, 4, [.const [72, 0, 0, 0, 0, 0, 0, 0]]⟩, ⟨72, 4, []⟩, ⟨76, 4, []⟩, ⟨96, 4, []⟩, ⟨84, 2, []⟩]

example : WF exampleCode ∧ ¬ Fails 76 exampleCode ∧
    parse 76 exampleCode =
      .ok [[⟨72, 4, []⟩], [⟨76, 4, []⟩, ⟨80, 4, [.const [72, 0, 0, 0, 0, 0, 0, 0]]⟩],
        [⟨84, 2, []⟩], [⟨96, 4, []⟩]] := by decide

/-- failures: entry point inside an instruction, jump target in a gap -/
example : parse 77 [⟨72, 4, []⟩, ⟨76, 4, []⟩] = .error (.entry .notFound) ∧
    parse 72 [⟨72, 4, [.const [80]]⟩, ⟨76, 4, []⟩, ⟨96, 4, []⟩] = .error (.jumpTarget .noBlock) ∧
    Fails 77 [⟨72, 4, []⟩, ⟨76, 4, []⟩] := by decide

/-- F09: the empty code is rejected (the pinned `splitByAddress` panics);
F35: code ending exactly at `2^64` can be built -/
example : parse 0 [] = .error (.entry .noBlock) ∧
    parse 18446744073709551612 [⟨18446744073709551612, 4, []⟩] = .ok [[⟨18446744073709551612, 4, []⟩]] ∧
    WF [⟨18446744073709551612, 4, []⟩] := by decide

/-- `jumps`: a conditional branch whose fall-through is the next instruction keeps only the target;
a constant that does not fit 64 bits stays a real target but is not split at -/
example : jumps 80 4 [.regStore (.less (.regLoad "x1" 8) (.regLoad "x2" 8)
      (.const [72, 0, 0, 0, 0, 0, 0, 0]) (.const [84, 0, 0, 0, 0, 0, 0, 0]) 8) "#r:w:ip" 8] =
      [.const [72, 0, 0, 0, 0, 0, 0, 0]] ∧
    constTarget (.const [72, 0, 0, 0, 0, 0, 0, 0, 1]) = none := by decide

end Mltwist.Props.C08
