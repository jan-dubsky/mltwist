import Mltwist.Lemmas.DepsCode
import Mltwist.Lemmas.DepsOrig
import Mltwist.Lemmas.DepsNew
import Mltwist.Lemmas.DepsFootprint
/-
C06 — independent adjacent instructions may always be swapped.

`Conflict x y` (`Spec/Deps.lean`) for an instruction `x` standing before `y`: the clause list of
the property — they share a register with at least one of them writing it (RAW / WAW / WAR, the
instruction-pointer key included), both access one memory space with at least one store, either is
a system call or CPU-state change, a memory-ordering instruction is paired with a memory access or
a memory-ordering instruction, `y` is the block's terminating jump — plus, because of the F08
repair: one of them writes the instruction pointer (every instruction implicitly reads and
advances the instruction pointer, so an explicit writer shares it with every other instruction).
`Independent` is the negation.  Footprints are read off the effects by structural recursion
(independently of the model's `findAll`-based `inputRegs` …).

* `no_spurious_edge`: every edge the finders produce joins two conflicting instructions;
* `independent_swap`: in every state reachable by any history from a well-formed code, two adjacent
  instructions that are independent can be swapped (`Move(i, i+1)` succeeds).
-/
namespace Mltwist.Props.C06
open Mltwist Mltwist.Deps Mltwist.Deps.Spec Mltwist.Lemmas.Deps

abbrev Raw := Nat × Nat × Nat × List Effect

def WF (raw : List Raw) : Prop := BasicBlock.Spec.WF (toBB raw)

/-- the finders never fail on a non-empty block -/
theorem finders_total (seq : List Ins) (hne : seq ≠ []) : ∃ E, findAllDeps seq = some E :=
  findAllDeps_isSome seq hne

/-- every edge of each finder that `findAllDeps` calls goes forward and joins two conflicting instructions -/
theorem no_spurious_edge (seq : List Ins) (hid : IdsArePositions seq) (E : Edges)
    (h : findAllDeps seq = some E) (e : Nat × Nat) (he : e ∈ E) :
    ∃ (h1 : e.1 < seq.length) (h2 : e.2 < seq.length), e.1 < e.2 ∧
      Conflict (seq[e.1].toS seq.length) (seq[e.2].toS seq.length) := by
  obtain ⟨h1, h2⟩ := edges_forward seq hid E h e he
  exact ⟨by omega, h2, h1, edge_conflict seq hid E h e he (by omega) h2⟩

/-- the model's footprints (`inputRegs` … via `FindAll`, Go maps as duplicate-free lists) are the
specification's footprints -/
theorem footprints (i : Ins) (n : Nat) (k : String) :
    (k ∈ i.inRegs ↔ k ∈ (i.toS n).regIn) ∧ (k ∈ i.outRegs ↔ k ∈ (i.toS n).regOut) ∧
    (k ∈ i.loads ↔ k ∈ (i.toS n).memIn) ∧ (k ∈ i.stores ↔ k ∈ (i.toS n).memOut) :=
  ⟨mem_inRegs_toS n i k, mem_outRegs_toS n i k, mem_loads_toS n i k, mem_stores_toS n i k⟩

/-- in a block `b` that stems from the freshly analysed block `b0` (`Orig`: same edges, same
instructions up to order) and satisfies the bookkeeping invariant, two adjacent independent
instructions can be swapped -/
theorem independent_swap_block (b0 b : Block) (ho : Orig b0 b) (hb : BInv b) (i : Nat)
    (hi : i + 1 < b.seq.length)
    (hind : Independent (b.seq[i].toS b.seq.length) (b.seq[i + 1].toS b.seq.length)) :
    ∃ b', b.move (i : Int) ((i : Int) + 1) = .ok b' := by
  have := ho.move_fwd_accepted hb (Nat.lt_succ_self i) (Nat.lt_of_succ_lt hi) hi
    (fun k hk h1 h2 => by obtain rfl : k = i + 1 := Nat.le_antisymm h2 h1; exact hind)
  rwa [Int.natCast_succ] at this

/-- C06 in every reachable state: after any history on a well-formed code, for every block and
every adjacent pair of its current order, `Independent` implies that `Move(i, i+1)` is accepted -/
theorem independent_swap (entry : Nat) (raw : List Raw) (hwf : WF raw) (c0 : Code)
    (h : newCode entry raw = .ok c0) (ops : List Op) (p : Nat) (hp : p < (c0.run ops).store.length)
    (i : Nat) (hi : i + 1 < ((c0.run ops).store[p]).seq.length)
    (hind : Independent (((c0.run ops).store[p]).seq[i].toS ((c0.run ops).store[p]).seq.length)
      (((c0.run ops).store[p]).seq[i + 1].toS ((c0.run ops).store[p]).seq.length)) :
    ∃ b', ((c0.run ops).store[p]).move (i : Int) ((i : Int) + 1) = .ok b' := by
  have hnew := newCode_inv entry raw hwf c0 h
  obtain ⟨hinv, hsame⟩ := hnew.inv.run ops
  have hp0 : p < c0.store.length := by rw [← hsame.len]; exact hp
  exact independent_swap_block _ _ ((hnew.orig _ (List.getElem_mem hp0)).same (hsame.blocks p hp0 hp))
    (hinv.blocks _ (List.getElem_mem hp)) i hi hind

/-- `x1 := 1 ; x2 := 2 ; x3 := x1` : the first two are independent, the last two too, the first and
the last conflict (RAW) -/
def exampleSeq : List Ins :=
  indexFrom 0 [newInstruction 0 100 4 [.regStore (.const [1]) "x1" 1],
    newInstruction 0 104 4 [.regStore (.const [2]) "x2" 1],
    newInstruction 0 108 4 [.regStore (.regLoad "x1" 1) "x3" 1]]

example : findAllDeps exampleSeq = some [(0, 2)] ∧
    Independent (exampleSeq[0].toS 3) (exampleSeq[1].toS 3) ∧
    Independent (exampleSeq[1].toS 3) (exampleSeq[2].toS 3) ∧
    Conflict (exampleSeq[0].toS 3) (exampleSeq[2].toS 3) := by decide +kernel

end Mltwist.Props.C06
