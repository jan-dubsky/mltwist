import Mltwist.Lemmas.EmulatorRun
import Mltwist.Lemmas.EmulatorLifted
/-
C04 — the emulator asks for unknown state only, once.

Model: `Model/Emulator.lean` (`regValue`, `memValue`, `evalRegs`, `evalMem`, `eval`, `step`, `run`) over
`state.State` with the memories of C14–C16; the `StateProvider` is an arbitrary oracle `p : Provider`
(no consistency is assumed of its answers) and every call is logged (`Req`).  The model follows the
REPAIRED code (F03: `ConstFold` before the type assertions of `memValue`; F44: a register is requested
at the greatest width the code uses it with; F45: an access that does not fit the address space makes `Step`
return an error — the provider calls made before the failing access belong to the log, and the claims of C04
hold for them too).

Vocabulary (`Lemmas/EmulatorState.lean`, `EmulatorFill.lean`, `EmulatorStep.lean`, `EmulatorRun.lean`).  `Ready s`: the
invariant `Inv s` (the memories satisfy the invariants of C14/C15, registers and memories hold constants) + the
instruction pointer is in the register map.  `Unknown s r`: the request `r` is for a register absent from the register
map, or for a non-empty byte range none of whose bytes is present in any memory layer (image or written); `KnownReq s r`:
the register is in the map / every byte of the range is present; `Supplied p s r`: the state holds there the
(width-adjusted) answer of `p`.  `Fill p s l s'`: `s'` results from `s` by the requests `l` in order, each `Unknown` at its
moment; `Applied s efs s'`: by the writes of the evaluated effects.  `StepDom`/`RunDom`: every memory access performed
lies in the domain of C14 (`1 ≤ w ≤ 255`, `addr + w < 2^64`); `CodeWF`/`CodeSW`: every expression / every store of the
code has a width between 1 and 255 (both are theorems for the code of an image).
-/
namespace Mltwist.Props.C04
open Mltwist Mltwist.State Mltwist.Overlay Mltwist.Emulator Mltwist.Spec.Overlay
open Mltwist.Lemmas.Emulator

/-- the state the tool starts from (pre-set constant registers, `Overlay(Bytes(image), Sparse)`), after
`emulator.New`, is ready -/
theorem tool_start_ready (pre : List (String × List UInt8)) {image bs : List BytesMem.Block}
    (h : BytesMem.newBytes image = .ok bs) (ip : Nat) : Ready (Emulator.new ip (toolState pre bs)) :=
  ready_new (inv_toolState pre h) ip

/-- WHATEVER THE INSTRUCTION ACCESSES (REPAIR F45: no domain hypothesis): a step from a ready state returns the
error exactly when no instruction starts at the instruction pointer; otherwise it succeeds — the provider calls
`log` of the step are a `Fill` (each call is for state unknown at its moment, and its answer is stored), all of
them precede the program's writes (`Applied`), and the resulting state is ready again — or it returns the access
error (some access has `addr + w ≥ 2^64`): then, too, the provider calls `log` made before the failing access are
a `Fill`, nothing else changed the state, and it is ready again.  Never a panic. -/
theorem step_shape (p : Provider) (code : CodeView) {s : State} (hr : Ready s) (hw : CodeWF code)
    (hs : CodeSW code) :
    ∃ c, assocGet ipKey s.regs = some (.const c) ∧
      match code.lookup (leToNat c % 2 ^ 64) with
      | none => step p code s = .err
      | some ins =>
        (∃ s1 s2 log rep,
          step p code s = .ok (finish ins (ins.effects.any isJump) s2) rep log ∧
          Fill p s log s1 ∧ Applied s1 (ins.effects.map (evalEff s1)) s2 ∧
          Ready (finish ins (ins.effects.any isJump) s2)) ∨
        (∃ s1 log a w, step p code s = .accessErr s1 log a w ∧ Fill p s log s1 ∧ Ready s1 ∧
          assocGet ipKey s1.regs = some (.const c) ∧ 2 ^ 64 ≤ a + w ∧ ¬ StepDom p code s ins) := by
  obtain ⟨c, hc⟩ := hr.ipConst
  refine ⟨c, hc, ?_⟩
  cases hl : code.lookup (leToNat c % 2 ^ 64) with
  | none => exact step_none p code (mustIP_spec hc) hl
  | some ins =>
    cases step_total p code hr.inv (mustIP_spec hc) hl (hw ins (lookup_mem hl)) (hs ins (lookup_mem hl)) with
    | steps h => exact Or.inl ⟨_, _, _, _, h.eq, h.fill, h.applied, h.stores.ready hr⟩
    | stops hnd h => exact Or.inr ⟨_, _, _, _, h.eq, h.fill, h.fill.stores.ready hr, h.fill.rext ipKey _ hc, h.bad, hnd⟩

/-- … and inside the domain of C14 there is no access error -/
theorem step_shape_in_domain (p : Provider) (code : CodeView) {s : State} (hr : Ready s) (hw : CodeWF code)
    (hd : ∀ c ins, assocGet ipKey s.regs = some (.const c) → code.lookup (leToNat c % 2 ^ 64) = some ins →
      StepDom p code s ins) :
    ∃ c, assocGet ipKey s.regs = some (.const c) ∧
      match code.lookup (leToNat c % 2 ^ 64) with
      | none => step p code s = .err
      | some ins => ∃ s1 s2 log rep,
          step p code s = .ok (finish ins (ins.effects.any isJump) s2) rep log ∧
          Fill p s log s1 ∧ Applied s1 (ins.effects.map (evalEff s1)) s2 ∧
          Ready (finish ins (ins.effects.any isJump) s2) := by
  obtain ⟨c, hc⟩ := hr.ipConst
  refine ⟨c, hc, ?_⟩
  cases hl : code.lookup (leToNat c % 2 ^ 64) with
  | none => exact step_none p code (mustIP_spec hc) hl
  | some ins =>
    obtain ⟨s1, s2, log, rep, h⟩ := step_ok p code hr.inv (mustIP_spec hc) hl (hw ins (lookup_mem hl)) (hd c ins hc hl)
    exact ⟨s1, s2, log, rep, h.eq, h.fill, h.applied, h.stores.ready hr⟩

/-- a request is issued only for state that, at that moment, is in neither the register map nor any
memory layer; right after it the state holds the supplied value -/
theorem request_unknown_at_its_moment {p : Provider} {s s' : State} {l1 l2 : List Req} {r : Req}
    (hf : Fill p s (l1 ++ r :: l2) s') (hi : Inv s) :
    ∃ sm sm', Fill p s l1 sm ∧ Unknown sm r ∧ Fill p sm [r] sm' ∧ Supplied p sm' r ∧ Fill p sm' l2 s' := by
  obtain ⟨sm, g1, g2⟩ := hf.append_inv
  obtain ⟨sm', hun, h1, hsup, hf'⟩ := g2.cons_inv (g1.stores.inv hi)
  exact ⟨sm, sm', g1, hun, h1, hsup, hf'⟩

/-- … in particular it was unknown when the step began (knowledge only grows) -/
theorem request_unknown_at_step_begin {p : Provider} {s s' : State} {l : List Req} (hf : Fill p s l s')
    (hi : Inv s) : ∀ r ∈ l, Unknown s r :=
  hf.unknown hi

/-- `asked ⊆ known`, with values: after the provider calls of a step every requested register / byte
is in the state, with the supplied value -/
theorem asked_then_known {p : Provider} {s s' : State} {l : List Req} (hf : Fill p s l s') (hi : Inv s) :
    ∀ r ∈ l, Supplied p s' r ∧ KnownReq s' r :=
  fun r hr => ⟨hf.supplied hi r hr, known_of_supplied (hf.supplied hi r hr)⟩

/-- nothing is requested twice within a step: the requests concern pairwise different registers and
pairwise disjoint byte ranges -/
theorem no_duplicates_in_step {p : Provider} {s s' : State} {l : List Req} (hf : Fill p s l s') (hi : Inv s) :
    l.Pairwise Req.Disjoint :=
  hf.pairwise hi

/-- the ranges requested for one load (the model asks for what `Missing` returns, C16): each lies inside the loaded
range and is unknown at its moment (`MemValOut`); afterwards every byte of the range is present and the value read
is the little-endian value of the bytes -/
theorem memValue_requests (p : Provider) (c : Ctx) (key : String) (addr w : Nat) (hi : Inv c.st)
    (hd : InDom addr w) : ∃ v c', memValue p c key addr w = .ok (v, c') ∧ MemValOut p key addr w c v c' :=
  memValue_spec p c key addr w hi hd

/-- a register is requested at the greatest width the code uses it with, so that it never has to be
requested again (REPAIR F44); a known register is not requested -/
theorem regValue_requests (p : Provider) (code : CodeView) (c : Ctx) (key : String) (w : Nat)
    (hr : RegsConst c.st.regs) :
    (∃ v, assocGet key c.st.regs = some (.const v) ∧ regValue p code c key w = .ok (cw v w, c)) ∨
    (assocGet key c.st.regs = none ∧
      regValue p code c key w =
        .ok (Const.withWidth (Const.withWidth (p.reg key (max w (code.regWidth key))) (max w (code.regWidth key))) w,
          { c with st := fillReg p c.st key (max w (code.regWidth key))
                   log := c.log ++ [.reg key (max w (code.regWidth key))] })) :=
  regValue_spec p code c key w hr

/-- For every provider, every well-formed code, every ready state and every number of steps — WHATEVER MEMORY THE
PROGRAM ACCESSES (REPAIR F45: no domain hypothesis; a run ends with the first error, and the provider calls of a
last step that fails with the access error belong to the log): the run never panics and ends in a ready state;
over the WHOLE provider log no register is requested twice and no byte is requested twice; every request was
for state unknown when the run began — and, since this holds for the run from any intermediate state as well
and knowledge only grows, unknown at every moment before it was issued; everything requested is known at
the end of the run. -/
theorem run_requests (p : Provider) (code : CodeView) (hw : CodeWF code) (hs : CodeSW code) (n : Nat) (s : State)
    (hr : Ready s) :
    Ready (run p code n s).2 ∧
    (∀ o ∈ (run p code n s).1, match o with | .panic _ => False | _ => True) ∧
    (logOf (run p code n s).1).Pairwise Req.Disjoint ∧
    (∀ r ∈ logOf (run p code n s).1, Unknown s r ∧ KnownReq (run p code n s).2 r) := by
  obtain ⟨h1, h2, h3⟩ := run_asks p code (fun _ _ => True)
    (fun _ s hr _ => ⟨StepEnds.of_ready p code hr hw fun _ ins _ hl => hs ins (lookup_mem hl), fun _ _ _ _ => trivial⟩) n s hr trivial
  exact ⟨h1, h2, h3.pairwise, h3.asked⟩

/-- … and for the code the tool runs on — the lifting of the code blocks of an image by the RV64IMA front
end — well-formedness is a theorem, not a hypothesis: no hypothesis on the program is left -/
theorem run_requests_of_image (p : Provider) {blocks : List (Nat × List UInt8)} {code : CodeView}
    (hc : liftCode blocks = some code) (n : Nat) (s : State) (hr : Ready s) :
    Ready (run p code n s).2 ∧
    (∀ o ∈ (run p code n s).1, match o with | .panic _ => False | _ => True) ∧
    (logOf (run p code n s).1).Pairwise Req.Disjoint ∧
    (∀ r ∈ logOf (run p code n s).1, Unknown s r ∧ KnownReq (run p code n s).2 r) :=
  run_requests p code (codeWF_of_liftCode hc) (codeSW_of_liftCode hc) n s hr

/-- the same inside the domain of C14 (needs no `CodeSW`) -/
theorem run_requests_in_domain (p : Provider) (code : CodeView) (hw : CodeWF code) (n : Nat) (s : State)
    (hr : Ready s) (hd : RunDom p code n s) :
    Ready (run p code n s).2 ∧
    (∀ o ∈ (run p code n s).1, match o with | .panic _ => False | _ => True) ∧
    (logOf (run p code n s).1).Pairwise Req.Disjoint ∧
    (∀ r ∈ logOf (run p code n s).1, Unknown s r ∧ KnownReq (run p code n s).2 r) := by
  obtain ⟨h1, h2, h3⟩ := run_asks p code (RunDom p code)
    (fun _ s hr hd => ⟨StepEnds.of_ready p code hr hw fun c ins hc hl => (hd.1 c ins hc hl).sw hr.inv (hw ins (lookup_mem hl)),
      hd.2⟩) n s hr hd
  exact ⟨h1, h2, h3.pairwise, h3.asked⟩

/-- a read of a known register returns the value the state holds (cut or zero extended to the read width)
and asks nothing -/
theorem known_register_read (p : Provider) (code : CodeView) (c : Ctx) (key : String) (w : Nat) (v : List UInt8)
    (h : assocGet key c.st.regs = some (.const v)) : regValue p code c key w = .ok (cw v w, c) :=
  regValue_known p code c key w v h

/-- a read of a range whose bytes are all known returns their little-endian value and asks nothing -/
theorem known_memory_read (p : Provider) (c : Ctx) (key : String) (addr w : Nat) (hi : Inv c.st)
    (hd : InDom addr w) (hp : ∀ i, i < w → c.st.mems.abs key (addr + i) ≠ none) :
    ∃ v, memValue p c key addr w = .ok (v, c) ∧ v.length = w ∧
      ∀ ρ, leToNat v = loadVal ρ (c.st.mems.abs key) addr w :=
  memValue_known p c key addr w hi hd hp

/-- between requests nothing changes what the state holds (`Fill` only adds) … -/
theorem fills_keep_values {p : Provider} {s s' : State} {l : List Req} (hf : Fill p s l s') (hi : Inv s) :
    (∀ k e, assocGet k s.regs = some e → assocGet k s'.regs = some e) ∧
    (∀ key x b, s.mems.abs key x = some b → s'.mems.abs key x = some b) :=
  ⟨hf.rext, hf.aext hi⟩

/-- … and a step changes only what the program writes: a register that is neither written by an effect of
the instruction nor the instruction pointer, and a byte outside the stored ranges, keep the value they had
after the provider calls of the step -/
theorem values_until_overwritten {s1 s2 : State} {efs : List Effect}
    (ha : Applied s1 (efs.map (evalEff s1)) s2) (hi : Inv s1) (ins : Ins) (j : Bool) :
    (∀ k e, assocGet k s1.regs = some e → k ∉ writtenRegs efs → k ≠ ipKey →
      assocGet k (finish ins j s2).regs = some e) ∧
    (∀ key x b, s1.mems.abs key x = some b → ¬ WrittenByte key x (efs.map (evalEff s1)) →
      (finish ins j s2).mems.abs key x = some b) := by
  constructor
  · intro k e hk hw hip
    rw [finish_reg_frame ins j s2 hip, ha.reg_frame k (by rw [writtenRegs_map]; exact hw)]
    exact hk
  · intro key x b hk hw
    rw [finish_mems, ha.byte_frame hi key x hw]
    exact hk

/-- a two-instruction code over `Overlay(Bytes, Sparse)`: the image holds bytes 16 and 17 -/
def exCode : CodeView :=
  [⟨0, 4, [.regStore (.binary .add (.regLoad "a" 8) (.memLoad "m" (.const [16, 0, 0, 0, 0, 0, 0, 0]) 4) 8) "c" 8]⟩,
   ⟨4, 4, [.regStore (.regLoad "a" 8) "d" 8, .memStore (.regLoad "c" 8) "m" (.const [17, 0, 0, 0, 0, 0, 0, 0]) 2]⟩,
   ⟨8, 4, [.regStore (.memLoad "m" (.const [16, 0, 0, 0, 0, 0, 0, 0]) 4) "e" 8]⟩]

def exProv : Provider := ⟨fun _ w => List.replicate w 1, fun _ _ w => List.replicate w 2⟩

def exState : State :=
  Emulator.new 0 { regs := [], mems := [("m", .overlay (.bytes [(16, [9, 9])]) (.sparse []))] }

set_option synthInstance.maxSize 1024 in
/-- step 1 asks for register `a` and for the two bytes behind the image only (the load straddles image
bytes and unknown bytes); step 2 reads `a` and `c` again and asks nothing; step 3 re-reads the range —
image byte, two written bytes, one supplied byte — and asks nothing; step 4 is the error -/
example :
    (run exProv exCode 4 exState).1.map (fun o => match o with
      | .ok _ rep log => some (log, rep.regLoads, rep.memLoads)
      | _ => none)
    = [some ([.reg "a" 8, .mem "m" 18 2], [("a", [1, 1, 1, 1, 1, 1, 1, 1])], [⟨"m", 16, [9, 9, 2, 2]⟩]),
       some ([], [("a", [1, 1, 1, 1, 1, 1, 1, 1]), ("c", [10, 10, 3, 3, 1, 1, 1, 1])], []),
       some ([], [], [⟨"m", 16, [9, 10, 10, 2]⟩]),
       none] := by decide +kernel

/-- a code whose second instruction stores 2 bytes at `2^64 - 1` (the end wraps) -/
def exCodeTop : CodeView :=
  [⟨0, 4, [.regStore (.regLoad "a" 8) "d" 8]⟩,
   ⟨4, 4, [.regStore (.regLoad "a" 8) "e" 8,
           .memStore (.regLoad "c" 8) "m" (.const [0xff, 0xff, 0xff, 0xff, 0xff, 0xff, 0xff, 0xff]) 2]⟩]

set_option synthInstance.maxSize 2048 in
/-- the access error is not vacuous: the value register `c` and nothing else is asked before the check of the stores
fails; the run ends with the access error, its request is in the log of the run, and the state keeps `a`, `c` and
the instruction pointer 4 -/
example :
    (logOf (run exProv exCodeTop 3 exState).1,
     (run exProv exCodeTop 3 exState).1.map (fun o => match o with
      | .ok _ _ log => some (log, none)
      | .accessErr s log a w => some (log, some (a, w, s.regs.map (·.1)))
      | _ => none))
    = ([.reg "a" 8, .reg "c" 8],
       [some ([.reg "a" 8], none), some ([.reg "c" 8], some (2 ^ 64 - 1, 2, [ipKey, "a", "d", "c"]))]) := by decide +kernel

end Mltwist.Props.C04
