import Mltwist.Lemmas.Expreval
/-
C10 — constant arithmetic is exact for every width (the value: up to 255, the range of Go's `expr.Width`).
-/
namespace Mltwist.Props.C10
open Mltwist

/-- every folded operation yields exactly `w` bytes -/
theorem binary_length (op : BinOp) (c1 c2 : List UInt8) (w : Nat) :
    (Expreval.binary op c1 c2 w).length = w :=
  Lemmas.Expreval.binary_length op c1 c2 w

/-- the byte-level algorithms compute the documented width rules: operands zero-extended or
truncated to `w`, add/mul/lsh/nand modulo `2^(8w)`, shift by at least `8w` bits gives zero
(also when the amount exceeds 64 bits: the case that needs `hw`), division by zero gives all ones -/
theorem binary_value (op : BinOp) (c1 c2 : List UInt8) (w : Nat) (hw : w ≤ 255) :
    leToNat (Expreval.binary op c1 c2 w) =
      evalBin op w (trunc w (leToNat c1)) (trunc w (leToNat c2)) :=
  Lemmas.Expreval.binary_value op c1 c2 w hw

/-- unsigned comparison selects the correct branch -/
theorem ltu_iff (c1 c2 : List UInt8) (w : Nat) :
    Expreval.ltu c1 c2 w = true ↔ trunc w (leToNat c1) < trunc w (leToNat c2) :=
  Lemmas.Expreval.ltu_iff c1 c2 w

/-- the bit part of a shift amount is below 8 and the byte part below the width: of the guards of `bitLsh`/`bitRsh`
(`shift >= 8 || shift == 0` panics) the first is never hit and the byte shift stays inside the value.  That the bit shift
is not 0 is not proved here: it is the test `if bitShift ≠ 0` under which the model (`Expreval.lsh`, `Expreval.rsh`), like
the Go code, calls them. -/
theorem shift_in_range (v : List UInt8) (w a b : Nat) (h : Expreval.shiftUint64 v w = some (a, b)) :
    a < w ∧ b < 8 :=
  (Lemmas.Expreval.shiftUint64_some v w a b h).2

/-- non-vacuity: a concrete 3-byte left shift across a byte boundary -/
example : Expreval.binary .lsh [0x81, 0x01] [9] 3 = [0x00, 0x02, 0x03] := by decide

end Mltwist.Props.C10
