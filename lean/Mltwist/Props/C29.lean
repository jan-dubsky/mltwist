import Mltwist.Lemmas.Format
/-
C29 — help text wrapping keeps every character within the width.

`format s indent width` (Model/Format.lean) follows `internal/consoleui/format.go` literally, on
*bytes* (`List UInt8`), as the Go code does.  `chars = width − 8·indent` is the remaining width.
Precondition of the property: `chars ≥ 1` and `Pre s` (no leading space, no `\n` in `s`).
`indent` ranges over all integers; a negative indentation writes no tabs (`indent.toNat = 0`), exactly
like the Go loop `for j := 0; j < indent; j++`.

The specification (Spec/Format.lean) talks about the output *bytes*: they are split at `\n`
(`splitLines`), every line must be `indent` tabs plus `1 … chars` bytes (`LineOK`), the line bodies
without spaces must concatenate to the text without spaces (`noSpace`), and a word of the text may be
spread over several word pieces of the lines only if it is longer than `chars` (`WordsKept`).
-/
namespace Mltwist.Props.C29
open Mltwist.Format
open Mltwist.Spec.Format (Pre Wrapped splitLines LineOK body noSpace WordsKept check)

/-- Termination, part 1: the fuel `len(s) + 1` of the model never runs out — for every text, indentation
and width, also outside the precondition (a round either ends the loop, panics, provably repeats for
ever, or consumes at least one byte). -/
theorem fuel_suffices (s : Str) (indent width : Int) : format s indent width ≠ .outOfFuel :=
  Lemmas.Format.format_ne_outOfFuel s indent width

/-- Termination, part 2: with room for at least one character the wrapping ends normally (no panic, no
endless loop) — for every text, even with leading spaces or newlines. -/
theorem terminates (s : Str) (indent width : Int) (hc : 1 ≤ width - indent * tabWidth) :
    ∃ out, format s indent width = .ok out :=
  Lemmas.Format.format_terminates s indent width hc

/-- The property: the output consists of `\n`-terminated lines, each exactly `indent` tabs followed by
`1 … chars` bytes; the bodies contain all non-space bytes of the text in order; a word is split only
if it alone is longer than `chars`. -/
theorem wrapped (s : Str) (indent width : Int) (hc : 1 ≤ width - indent * tabWidth) (hs : Pre s)
    (out : Str) (h : format s indent width = .ok out) :
    Wrapped s indent.toNat (width - indent * tabWidth).toNat out :=
  Lemmas.Format.check_sound _ _ _ _ (Lemmas.Format.format_check s indent width hc hs out h)

/-- clause 1: every emitted line starts with `indent` tabs and its body has `1 … chars` bytes -/
theorem lines_fit (s : Str) (indent width : Int) (hc : 1 ≤ width - indent * tabWidth) (hs : Pre s)
    (out : Str) (h : format s indent width = .ok out) :
    ∃ ls, splitLines out = some ls ∧
      ∀ l ∈ ls, LineOK indent.toNat (width - indent * tabWidth).toNat l := by
  obtain ⟨ls, h1, h2, _, _⟩ := wrapped s indent width hc hs out h
  exact ⟨ls, h1, h2⟩

/-- clause 2: the bodies with spaces removed concatenate to the text with spaces removed -/
theorem content_kept (s : Str) (indent width : Int) (hc : 1 ≤ width - indent * tabWidth) (hs : Pre s)
    (out : Str) (h : format s indent width = .ok out) :
    ∃ ls, splitLines out = some ls ∧
      noSpace (ls.map (body indent.toNat)).flatten = noSpace s := by
  obtain ⟨ls, h1, _, h3, _⟩ := wrapped s indent width hc hs out h
  exact ⟨ls, h1, h3⟩

/-- clause 3: a word is split across lines only if it is longer than `chars` -/
theorem words_kept (s : Str) (indent width : Int) (hc : 1 ≤ width - indent * tabWidth) (hs : Pre s)
    (out : Str) (h : format s indent width = .ok out) :
    ∃ ls, splitLines out = some ls ∧
      WordsKept (width - indent * tabWidth).toNat s (ls.map (body indent.toNat)) := by
  obtain ⟨ls, h1, _, _, h4⟩ := wrapped s indent width hc hs out h
  exact ⟨ls, h1, h4⟩

/-- more than the property asks: no line body starts with a space -/
theorem bodies_start_nonspace (s : Str) (indent width : Int) (hc : 1 ≤ width - indent * tabWidth)
    (hs : Pre s) (out : Str) (h : format s indent width = .ok out) :
    ∃ ls, splitLines out = some ls ∧ ∀ l ∈ ls, (body indent.toNat l).head? ≠ some space := by
  obtain ⟨bs, hl, rfl⟩ := Lemmas.Format.format_out s indent width hc out h
  have hb := Lemmas.Format.lines_bodies _ s bs hl hs
  refine ⟨_, Lemmas.Format.splitLines_render _ bs (fun b hb' => (hb b hb').no_nl), fun l hl' => ?_⟩
  obtain ⟨b, hb', rfl⟩ := List.mem_map.1 hl'
  rw [Lemmas.Format.body_tabs]
  exact (hb b hb').head

/-- The executable oracle that judges the Go output accepts every output of the model … -/
theorem oracle_accepts (s : Str) (indent width : Int) (hc : 1 ≤ width - indent * tabWidth) (hs : Pre s)
    (out : Str) (h : format s indent width = .ok out) :
    check s indent.toNat (width - indent * tabWidth).toNat out = none :=
  Lemmas.Format.format_check s indent width hc hs out h

/-- … and whatever it accepts (for any producer of `out`) is a correct wrapping. -/
theorem oracle_sound (s : Str) (indent chars : Nat) (out : Str) (h : check s indent chars out = none) :
    Wrapped s indent chars out :=
  Lemmas.Format.check_sound s indent chars out h

/-! ### Outside the precondition (why `chars ≥ 1` is required) -/

/-- the empty text gives the empty output whatever the parameters -/
theorem empty_text (indent width : Int) : format [] indent width = .ok [] := rfl

/-- `chars < 0`: slice-bounds panic in the first round on every non-empty text -/
theorem negative_width_panics (s : Str) (indent width : Int) (hc : width - indent * tabWidth < 0)
    (hs : s ≠ []) : format s indent width = .panic := by
  unfold format formatLoop
  rw [if_neg (fun e => hs (List.eq_nil_of_length_eq_zero e))]
  simp only [Lemmas.Format.cutLine_neg _ hc]

/-- `chars = 0`: the Go loop never ends as soon as the text has a byte other than a space -/
theorem zero_width_diverges (s : Str) (indent width : Int) (hc : width - indent * tabWidth = 0)
    (hs : ∃ c ∈ s, c ≠ space) : format s indent width = .diverges :=
  Lemmas.Format.format_diverges s indent width hc hs

/-- `chars = 0` on a non-empty text of spaces: one empty line -/
theorem zero_width_spaces (s : Str) (indent width : Int) (hc : width - indent * tabWidth = 0)
    (hne : s ≠ []) (hs : ∀ c ∈ s, c = space) :
    format s indent width = .ok (List.replicate indent.toNat tab ++ [nl]) := by
  obtain ⟨m, hm⟩ := Nat.exists_eq_succ_of_ne_zero (mt List.eq_nil_of_length_eq_zero hne)
  unfold format
  rw [hc, Lemmas.Format.formatLoop_zero _ _ _ _ hne, Lemmas.Format.dropWhile_all_space s hs,
    if_neg (fun h => hne (List.eq_nil_of_length_eq_zero h.symm)), hm]
  rfl

/-- "ab cd efgh" (indent 1, width 13, chars 5) → "\tab cd\n\tefgh\n"; exact fit with the space at index
`chars`: "abc de" (chars 3) → "abc\nde\n"; a long word is cut: "abcdefg" (chars 3) → "abc\ndef\ng\n";
a line may end with a space: "a  b" (chars 3) → "a \nb\n". -/
example :
    format [97, 98, 32, 99, 100, 32, 101, 102, 103, 104] 1 13
      = .ok [9, 97, 98, 32, 99, 100, 10, 9, 101, 102, 103, 104, 10]
    ∧ format [97, 98, 99, 32, 100, 101] 0 3 = .ok [97, 98, 99, 10, 100, 101, 10]
    ∧ format [97, 98, 99, 100, 101, 102, 103] 0 3 = .ok [97, 98, 99, 10, 100, 101, 102, 10, 103, 10]
    ∧ format [97, 32, 32, 98] 0 3 = .ok [97, 32, 10, 98, 10] := by decide +kernel

/-- the oracle accepts these and rejects wrong wrappings: a line that is too long, a lost byte,
a fitting word that is split, a missing final newline, a missing tab -/
example :
    check [97, 98, 32, 99, 100, 32, 101, 102, 103, 104] 1 5
        [9, 97, 98, 32, 99, 100, 10, 9, 101, 102, 103, 104, 10] = none
    ∧ check [97, 98, 99, 100, 101, 102, 103] 0 3 [97, 98, 99, 10, 100, 101, 102, 10, 103, 10] = none
    ∧ check [97, 98, 99, 32, 100, 101] 0 3 [97, 98, 99, 32, 10, 100, 101, 10] ≠ none
    ∧ check [97, 98, 99, 32, 100, 101] 0 3 [97, 98, 99, 10, 100, 10] ≠ none
    ∧ check [97, 98, 99, 32, 100, 101] 0 3 [97, 98, 99, 10, 100, 10, 101, 10] ≠ none
    ∧ check [97, 98, 99, 32, 100, 101] 0 3 [97, 98, 99, 10, 100, 101] ≠ none
    ∧ check [97, 98, 99, 32, 100, 101] 1 3 [9, 97, 98, 99, 10, 100, 101, 10] ≠ none := by decide +kernel

/-- The precondition on the text is needed.  Leading space: " ab" with chars 2 → " a\nb\n", the word
"ab" fits but is split, and "  a" with chars 2 gives a line consisting of one space.  Newline inside the
text: "a\nb" (indent 1) → "\ta\n\n\tb\n", whose second line is empty and has no tab. -/
example :
    format [32, 97, 98] 0 2 = .ok [32, 97, 10, 98, 10]
    ∧ check [32, 97, 98] 0 2 [32, 97, 10, 98, 10] ≠ none
    ∧ format [32, 32, 97] 0 2 = .ok [32, 10, 97, 10]
    ∧ format [97, 10, 98] 1 10 = .ok [9, 97, 10, 10, 9, 98, 10]
    ∧ check [97, 10, 98] 1 2 [9, 97, 10, 10, 9, 98, 10] ≠ none := by decide +kernel

/-- the failure modes for `chars ≤ 0` on concrete inputs -/
example :
    format [97] 1 8 = .diverges ∧ format [32, 97] 0 0 = .diverges ∧ format [32, 32] 1 8 = .ok [9, 10]
    ∧ format [97] 1 7 = .panic ∧ format [97] 1 5 = .panic ∧ format [] 1 5 = .ok [] := by decide +kernel

end Mltwist.Props.C29
