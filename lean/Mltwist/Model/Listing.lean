/-
Model of the disassembler mode of the console UI as far as the listing (C23) and the
navigation commands (C31) are concerned:

* `internal/consoleui/internal/lines/{line.go,lines.go,marks.go}`: `newLines`, `blockToLines`,
  `newBlockLine`, `newInstrLine`, `byteStr`, `SetMark`, `UnmarkAll`, `Reload`, `reloadRange`,
  `Lines.Move`, `Lines.Block`, `Lines.Line`;
* `internal/consoleui/internal/cursor/cursor.go`: `Set`/`checkOffset`;
* `internal/consoleui/disassemble/commands.go`: the actions of `down`, `up`, `move`, `bounds`,
  `find`, `goto`, `entrypoint`.

The code model underneath (`deps.Code`) is NOT modelled here.  The listing only sees an
abstract code state `Code` — the blocks in their current order, each with its `Idx()`, `Begin()`,
`End()` and its instructions in current order with `String()`, `Bytes()`, `Idx()`, `Begin()` and the
values of `LowerBound`/`UpperBound` — and two abstract operations `CodeOps.moveIns`
(`Block.Move`) and `CodeOps.moveBlock` (`Code.Move`); `none` = the move is rejected with an
error.  What the listing needs from them is collected in `Spec.Lawful` (Spec/Listing.lean).
`refOps` is a reference instance that follows `internal/deps/moves.go` (`move`, `moveFwd`,
`moveBack`, `checkFromToIndex`, `checkMove`) with the bounds taken from the state; it is lawful
(`Lemmas/ListingRef.lean`); the model driver uses it and refreshes the bounds from the dump of the
implementation after every command.

Go `int` values that are never negative are `Nat`; the `-1` sentinels of `Line.block`/`Line.instr`
are `Option Nat`.  A Go panic is the outcome `none` of the `Option`-valued functions.  `cursor + N`
of `down` is computed in 64-bit two's complement (`wrap64`).  The regular expression library is a
parameter: `find` takes the vector "line i matches" (`none` = the pattern does not compile).
The `marks` map (a set of line numbers) is a list; the iteration order of `UnmarkAll` is irrelevant.
`len(mark) ≤ MaxMarkLen` holds for the eight mark constants, the check of `setMark` is not modelled.
`byteStr` panics on an instruction without bytes (`Grow(-1)`): instructions have ≥ 1 byte (assumption).

REPAIRS (the model follows the repaired code):
* F21: `move` and `bounds` check their line numbers against `Lines.Len()` first (the pinned code
  indexes `l.lines[line]` out of range → panic).
* F22: `find` starts at `(offset + 1) % Len` (the pinned loop starts at `offset + 1` and calls
  `Index(Len)` when the cursor is on the last line → panic).
* F23: after an accepted block move `Lines.Move` rebuilds `lines` and `blockStarts` from the code
  with `newLines` (the pinned code calls `reloadRange`, which writes every block of the range at
  the *old* start of that position: stale rows or a slice-bounds panic).  The pinned behaviour is
  kept as `Lines.movePinned` for the record (the `example`s on `after true` and `movePinned` in `Props/C23.lean`).
* F39: the optional words of `find` are joined with single spaces (pinned: without separator, so
  `find add x1, x2, x3` searches for `add x1,x2,x3`).  This only concerns the pattern handed to
  the regular expression library, i.e. the match vector given to `Cmd.find`.
-/
namespace Mltwist.Listing

/-! ### abstract code state -/

/-- an instruction as the listing sees it -/
structure Ins where
  /-- `Instruction.String()` -/
  text : String
  /-- `Bytes()` -/
  bytes : List UInt8
  /-- `Idx()`: index in its basic block -/
  idx : Nat
  /-- `Begin()`: current address -/
  addr : Nat
  /-- `Block.LowerBound(position)` -/
  lower : Nat
  /-- `Block.UpperBound(position)` -/
  upper : Nat
  deriving DecidableEq, Repr, Inhabited

/-- a basic block -/
structure Block where
  /-- `Idx()`: index in the list of blocks -/
  idx : Nat
  /-- `Begin()` -/
  begin : Nat
  /-- `End()` -/
  stop : Nat
  /-- `Instructions()` in current order -/
  ins : List Ins
  deriving DecidableEq, Repr, Inhabited

/-- `deps.Code`: entry point and `Blocks()` in current order -/
structure Code where
  entry : Nat
  blocks : List Block
  deriving DecidableEq, Repr, Inhabited

/-- the two mutating operations of the code model; `none` = rejected (an error is returned and
nothing changes) -/
structure CodeOps where
  /-- `code.Index(block).Move(from, to)` -/
  moveIns : Code → (block src dst : Nat) → Option Code
  /-- `code.Move(from, to)` -/
  moveBlock : Code → (src dst : Nat) → Option Code

/-! ### line.go -/

abbrev Mark := String

def markNone : Mark := ""
def markMovedFrom : Mark := "<"
def markMovedTo : Mark := ">"
def markLowerBound : Mark := "vvv"
def markUpperBound : Mark := "^^^"
def markErrMovedFrom : Mark := "!<"
def markErrMovedTo : Mark := "!>"
def markErr : Mark := "!"

structure Line where
  value : String
  mark : Mark
  /-- `none` = the Go value `-1` -/
  block : Option Nat
  instr : Option Nat
  deriving DecidableEq, Repr, Inhabited

def newEmptyLine : Line := ⟨"", markNone, none, none⟩

/-- `%x` -/
def hexLower (n : Nat) : String := String.ofList (Nat.toDigits 16 n)

def upperHexDigit (n : Nat) : Char :=
  if n < 10 then Char.ofNat (48 + n) else Char.ofNat (55 + n)

/-- `%02X` of a byte -/
def byteHex (b : UInt8) : String :=
  String.ofList [upperHexDigit (b.toNat / 16), upperHexDigit (b.toNat % 16)]

/-- the loop of `byteStr`: `if i > 0 { sb.WriteByte(' ') }; sb.WriteString(fmt.Sprintf("%02X", b))` -/
def byteStrLoop : List UInt8 → (first : Bool) → (sb : String) → String
  | [], _, sb => sb
  | b :: bs, first, sb => byteStrLoop bs false ((if first then sb else sb ++ " ") ++ byteHex b)

/-- `byteStr`: upper-case hex pairs separated by single spaces -/
def byteStr (bs : List UInt8) : String := byteStrLoop bs true ""

/-- `%-<w>s`: padding with spaces on the right up to `w` characters (runes) -/
def padRight (w : Nat) (s : String) : String :=
  s ++ String.ofList (List.replicate (w - s.length) ' ')

def instrMaxLen : Nat := 24

/-- `fmt.Sprintf("%4s %-24s | %s", "", text, bytes)` -/
def instrLineText (text : String) (bytes : List UInt8) : String :=
  "    " ++ " " ++ padRight instrMaxLen text ++ " | " ++ byteStr bytes

/-- `fmt.Sprintf("Block %d: 0x%x", b.Idx()+1, b.Begin())` -/
def blockLineText (b : Block) : String :=
  "Block " ++ toString (b.idx + 1) ++ ": 0x" ++ hexLower b.begin

def newBlockLine (b : Block) : Line := ⟨blockLineText b, markNone, some b.idx, none⟩

def newInstrLine (b : Block) (i : Ins) : Line :=
  ⟨instrLineText i.text i.bytes, markNone, some b.idx, some i.idx⟩

/-! ### lines.go -/

structure Lines where
  lines : List Line
  blockStarts : List Nat
  /-- the key set of the `marks` map -/
  marks : List Nat
  deriving DecidableEq, Repr, Inhabited

def blockToLines (b : Block) : List Line := newBlockLine b :: b.ins.map (newInstrLine b)

/-- the loop of `newLines` over the blocks from position `i` on; `off = len(lns)` so far,
`first ↔ i = 0`.  Returns the appended lines and the entries of `blockStarts`. -/
def buildLines : List Block → (off : Nat) → (first : Bool) → List Line × List Nat
  | [], _, _ => ([], [])
  | b :: bs, off, first =>
    let pre := if first then [] else [newEmptyLine]
    let start := off + pre.length
    let blk := blockToLines b
    let rest := buildLines bs (start + blk.length) false
    (pre ++ blk ++ rest.1, start :: rest.2)

def newLines (code : Code) : Lines :=
  let r := buildLines code.blocks 0 true
  { lines := r.1 ++ [newEmptyLine], blockStarts := r.2, marks := [] }

def Lines.len (l : Lines) : Nat := l.lines.length

/-- `l.lines[lineIdx].setMark(m); l.marks[lineIdx] = struct{}{}` -/
def Lines.setMark (l : Lines) (lineIdx : Nat) (m : Mark) : Option Lines :=
  match l.lines[lineIdx]? with
  | none => none
  | some ln =>
    some { l with lines := l.lines.set lineIdx { ln with mark := m },
                  marks := if lineIdx ∈ l.marks then l.marks else lineIdx :: l.marks }

/-- the loop of `UnmarkAll` over the keys -/
def clearMarks : List Nat → List Line → Option (List Line)
  | [], ls => some ls
  | i :: is, ls =>
    match ls[i]? with
    | none => none
    | some ln => clearMarks is (ls.set i { ln with mark := markNone })

def Lines.unmarkAll (l : Lines) : Option Lines :=
  match clearMarks l.marks l.lines with
  | none => none
  | some ls => some { l with lines := ls, marks := [] }

/-- `copy(lines[start:][:len(new)], new)`; the caller has checked the bounds.  The backing array
made by `newLines` has capacity `len + 1`: the element beyond `len` is invisible. -/
def overwrite (ls : List Line) (start : Nat) (new : List Line) : List Line :=
  (ls.take start ++ new ++ ls.drop (start + new.length)).take ls.length

/-- `Reload(blockIdx)`.  Panics: `code.Index` out of range, `blockStarts[blockIdx]` out of range,
`lines[start:]` with `start > len`, `[:len(newBlock)]` beyond the capacity `len + 1 - start`. -/
def Lines.reload (l : Lines) (code : Code) (blockIdx : Nat) : Option Lines :=
  match code.blocks[blockIdx]?, l.blockStarts[blockIdx]? with
  | some b, some start =>
    let newBlock := blockToLines b
    if start > l.lines.length then none
    else if newBlock.length > l.lines.length + 1 - start then none
    else some { l with lines := overwrite l.lines start newBlock }
  | _, _ => none

/-- `for i := from; i <= to; i++ { l.Reload(i) }` with `cnt = to + 1 - from` rounds -/
def reloadLoop (code : Code) : (cnt : Nat) → (i : Nat) → Lines → Option Lines
  | 0, _, l => some l
  | cnt + 1, i, l =>
    match l.reload code i with
    | none => none
    | some l' => reloadLoop code cnt (i + 1) l'

/-- `reloadRange` (pinned code only; unused after the repair of F23) -/
def Lines.reloadRange (l : Lines) (code : Code) (a b : Nat) : Option Lines :=
  let lo := min a b
  let hi := max a b
  reloadLoop code (hi + 1 - lo) lo l

inductive MoveErr where
  | emptyFrom     -- "from cannot be an empty line"
  | emptyTo       -- "to cannot be an empty line"
  | blockIns      -- "cannot swap block and an instruction"
  | blockMove     -- "block move failed"
  | amongBlocks   -- "instructions cannot be moved among blocks"
  | insMove       -- "instruction move failed"
  deriving DecidableEq, Repr

/-- result of `Lines.Move`: the error (if any), the listing and the code afterwards -/
structure MoveRes where
  err : Option MoveErr
  lines : Lines
  code : Code
  deriving DecidableEq, Repr

/-- `Lines.Move(fromLine, toLine)`; `rebuild = true` is the repaired code (F23), `false` the
pinned one.  Panics: a line index out of range, `code.Index(fromBlock)` out of range, `Reload`. -/
def Lines.moveWith (rebuild : Bool) (ops : CodeOps) (l : Lines) (code : Code) (fromLine toLine : Nat) :
    Option MoveRes :=
  match l.lines[fromLine]?, l.lines[toLine]? with
  | some srcLn, some dstLn =>
    match srcLn.block, dstLn.block with
    | none, _ => some ⟨some .emptyFrom, l, code⟩
    | some _, none => some ⟨some .emptyTo, l, code⟩
    | some fromBlock, some toBlock =>
      match srcLn.instr, dstLn.instr with
      | none, some _ => some ⟨some .blockIns, l, code⟩
      | some _, none => some ⟨some .blockIns, l, code⟩
      | none, none =>
        match ops.moveBlock code fromBlock toBlock with
        | none => some ⟨some .blockMove, l, code⟩
        | some code' =>
          if rebuild then
            let fresh := newLines code'
            some ⟨none, { l with lines := fresh.lines, blockStarts := fresh.blockStarts }, code'⟩
          else
            match l.reloadRange code' fromBlock toBlock with
            | none => none
            | some l' => some ⟨none, l', code'⟩
      | some fromIns, some toIns =>
        if fromBlock ≠ toBlock then some ⟨some .amongBlocks, l, code⟩
        else if code.blocks.length ≤ fromBlock then none
        else
          match ops.moveIns code fromBlock fromIns toIns with
          | none => some ⟨some .insMove, l, code⟩
          | some code' =>
            match l.reload code' fromBlock with
            | none => none
            | some l' => some ⟨none, l', code'⟩
  | _, _ => none

def Lines.move := Lines.moveWith true
def Lines.movePinned := Lines.moveWith false

/-- `Lines.Block(lineIdx)`: `none` = panic; `some none` = `(Block{}, false)` -/
def Lines.block (l : Lines) (code : Code) (lineIdx : Nat) : Option (Option Block) :=
  match l.lines[lineIdx]? with
  | none => none
  | some ln =>
    match ln.block with
    | none => some none
    | some idx =>
      match code.blocks[idx]? with
      | none => none
      | some b => some (some b)

/-- `Lines.Line(block, ins)` -/
def Lines.line (l : Lines) (b : Block) (ins : Nat) : Option Nat :=
  match l.blockStarts[b.idx]? with
  | none => none
  | some blockLine => some (blockLine + 1 + ins)

/-! ### cursor.go -/

structure Cursor where
  maxValue : Nat
  value : Nat
  deriving DecidableEq, Repr, Inhabited

inductive ErrClass where
  | parse
  | move (e : MoveErr)
  | noBlock       -- bounds: "line doesn't belong to a block"
  | notIns        -- bounds: "line is not an instruction"
  | regex         -- find: "invalid regex"
  | tooBig        -- goto (and the repaired move/bounds): "line number too big"
  | negative      -- cursor: "offset cannot be negative"
  | tooHigh       -- cursor: "offset is too high"
  | noBlockAddr   -- entrypoint: "cannot find block at address"
  | noInsAddr     -- entrypoint: "cannot find instruction at address"
  deriving DecidableEq, Repr

/-- `Cursor.Set(v)` with `checkOffset` -/
def Cursor.set (c : Cursor) (v : Int) : Except ErrClass Cursor :=
  if v < 0 then .error .negative
  else if v ≥ (c.maxValue : Int) then .error .tooHigh
  else .ok { c with value := v.toNat }

/-- 64-bit two's complement value of an integer: `(x + 2^63) mod 2^64 - 2^63` (numerals instead of
`Int` powers, which the kernel evaluates very slowly) -/
def wrap64 (x : Int) : Int := (x + 9223372036854775808) % 18446744073709551616 - 9223372036854775808

/-- `math.MaxInt` = `2^63 - 1` -/
def maxInt : Nat := 9223372036854775807

/-! ### address lookups used by `entrypoint` -/

def insertByBegin (b : Block) : List Block → List Block
  | [] => [b]
  | c :: cs => if b.begin ≤ c.begin then b :: c :: cs else c :: insertByBegin b cs

/-- `blocksByAddr`: the blocks in ascending order of `Begin()` (stable insertion sort) -/
def sortByBegin : List Block → List Block
  | [] => []
  | b :: bs => insertByBegin b (sortByBegin bs)

/-- `Code.Address(a)`; `sort.Search` = the first position whose predicate holds -/
def Code.address (c : Code) (a : Nat) : Option Block :=
  match (sortByBegin c.blocks).find? (fun b => b.stop > a) with
  | none => none
  | some b => if b.begin > a then none else some b

/-- `Block.Address(a)` -/
def Block.address (b : Block) (a : Nat) : Option Ins :=
  match b.ins.find? (fun i => i.addr ≥ a) with
  | none => none
  | some i => if i.addr ≠ a then none else some i

/-! ### commands.go -/

inductive Cmd where
  | down (n : Nat)
  | up (n : Nat)
  | move (src dst : Nat)
  | bounds (l : Nat)
  /-- `matches = none`: `regexp.CompilePOSIX` fails; otherwise `matches[i]` = the pattern matches
  the text of line `i` -/
  | find (ms : Option (List Bool))
  | goto (n : Nat)
  | entrypoint
  deriving DecidableEq, Repr

inductive Status where
  | ok
  /-- `find` without a match: a message is shown and `nil` is returned -/
  | noMatch
  | err (e : ErrClass)
  deriving DecidableEq, Repr

/-- state of the disassembler mode -/
structure St where
  code : Code
  lines : Lines
  cursor : Cursor
  deriving DecidableEq, Repr, Inhabited

/-- `disassemble.New(code, _)` -/
def St.init (code : Code) : St :=
  let l := newLines code
  { code, lines := l, cursor := ⟨l.len, 0⟩ }

inductive FindRes where
  | found (i : Nat)
  | notFound
  | panic
  | outOfFuel
  deriving DecidableEq, Repr

/-- `for i := start; i != offset; i = (i + 1) % Len { if match(Index(i)) { line = i; break } }` -/
def findLoop (ms : List Bool) (len offset : Nat) : (fuel : Nat) → (i : Nat) → FindRes
  | 0, _ => .outOfFuel
  | fuel + 1, i =>
    if i = offset then .notFound
    else
      match ms[i]? with
      | none => .panic            -- `Index(i)` out of range
      | some true => .found i
      | some false => findLoop ms len offset fuel ((i + 1) % len)

/-- where the search starts: `(offset + 1) % Len` after the repair of F22, `offset + 1` before -/
def findStart (repaired : Bool) (len offset : Nat) : Nat :=
  if repaired then (offset + 1) % len else offset + 1

def setCursor (st : St) (v : Int) : Status × St :=
  match st.cursor.set v with
  | .ok c => (.ok, { st with cursor := c })
  | .error e => (.err e, st)

/-- the marks of a failed resp. successful `move` -/
def markMove (l : Lines) (src dst : Nat) (failed : Bool) : Option Lines :=
  match l.setMark src (if failed then markErrMovedFrom else markMovedFrom) with
  | none => none
  | some l1 => l1.setMark dst (if failed then markErrMovedTo else markMovedTo)

/-- the action of `move` -/
def cmdMove (ops : CodeOps) (st : St) (src dst : Nat) : Option (Status × St) :=
  if src ≥ st.lines.len ∨ dst ≥ st.lines.len then some (.err .tooBig, st)        -- repair F21
  else
    match st.lines.unmarkAll with
    | none => none
    | some l0 =>
      match l0.move ops st.code src dst with
      | none => none
      | some r =>
        match r.err with
        | some e =>
          match markMove r.lines src dst true with
          | none => none
          | some l2 => some (.err (.move e), { st with lines := l2, code := r.code })
        | none =>
          match markMove r.lines src dst false with
          | none => none
          | some l2 => some (.ok, { st with lines := l2, code := r.code })

/-- the action of `bounds` -/
def cmdBounds (st : St) (l : Nat) : Option (Status × St) :=
  if l ≥ st.lines.len then some (.err .tooBig, st)                                 -- repair F21
  else
    match st.lines.unmarkAll with
    | none => none
    | some l0 =>
      match l0.block st.code l with
      | none => none
      | some none =>
        match l0.setMark l markErr with
        | none => none
        | some l1 => some (.err .noBlock, { st with lines := l1 })
      | some (some block) =>
        match l0.lines[l]? with
        | none => none
        | some ln =>
          match ln.instr with
          | none =>
            match l0.setMark l markErr with
            | none => none
            | some l1 => some (.err .notIns, { st with lines := l1 })
          | some ins =>
            match block.ins[ins]? with          -- `b.index(i)` of LowerBound/UpperBound
            | none => none
            | some i =>
              match l0.line block i.lower, l0.line block i.upper with
              | some lowerLine, some upperLine =>
                match l0.setMark (lowerLine - 1) markLowerBound with
                | none => none
                | some l1 =>
                  match l1.setMark (upperLine + 1) markUpperBound with
                  | none => none
                  | some l2 => some (.ok, { st with lines := l2 })
              | _, _ => none

/-- the action of `find` -/
def cmdFind (st : St) (ms : Option (List Bool)) : Option (Status × St) :=
  match ms with
  | none => some (.err .regex, st)
  | some ms =>
    let len := st.lines.len
    if len = 0 then none                       -- `% 0`
    else
      match findLoop ms len st.cursor.value (len + 1) (findStart true len st.cursor.value) with
      | .found i => some (setCursor st i)
      | .notFound => some (.noMatch, st)
      | .panic => none
      | .outOfFuel => none

/-- the action of `goto` -/
def cmdGoto (st : St) (n : Nat) : Status × St :=
  if n > st.lines.len then (.err .tooBig, st) else setCursor st n

/-- the action of `entrypoint` (the error of `Cursor.Set` is dropped, as in the Go code) -/
def cmdEntrypoint (st : St) : Option (Status × St) :=
  match st.code.address st.code.entry with
  | none => some (.err .noBlockAddr, st)
  | some block =>
    match block.address st.code.entry with
    | none => some (.err .noInsAddr, st)
    | some ins =>
      match st.lines.line block ins.idx with
      | none => none
      | some line => some (.ok, (setCursor st line).2)

/-- one command of the disassembler mode; `none` = the program panics -/
def step (ops : CodeOps) (st : St) : Cmd → Option (Status × St)
  | .down n => some (setCursor st (wrap64 (st.cursor.value + n)))
  | .up n => some (setCursor st (wrap64 (st.cursor.value + -(n : Int))))
  | .move f t => cmdMove ops st f t
  | .bounds l => cmdBounds st l
  | .find ms => cmdFind st ms
  | .goto n => some (cmdGoto st n)
  | .entrypoint => cmdEntrypoint st

/-- a history of commands; `none` = a command panicked -/
def run (ops : CodeOps) : St → List Cmd → Option St
  | st, [] => some st
  | st, c :: cs =>
    match step ops st c with
    | none => none
    | some (_, st') => run ops st' cs

/-! ### reference instance of the code operations (`internal/deps/moves.go`) -/

/-- `move(arr, from, to)` as far as the order is concerned -/
def moveList {α} (l : List α) (src dst : Nat) : List α :=
  match l[src]? with
  | none => l
  | some x => let r := l.eraseIdx src; r.take dst ++ x :: r.drop dst

/-- `setIndex(i)`: the Go loop renumbers the positions between `from` and `to`; all other elements keep
their place and their index, so — indices being positions before the move — every index is its position
afterwards -/
def renumberBlocks (bs : List Block) : List Block := bs.mapIdx fun i b => { b with idx := i }

/-- `setIndex(i)` (see `renumberBlocks`) and `setAddr(a)` on the positions `lo..hi`: the addresses of
these instructions are laid out anew from `a` on -/
def relayIns : (pos lo hi a : Nat) → List Ins → List Ins
  | _, _, _, _, [] => []
  | pos, lo, hi, a, i :: is =>
    if lo ≤ pos ∧ pos ≤ hi then
      { i with idx := pos, addr := a } :: relayIns (pos + 1) lo hi ((a + i.bytes.length) % 2 ^ 64) is
    else { i with idx := pos } :: relayIns (pos + 1) lo hi a is

/-- `Code.Move`: `checkFromToIndex`, then `move` -/
def refMoveBlock (c : Code) (src dst : Nat) : Option Code :=
  if src < c.blocks.length ∧ dst < c.blocks.length then
    some { c with blocks := renumberBlocks (moveList c.blocks src dst) }
  else none

/-- `Block.Move`: `checkMove` (with the bounds stored in the state), then `move` -/
def refMoveInsBlock (b : Block) (src dst : Nat) : Option Block :=
  match b.ins[src]?, b.ins[dst]? with
  | some f, some _ =>
    if src < dst ∧ f.upper < dst then none
    else if dst < src ∧ f.lower > dst then none
    else
      let lo := min src dst
      let a := match b.ins[lo]? with | some i => i.addr | none => 0
      some { b with ins := relayIns 0 lo (max src dst) a (moveList b.ins src dst) }
  | _, _ => none

def refMoveIns (c : Code) (block src dst : Nat) : Option Code :=
  match c.blocks[block]? with
  | none => none
  | some b =>
    match refMoveInsBlock b src dst with
    | none => none
    | some b' => some { c with blocks := c.blocks.set block b' }

def refOps : CodeOps := ⟨refMoveIns, refMoveBlock⟩

end Mltwist.Listing
