import Mltwist.Model.Parse
import Mltwist.Model.Deps
import Mltwist.Model.Emulator
import Mltwist.Model.Listing
import Mltwist.Model.MemView
import Mltwist.Model.UI
import Mltwist.Spec.Listing
/-
THE COMPOSED MODEL: the definitions of the composition layer (`Lemmas/Compose*.lean`, `Props/Compose.lean`) that
are EXECUTED — the fully instantiated console session `realSession` and everything underneath it.  They live here,
in a core-only file, so that the compiled model driver (`lean_exe mdriver`, which cannot link Mathlib) runs exactly
the definitions the composition theorems are about (`Driver/UIRealOps.lean`, op `uireal`: the differential check of
the composition against the Go program).  The lemma files import this file; nothing here is proved here.

The declarations keep the namespace `Mltwist.Lemmas.Compose` they had when they were defined next to their lemmas
(every theorem, note and design text refers to them by these names).

* `rawOf`, `emuOf`, `insOf`, `codeViewOf`     (lemmas: `Lemmas/ComposeDeps.lean`)
* `Info`, `listingOf`, `realMoveIns`, `realMoveBlock`, `opsAt`     (`Lemmas/ComposeListing.lean`)
* `movedDeps`, `nextDeps`     (`Lemmas/ComposeListing.lean`)
* `ofMem`     (`Lemmas/ComposeEmu.lean`)
* `ESt`, `strOf`, `provOf`, `stepTree`, `stepFuel`, `regsOf`, `startState`, `emuOps`     (`Lemmas/ComposeEmu.lean`)
* `paramsAt`, `actDeps`, `uiNextDeps`, `RUI`, `realRunWith`, `realSession`     (`Lemmas/ComposeUI.lean`)
* `infoOfParsed`     (`Props/Compose.lean`)
-/
namespace Mltwist.Lemmas.Compose

/-! ### the code view of the dependency model (`Lemmas/ComposeDeps.lean`) -/

section
open Mltwist Mltwist.Deps

/-- what `deps.NewCode` receives (`cmd/mltwist/main.go`: `deps.NewCode(entrypoint, ins)`): C07's `Raw`
(`Nat × Nat × Nat × List Effect`: type, address, length, effects) of a `parser.Instruction` -/
def rawOf {δ : Type} (is : List (Parse.Ins δ)) : List (Nat × Nat × Nat × List Effect) :=
  is.map fun i => (i.typ, i.addr, i.bytes.length, i.effects)

/-- a `deps.Instruction` as the emulator sees it: `Begin()` (the CURRENT address), `Len()`, `Effects()` -/
def emuOf (i : Deps.Ins) : Emulator.Ins := ⟨i.currAddr, i.len, i.effects⟩

/-- all instructions of the code in the order of `blocksByAddr`, i.e. by address -/
def insOf (c : Code) : List Deps.Ins := c.store.flatMap (·.seq)

/-- THE CODE VIEW of the dependency model: what the emulator can observe of a `deps.Code` -/
def codeViewOf (c : Code) : Emulator.CodeView := (insOf c).map emuOf

end

/-! ### the listing view of the dependency model (`Lemmas/ComposeListing.lean`) -/

section
open Mltwist Mltwist.Deps

/-- text (`Instruction.String()`) and bytes (`Bytes()`) of the instruction with a given original address -/
abbrev Info := Nat → String × List UInt8

/-- a bound as the listing stores it (`LowerBound`/`UpperBound` return non-negative `int`s on valid positions) -/
def boundNat (o : Option Int) : Nat := (o.getD 0).toNat

/-- the instruction at position `pos` of the block `b` as the listing sees it -/
def lIns (info : Info) (b : Deps.Block) (pos : Nat) (i : Deps.Ins) : Listing.Ins :=
  { text := (info i.origAddr).1, bytes := (info i.origAddr).2, idx := i.blockIdx, addr := i.currAddr,
    lower := boundNat (b.lowerBound pos), upper := boundNat (b.upperBound pos) }

def lInsList (info : Info) (b : Deps.Block) : List Listing.Ins := b.seq.mapIdx fun pos i => lIns info b pos i

/-- a block as the listing sees it: `Idx()`, `Begin()`, `End()`, `Instructions()` -/
def lBlock (info : Info) (b : Deps.Block) : Listing.Block := ⟨b.idx, b.begin, b.end_, lInsList info b⟩

/-- `Code.Blocks()`: the block objects in current order -/
def curBlocks (c : Deps.Code) : List Deps.Block := c.blocks.filterMap fun p => c.store[p]?

/-- THE LISTING VIEW of the dependency model -/
def listingOf (info : Info) (c : Deps.Code) : Listing.Code := ⟨c.entry, (curBlocks c).map (lBlock info)⟩

/-- `code.Index(k).Move(s, d)`; `none` = rejected (or a panic, which C07 excludes) -/
def realMoveIns (c : Deps.Code) (k s d : Nat) : Option Deps.Code :=
  match c.index k with
  | none => none
  | some b =>
    match b.move s d with
    | .ok b' => some (c.put b')
    | .error _ => none

/-- `code.Move(s, d)` -/
def realMoveBlock (c : Deps.Code) (s d : Nat) : Option Deps.Code :=
  match c.move s d with
  | .ok c' => some c'
  | .error _ => none

/-- the code operations at the real state `c`: on the view of `c` — the only argument the listing passes while
the real state is `c` — they ARE `code.Index(k).Move(s, d)` and `code.Move(s, d)` of the dependency model, seen
through the view; elsewhere they are the reference transcription (only to be total and lawful on all inputs) -/
def opsAt (info : Info) (c : Deps.Code) : Listing.CodeOps where
  moveIns lc k s d :=
    if lc = listingOf info c then (realMoveIns c k s d).map (listingOf info) else Listing.refOps.moveIns lc k s d
  moveBlock lc s d :=
    if lc = listingOf info c then (realMoveBlock c s d).map (listingOf info) else Listing.refOps.moveBlock lc s d

end

/-! ### the real code after a command of the disassembler mode (`Lemmas/ComposeListing.lean`) -/

section
open Mltwist Mltwist.Listing Mltwist.Listing.Spec

/-- the real operation behind `Lines.Move` when the rows at the two line numbers are `rf`, `rt` -/
def movedDeps (c : Deps.Code) (rf rt : Option Row) : Deps.Code :=
  match rf, rt with
  | some a, some b =>
    match a.block, b.block with
    | some fb, some tb =>
      match a.instr, b.instr with
      | none, none => (realMoveBlock c fb tb).getD c
      | some fi, some ti => if fb = tb then (realMoveIns c fb fi ti).getD c else c
      | _, _ => c
    | _, _ => c
  | _, _ => c

/-- the real state after a command of the disassembler mode -/
def nextDeps (c : Deps.Code) (st : St) : Cmd → Deps.Code
  | .move f t =>
    if f ≥ st.lines.len ∨ t ≥ st.lines.len then c
    else movedDeps c ((st.lines.lines[f]?).map rowOf) ((st.lines.lines[t]?).map rowOf)
  | _ => c

end

/-! ### the memory view of a stack of memories (`Lemmas/ComposeEmu.lean`) -/

section
open Mltwist Mltwist.Overlay Mltwist.MemView

/-- what the memory view reads from a stack of memories: `Blocks().Intervals()` and, per address, the bytes of the
constant `ConstFold(Load(a, 1))` -/
def ofMem (m : Overlay.Mem) : MemView.Mem where
  blocks := match m.blocks with
    | .ok l => some (l.map toRange)
    | .error _ => none
  load1 a := match m.load a 1 with
    | .ok (some e) =>
      match constFold e with
      | .const bs => some bs
      | _ => none
    | _ => none

end

/-! ### the emulator of the console UI (`Lemmas/ComposeEmu.lean`) -/

section
open Mltwist Mltwist.State Mltwist.Overlay Mltwist.Emulator Mltwist.UI

/-- `*emulator.Emulator`: the code it was created on and its state -/
structure ESt where
  code : Emulator.CodeView
  st : State.State

/-- a Go string (bytes) as a key of the state maps -/
def strOf (s : Str) : String := String.ofList (s.map fun c => Char.ofNat c.toNat)

/-- the values typed in so far, per request -/
abbrev Answers := List (Req × List UInt8)

/-- the `StateProvider` after the answers `ans`: a request that was answered returns its answer -/
def provOf (ans : Answers) : Provider where
  reg k w := ((ans.find? fun p => p.1 == Req.reg k w).map (·.2)).getD []
  mem k a w := ((ans.find? fun p => p.1 == Req.mem k a w).map (·.2)).getD []

/-- the width the prompt asks for -/
def reqWidth : Req → Nat
  | .reg _ w => w
  | .mem _ _ w => w

/-- the first request of the log of a replay that has no answer yet -/
def firstOpen (ans : Answers) (log : List Req) : Option Req := log.find? fun r => !(ans.any fun p => p.1 == r)

/-- `Emulator.Step()` with the console as state provider.  The step is replayed with the answers typed so far
(`fuel` bounds the number of prompts of one step); the first request of its log that has no answer yet is the
next prompt (`expr.Width` is `uint8`).  A step that ends in the access error (REPAIR F45) has asked the provider
as well: its open requests are prompts, then `Step` returns the error and the emulator keeps the answers. -/
def stepTree (e : ESt) : Nat → Answers → StepTree ESt
  | 0, _ => .fail e
  | fuel + 1, ans =>
    match Emulator.step (provOf ans) e.code e.st with
    | .panic _ => .panic
    | .err => .fail e
    | .ok s' _ log =>
      match firstOpen ans log with
      | none => .done ⟨e.code, s'⟩
      | some r => .ask (reqWidth r % 256) fun c => stepTree e fuel (ans ++ [(r, c)])
    | .accessErr s' log _ _ =>
      match firstOpen ans log with
      | none => .fail ⟨e.code, s'⟩
      | some r => .ask (reqWidth r % 256) fun c => stepTree e fuel (ans ++ [(r, c)])

/-- prompts of one step: far beyond what an instruction can ask for -/
def stepFuel : Nat := 4096

/-- the register file as the register view sees it: sorted by key (`regKeys`) -/
def regsOf (m : RegMap) : List Render.Reg :=
  (m.map fun p => (⟨p.1, p.2.width⟩ : Render.Reg)).mergeSort fun a b => !decide (b.key < a.key)

/-- the state `emulF` of `cmd/mltwist` (`runIU`) hands to `emulate.New`: no register, the program image as a byte
memory under an empty sparse memory (`Lemmas.Emulator.toolState [] bs`, definitionally) -/
def startState (bs : List BytesMem.Block) : State.State :=
  { regs := RegMap.empty, mems := [(Riscv.memoryKey, .overlay (.bytes bs) (.sparse []))] }

/-- THE EMULATOR of the console UI over the real emulator model: `bs` the byte memory of the program
(`memory.NewBytes`), `cv` the code view of the dependency model at the time `emulate` is executed -/
def emuOps (bs : List BytesMem.Block) (cv : Emulator.CodeView) : EmuOps ESt where
  init _ ip := ⟨cv, Emulator.new ip (startState bs)⟩
  ip e := match mustIP e.st with
    | .ok a => some a
    | .error _ => none
  step e := stepTree e stepFuel []
  regWidth e k := (assocGet (strOf k) e.st.regs).map fun x => x.width % 256
  regStore e k c :=
    match assocGet (strOf k) e.st.regs with
    | some x => { e with st := { e.st with regs := e.st.regs.store (strOf k) (.const c) (x.width % 256) } }
    | none => e
  mem e k := (assocGet (strOf k) e.st.mems).map ofMem
  regs e := regsOf e.st.regs

end

/-! ### the instantiated UI (`Lemmas/ComposeUI.lean`) -/

section
open Mltwist Mltwist.UI

/-- the parameters of `processCommand` at the real code `d` -/
def paramsAt (info : Info) (bs : List BytesMem.Block) (rx : Str → Option (String → Bool))
    (d : Deps.Code) : Params ESt :=
  ⟨opsAt info d, emuOps bs (codeViewOf d), rx⟩

/-- the real code after the action `act` on `args` in the mode `top`: only `move` of the disassembler mode
touches it -/
def actDeps (d : Deps.Code) (top : NamedMode ESt) (act : Act) (args : List ArgVal) : Deps.Code :=
  match top.mode, args with
  | .dis st, [.num f, .num t] => if act = .dMove then nextDeps d st (.move f t) else d
  | _, _ => d

/-- the real code after one call of `processCommand` -/
def uiNextDeps (d : Deps.Code) (ui : UI ESt) : Input → Deps.Code
  | [] => d
  | line :: _ =>
    match ui.stack with
    | [] => d
    | top :: _ =>
      match parseCommand top.cmdMap line with
      | .ok cmd args => actDeps d top cmd.act args
      | _ => d

/-- the composed state: the real code and the UI -/
structure RUI where
  deps : Deps.Code
  ui : UI ESt

/-- the loop of `UI.Run` over the real models -/
def realRunWith (info : Info) (bs : List BytesMem.Block)
    (rx : Str → Option (String → Bool)) : Nat → RUI → Input → Final
  | 0, _, _ => .outOfFuel
  | fuel + 1, r, inp =>
    match uiStep (paramsAt info bs rx r.deps) r.ui inp with
    | .cont _ ui' rest => realRunWith info bs rx fuel ⟨uiNextDeps r.deps r.ui inp, ui'⟩ rest
    | .exited _ => .exited
    | .eof a => .eof a
    | .hang => .hang
    | .panic => .panic

/-- a whole session on the code `d0`: `consoleui.New(disassemble.New(code, emulF))`, then `Run` -/
def realSession (info : Info) (bs : List BytesMem.Block)
    (rx : Str → Option (String → Bool)) (d0 : Deps.Code) (inp : Input) : Final :=
  match UI.init (listingOf info d0) with
  | none => .panic
  | some ui => realRunWith info bs rx (inp.length + 1) ⟨d0, ui⟩ inp

end

end Mltwist.Lemmas.Compose

/-! ### the texts and bytes of a parsed program (`Props/Compose.lean`) -/

namespace Mltwist.Props.Compose
open Mltwist Mltwist.Lemmas.Compose

/-- the `info` the real program shows: the disassembly text of C25 (`Entry.text`, the model of
`instruction.String()`) and the bytes of the parsed instruction with that original address -/
def infoOfParsed (is : List (Parse.Ins (Riscv.Entry × Riscv.Ins))) : Info := fun a =>
  match is.find? fun i => i.addr == a with
  | some i => (i.details.1.text i.details.2, i.bytes)
  | none => ("", [])

end Mltwist.Props.Compose
