import Mltwist.Model.BasicBlock
/-
Model of the dependency analysis and the move bookkeeping of `internal/deps`
(`instruction.go`, `block.go`, `code.go`, `moves.go`, `deps_true.go`, `deps_anti.go`,
`deps_output.go`, `deps_control.go`, `deps_special.go`) — properties C05, C06, C07.
Basic-block construction is `Mltwist.BasicBlock` (C08) and is reused unchanged.

Pointers.  Go instructions and blocks are heap objects reached through pointers.  The model
gives every instruction an `id` (its position in the sequence handed to `newBlock`, i.e. in
the ORIGINAL order of its block) and every block a `ptr` (its position in `blocksByAddr`).
`depsFwd`/`depsBack` of all instructions of a block are one set of pairs `(id, id)` kept in
the block (`edges`; a list read as a set: only membership is ever used, `addDep` is a map
insertion).  `Code.blocks` is a list of block pointers into `store` (= `blocksByAddr`).

Go maps.  `regSet` is a duplicate-free list (`keySet`), `keyInsMap` an association list
(`List.lookup`, insertion = consing).  Every `for … range map` loop of the package only reads
a map that is not written in the same loop and inserts into a set, or writes pairwise different
keys, so the iteration order is irrelevant (proved as membership characterisations in
`Lemmas/DepsFootprint.lean` and `Lemmas/DepsScan.lean`).  `findBound` takes a maximum/minimum, which is order independent.

Aliasing in `move`.  `arr[i] = arr[i+1]; arr[i].setIndex(i)` mutates the object that slot `i+1`
still points to; that slot is overwritten by the next iteration or by `arr[to] = f`, so in the
final slice every object occurs once and carries the fields that were assigned to it last.
The value model (`List.set` of updated copies) yields exactly that slice.

Arithmetic.  `model.Addr` is `uint64`: `End()`, the block length and the block end wrap modulo
`2^64`.  Indices are Go `int`s: `from`/`to`/`i` arguments are `Int`, and so are the results of
`LowerBound`/`UpperBound` (`idx - 1` may be `-1`).  `blockIdx` is `-1` between `newInstruction`
and `newBlock`, which overwrites it before anything reads it; the model starts with `0`.

Go panics are explicit: `none` of the `Option`-valued functions below, `MoveErr.panic`,
`Answer.panic`.  REPAIRS (the pinned tree violates C05/C07, see corpus/C05.txt, C07.txt):
F07 `findOutputDepsReg` records every writer as the closest later writer (`regs[r] = ins` also
when a later writer exists), so the writers of a register form a chain; F08 `findControlDeps`
pins every instruction that writes the instruction pointer; F50 `Code.Address` compares with the
last byte of a block (`end - 1 >= a`), so a block that ends at `2^64` is found.
-/
namespace Mltwist.Deps
open Mltwist

/-- `model.Addr` is `uint64` -/
abbrev M : Nat := BasicBlock.M

/-- `expr.IPKey` -/
abbrev ipKey : String := BasicBlock.ipKey

/-! ### `instruction.go` -/

/-- insertion into a Go set (`map[expr.Key]struct{}`) -/
def insertKey (k : String) (s : List String) : List String := if k ∈ s then s else s ++ [k]

/-- the set of the keys of a list -/
def keySet (ks : List String) : List String := ks.foldl (fun s k => insertKey k s) []

/-- `exprtransform.ExprsMany` -/
def exprsMany (efs : List Effect) : List Expr := efs.flatMap Effect.exprs

def regLoadKey : Expr → Option String
  | .regLoad k _ => some k
  | _ => none

def memLoadKey : Expr → Option String
  | .memLoad k _ _ => some k
  | _ => none

/-- `inputRegs`: keys of all `RegLoad`s of all operand expressions -/
def inputRegs (efs : List Effect) : List String :=
  keySet ((exprsMany efs).flatMap fun ex => (findAll .regLoad ex).filterMap regLoadKey)

/-- `outputRegs`: keys of all `RegStore`s -/
def outputRegs (efs : List Effect) : List String :=
  keySet (efs.filterMap fun ef => match ef with
    | .regStore _ k _ => some k
    | .memStore .. => none)

/-- `loads`: all `MemLoad`s of all operand expressions; only `Key()` of them is ever used -/
def loads (efs : List Effect) : List String :=
  (exprsMany efs).flatMap fun ex => (findAll .memLoad ex).filterMap memLoadKey

/-- `stores`: all `MemStore`s; only `Key()` of them is ever used -/
def stores (efs : List Effect) : List String :=
  efs.filterMap fun ef => match ef with
    | .memStore _ k _ _ => some k
    | .regStore .. => none

/-- `deps.instruction` (without bytes/details: only `len(bytes)` matters) -/
structure Ins where
  /-- pointer identity: position in the original order of the block -/
  id : Nat
  typ : Nat
  origAddr : Nat
  len : Nat
  effects : List Effect
  jumpTargets : List Expr
  currAddr : Nat
  blockIdx : Nat
  deriving DecidableEq, Repr, Inhabited

namespace Ins
def inRegs (i : Ins) : List String := inputRegs i.effects
def outRegs (i : Ins) : List String := outputRegs i.effects
def loads (i : Ins) : List String := Deps.loads i.effects
def stores (i : Ins) : List String := Deps.stores i.effects
/-- `End()`: `currAddr + Len()` in `uint64` -/
def end_ (i : Ins) : Nat := (i.currAddr + i.len) % M
/-- `model.Type` bits: `TypeMemOrder = 1`, `TypeCPUStateChange = 2`, `TypeSyscall = 4` -/
def memOrder (i : Ins) : Bool := i.typ % 2 == 1
def cpuStateChange (i : Ins) : Bool := i.typ / 2 % 2 == 1
def syscall (i : Ins) : Bool := i.typ / 4 % 2 == 1
end Ins

/-- `newInstruction` -/
def newInstruction (typ addr len : Nat) (effects : List Effect) : Ins :=
  { id := 0, typ, origAddr := addr, len, effects,
    jumpTargets := BasicBlock.jumps addr len effects, currAddr := addr, blockIdx := 0 }

/-! ### the dependency finders -/

/-- all `depsFwd`/`depsBack` sets of a block: `(first, second)` -/
abbrev Edges := List (Nat × Nat)

/-- `keyInsMap` -/
abbrev KeyMap := List (String × Nat)

/-- `addDep(first, second)` -/
def addDep (first second : Nat) (E : Edges) : Edges := (first, second) :: E

/-- `for _, k := range keys { if dep, ok := m[k]; ok { addDep(dep, ins) } }` -/
def depsFromMap (keys : List String) (m : KeyMap) (ins : Nat) (E : Edges) : Edges :=
  keys.foldl (fun E k => match m.lookup k with
    | some dep => addDep dep ins E
    | none => E) E

/-- `for _, k := range keys { dep, ok := m[k]; if !ok || dep == ins { continue }; addDep(ins, dep) }`
(without the `dep == ins` test when `skipSelf = false`) -/
def depsToMap (skipSelf : Bool) (keys : List String) (m : KeyMap) (ins : Nat) (E : Edges) : Edges :=
  keys.foldl (fun E k => match m.lookup k with
    | some dep => if skipSelf && dep == ins then E else addDep ins dep E
    | none => E) E

/-- `for _, k := range keys { m[k] = ins }` -/
def setAll (keys : List String) (ins : Nat) (m : KeyMap) : KeyMap :=
  keys.foldl (fun m k => (k, ins) :: m) m

/-- `findTrueDepsReg` -/
def findTrueDepsReg (ins : Ins) (regs : KeyMap) (E : Edges) : KeyMap × Edges :=
  (setAll ins.outRegs ins.id regs, depsFromMap ins.inRegs regs ins.id E)

/-- `findTrueDepsMemory` -/
def findTrueDepsMemory (ins : Ins) (memory : KeyMap) (E : Edges) : KeyMap × Edges :=
  (setAll ins.stores ins.id memory, depsFromMap ins.loads memory ins.id E)

/-- body of the loop of `findTrueDeps`; state = (`regs`, `memory`, edges) -/
def trueStep (st : KeyMap × KeyMap × Edges) (ins : Ins) : KeyMap × KeyMap × Edges :=
  let r := findTrueDepsReg ins st.1 st.2.2
  let m := findTrueDepsMemory ins st.2.1 r.2
  (r.1, m.1, m.2)

/-- `findTrueDeps`: forward scan -/
def findTrueDeps (instrs : List Ins) (E : Edges) : Edges :=
  (instrs.foldl trueStep ([], [], E)).2.2

/-- `findAntiDepsReg` -/
def findAntiDepsReg (ins : Ins) (regs : KeyMap) (E : Edges) : KeyMap × Edges :=
  let regs := setAll ins.outRegs ins.id regs
  (regs, depsToMap true ins.inRegs regs ins.id E)

/-- `findAntiDepsMemory` -/
def findAntiDepsMemory (ins : Ins) (memory : KeyMap) (E : Edges) : KeyMap × Edges :=
  let memory := setAll ins.stores ins.id memory
  (memory, depsToMap true ins.loads memory ins.id E)

/-- body of the loop of `findAntiDeps` -/
def antiStep (ins : Ins) (st : KeyMap × KeyMap × Edges) : KeyMap × KeyMap × Edges :=
  let r := findAntiDepsReg ins st.1 st.2.2
  let m := findAntiDepsMemory ins st.2.1 r.2
  (r.1, m.1, m.2)

/-- `findAntiDeps`: backward scan (`foldr` visits the last instruction first) -/
def findAntiDeps (instrs : List Ins) (E : Edges) : Edges :=
  (instrs.foldr antiStep ([], [], E)).2.2

/-- `findOutputDepsReg` with the F07 repair: `regs[r] = ins` in both branches -/
def findOutputDepsReg (ins : Ins) (regs : KeyMap) (E : Edges) : KeyMap × Edges :=
  ins.outRegs.foldl (fun (st : KeyMap × Edges) r =>
    match st.1.lookup r with
    | none => ((r, ins.id) :: st.1, st.2)
    | some dep => ((r, ins.id) :: st.1, addDep ins.id dep st.2)) (regs, E)

/-- `findOutputDepsMemory` -/
def findOutputDepsMemory (ins : Ins) (memory : KeyMap) (E : Edges) : KeyMap × Edges :=
  (setAll ins.stores ins.id memory, depsToMap false ins.stores memory ins.id E)

/-- body of the loop of `findOutputDeps` -/
def outputStep (ins : Ins) (st : KeyMap × KeyMap × Edges) : KeyMap × KeyMap × Edges :=
  let r := findOutputDepsReg ins st.1 st.2.2
  let m := findOutputDepsMemory ins st.2.1 r.2
  (r.1, m.1, m.2)

/-- `findOutputDeps`: backward scan -/
def findOutputDeps (instrs : List Ins) (E : Edges) : Edges :=
  (instrs.foldr outputStep ([], [], E)).2.2

/-- the F08 repair in `findControlDeps`: `for i, ins := range instrs`; `before = instrs[:i]` -/
def pinLoop : List Ins → List Ins → Edges → Edges
  | _, [], E => E
  | before, ins :: after, E =>
    let E :=
      if ipKey ∈ ins.outRegs then
        let E := before.foldl (fun E prev => addDep prev.id ins.id E) E
        after.foldl (fun E next => addDep ins.id next.id E) E
      else E
    pinLoop (before ++ [ins]) after E

/-- `findControlDeps`; `none` = `instrs[len(instrs)-1]` on an empty slice -/
def findControlDeps (instrs : List Ins) (E : Edges) : Option Edges :=
  let E := pinLoop [] instrs E
  match instrs.getLast? with
  | none => none
  | some last =>
    if last.jumpTargets.length = 0 then some E
    else some (instrs.dropLast.foldl (fun E ins => addDep ins.id last.id E) E)

/-- `isMemAccess` -/
def isMemAccess (ins : Ins) : Bool := ins.stores.length > 0 || ins.loads.length > 0
/-- `insMemOrder` -/
def insMemOrder (ins : Ins) : Bool := ins.memOrder
/-- `insSpecial` -/
def insSpecial (ins : Ins) : Bool := ins.syscall || ins.cpuStateChange

/-- the state of both walks of `findSpecialDeps`: `lastMemOrder`, `lastSpecial`, edges -/
structure SpecialState where
  lastMemOrder : Option Nat
  lastSpecial : Option Nat
  edges : Edges

/-- the tail of both loop bodies -/
def specialUpdate (ins : Ins) (st : SpecialState) : SpecialState :=
  let lmo := if insMemOrder ins then some ins.id else st.lastMemOrder
  if insSpecial ins then { lastMemOrder := none, lastSpecial := some ins.id, edges := st.edges }
  else { st with lastMemOrder := lmo }

/-- body of the first (forward) walk -/
def specialFwdStep (st : SpecialState) (ins : Ins) : SpecialState :=
  let E := st.edges
  let E := match st.lastMemOrder with
    | some m => if isMemAccess ins then addDep m ins.id E else E
    | none => E
  let E := match st.lastSpecial with
    | some s => addDep s ins.id E
    | none => E
  specialUpdate ins { st with edges := E }

/-- body of the second (backward) walk -/
def specialBackStep (ins : Ins) (st : SpecialState) : SpecialState :=
  let E := st.edges
  let E := match st.lastMemOrder with
    | some m => if isMemAccess ins || insMemOrder ins then addDep ins.id m E else E
    | none => E
  let E := match st.lastSpecial with
    | some s => addDep ins.id s E
    | none => E
  specialUpdate ins { st with edges := E }

/-- `findSpecialDeps` -/
def findSpecialDeps (instrs : List Ins) (E : Edges) : Edges :=
  let st := instrs.foldl specialFwdStep ⟨none, none, E⟩
  if st.lastMemOrder.isNone && st.lastSpecial.isNone then st.edges
  else (instrs.foldr specialBackStep ⟨none, none, st.edges⟩).edges

/-! ### `block.go` -/

structure Block where
  /-- pointer identity: position in `blocksByAddr` -/
  ptr : Nat
  begin : Nat
  end_ : Nat
  seq : List Ins
  edges : Edges
  idx : Nat
  deriving DecidableEq, Repr, Inhabited

/-- the first loop of `newBlock` (`ins.setIndex(i)`); it also fixes the model's pointer ids -/
def indexFrom : Nat → List Ins → List Ins
  | _, [] => []
  | k, ins :: rest => { ins with id := k, blockIdx := k } :: indexFrom (k + 1) rest

/-- `length += ins.Len()` in `uint64` -/
def seqLength (seq : List Ins) : Nat := seq.foldl (fun l ins => (l + ins.len) % M) 0

/-- the five finders in the order of `newBlock`; `none` = panic of `findControlDeps` -/
def findAllDeps (seq : List Ins) : Option Edges :=
  (findControlDeps seq (findOutputDeps seq (findAntiDeps seq (findTrueDeps seq [])))).map
    (findSpecialDeps seq)

/-- `newBlock`; `none` = panic (`instrs[len(instrs)-1]`, `seq[0]` of an empty sequence) -/
def newBlock (idx : Nat) (seq : List Ins) : Option Block :=
  let seq := indexFrom 0 seq
  match findAllDeps seq, seq with
  | some E, first :: _ =>
    some { ptr := idx, begin := first.currAddr, end_ := (first.currAddr + seqLength seq) % M,
           seq, edges := E, idx }
  | _, _ => none

/-- `ins.blockIdx` through the pointer `id` -/
def blockIdxOf (seq : List Ins) (id : Nat) : Option Nat :=
  (seq.find? (·.id == id)).map (·.blockIdx)

/-- `findBound`; the initial `curr = -1` is `none` -/
def findBound (cmpF : Nat → Nat → Bool) (seq : List Ins) (set : List Nat) : Option Nat :=
  set.foldl (fun curr id =>
    match blockIdxOf seq id with
    | none => curr
    | some bi =>
      match curr with
      | none => some bi
      | some c => if cmpF bi c then some bi else curr) none

/-- `ins.depsBack` -/
def Block.depsBack (b : Block) (id : Nat) : List Nat :=
  b.edges.filterMap fun e => if e.2 = id then some e.1 else none

/-- `ins.depsFwd` -/
def Block.depsFwd (b : Block) (id : Nat) : List Nat :=
  b.edges.filterMap fun e => if e.1 = id then some e.2 else none

/-- `b.index(i)`: `b.seq[i]`, `none` = index out of range -/
def Block.index (b : Block) (i : Int) : Option Ins :=
  if i < 0 then none else b.seq[i.toNat]?

/-- `LowerBound`; `none` = panic -/
def Block.lowerBound (b : Block) (i : Int) : Option Int :=
  (b.index i).map fun ins =>
    match findBound (fun x y => x > y) b.seq (b.depsBack ins.id) with
    | none => 0
    | some idx => (idx : Int) + 1

/-- `UpperBound`; `none` = panic -/
def Block.upperBound (b : Block) (i : Int) : Option Int :=
  (b.index i).map fun ins =>
    match findBound (fun x y => x < y) b.seq (b.depsFwd ins.id) with
    | none => (b.seq.length : Int) - 1
    | some idx => (idx : Int) - 1

/-! ### `moves.go` -/

inductive MoveErr where
  | negFrom | aboveFrom | negTo | aboveTo
  | upper (u : Int)
  | lower (l : Int)
  | panic
  deriving DecidableEq, Repr

/-- `checkFromToIndex` (`validateArrayIndex` twice) -/
def checkFromToIndex (from_ to : Int) (l : Nat) : Except MoveErr Unit :=
  if from_ < 0 then .error .negFrom
  else if from_ ≥ l then .error .aboveFrom
  else if to < 0 then .error .negTo
  else if to ≥ l then .error .aboveTo
  else .ok ()

/-- the `movable` interface -/
structure Movable (α : Type) where
  setIndex : α → Nat → α
  begin : α → Nat
  end_ : α → Nat
  setAddr : α → Nat → α

/-- the loop of `moveFwd`: `k` remaining iterations, loop variable `i`, running address `a` -/
def moveFwdLoop {α} (o : Movable α) : Nat → Nat → Nat → List α → Option (List α × Nat)
  | 0, _, a, arr => some (arr, a)
  | k + 1, i, a, arr =>
    match arr[i + 1]? with
    | none => none
    | some y =>
      let x := o.setAddr (o.setIndex y i) a
      moveFwdLoop o k (i + 1) (o.end_ x) (arr.set i x)

/-- `moveFwd` (`from < to`) -/
def moveFwd {α} (o : Movable α) (arr : List α) (from_ to : Nat) : Option (List α) :=
  match arr[from_]? with
  | none => none
  | some f =>
    match moveFwdLoop o (to - from_) from_ (o.begin f) arr with
    | none => none
    | some (arr, a) =>
      if to < arr.length then some (arr.set to (o.setAddr (o.setIndex f to) a)) else none

/-- the first loop of `moveBack`: `for i := from; i > to; i--` -/
def moveBackShift {α} (o : Movable α) : Nat → Nat → List α → Option (List α)
  | 0, _, arr => some arr
  | k + 1, i, arr =>
    match arr[i - 1]? with
    | none => none
    | some y => if i < arr.length then moveBackShift o k (i - 1) (arr.set i (o.setIndex y i)) else none

/-- the second loop of `moveBack`: `for i := to; i <= from; i++` -/
def moveBackAddr {α} (o : Movable α) : Nat → Nat → Nat → List α → Option (List α)
  | 0, _, _, arr => some arr
  | k + 1, i, a, arr =>
    match arr[i]? with
    | none => none
    | some y =>
      let x := o.setAddr y a
      moveBackAddr o k (i + 1) (o.end_ x) (arr.set i x)

/-- `moveBack` (`from > to`) -/
def moveBack {α} (o : Movable α) (arr : List α) (from_ to : Nat) : Option (List α) :=
  match arr[from_]?, arr[to]? with
  | some f, some t =>
    match moveBackShift o (from_ - to) from_ arr with
    | none => none
    | some arr => moveBackAddr o (from_ - to + 1) to (o.begin t) (arr.set to (o.setIndex f to))
  | _, _ => none

/-- `move` -/
def move {α} (o : Movable α) (arr : List α) (from_ to : Nat) : Option (List α) :=
  if from_ = to then some arr
  else if from_ < to then moveFwd o arr from_ to
  else moveBack o arr from_ to

/-- `*instruction` as `movable` -/
def insMovable : Movable Ins where
  setIndex i k := { i with blockIdx := k }
  begin i := i.currAddr
  end_ i := i.end_
  setAddr i a := { i with currAddr := a }

/-- `*block` as `movable`: `setAddr` is empty -/
def blockMovable : Movable Block where
  setIndex b k := { b with idx := k }
  begin b := b.begin
  end_ b := b.end_
  setAddr b _ := b

/-- `checkMove` -/
def Block.checkMove (b : Block) (from_ to : Int) : Except MoveErr Unit := do
  checkFromToIndex from_ to b.seq.length
  if from_ < to then
    match b.upperBound from_ with
    | none => throw .panic
    | some u => if u < to then throw (.upper u) else pure ()
  else if from_ > to then
    match b.lowerBound from_ with
    | none => throw .panic
    | some l => if l > to then throw (.lower l) else pure ()
  else pure ()

/-- `Block.Move` -/
def Block.move (b : Block) (from_ to : Int) : Except MoveErr Block := do
  b.checkMove from_ to
  match Deps.move insMovable b.seq from_.toNat to.toNat with
  | none => throw .panic
  | some seq => pure { b with seq }

/-- `Block.Address`: `none` = panic, `some none` = not found -/
def Block.address (b : Block) (a : Nat) : Option (Option Ins) :=
  match BasicBlock.search b.seq.length (fun i =>
      match b.seq[i]? with
      | none => .error .panic
      | some x => .ok (decide (x.currAddr ≥ a))) with
  | .error _ => none
  | .ok i =>
    if i = b.seq.length then some none
    else
      match b.seq[i]? with
      | none => none
      | some ins => if ins.currAddr ≠ a then some none else some (some ins)

/-! ### `code.go` -/

structure Code where
  entry : Nat
  /-- the block objects; `blocksByAddr[p]` is the pointer `p` -/
  store : List Block
  /-- `c.blocks`: pointers -/
  blocks : List Nat
  deriving DecidableEq, Repr, Inhabited

/-- the full instruction behind a `basicblock.Instruction` (addresses are pairwise distinct in
well-formed code) -/
def findRaw (raw : List Ins) (x : BasicBlock.Ins) : Option Ins := raw.find? (·.origAddr == x.addr)

/-- the loop `blocks[i] = newBlock(i, seq)` -/
def newBlocks : Nat → List (List Ins) → Option (List Block)
  | _, [] => some []
  | i, seq :: rest =>
    match newBlock i seq, newBlocks (i + 1) rest with
    | some b, some bs => some (b :: bs)
    | _, _ => none

/-- `NewCode` -/
def newCode (entry : Nat) (raw : List (Nat × Nat × Nat × List Effect)) :
    Except BasicBlock.ParseFail Code := do
  let ins := raw.map fun (t, a, l, efs) => newInstruction t a l efs
  let seqs ← BasicBlock.parse entry (ins.map fun i => ⟨i.origAddr, i.len, i.jumpTargets⟩)
  match newBlocks 0 (seqs.map fun s => s.filterMap (findRaw ins)) with
  | none => throw .panic
  | some bs => pure { entry, store := bs, blocks := List.range bs.length }

/-- `c.blocks[i]`; `none` = index out of range -/
def Code.index (c : Code) (i : Int) : Option Block :=
  if i < 0 then none else (c.blocks[i.toNat]?).bind fun p => c.store[p]?

/-- write a mutated block object back to the heap -/
def Code.put (c : Code) (b : Block) : Code := { c with store := c.store.set b.ptr b }

/-- `Code.Move` -/
def Code.move (c : Code) (from_ to : Int) : Except MoveErr Code := do
  checkFromToIndex from_ to c.blocks.length
  match Deps.move blockMovable (c.blocks.filterMap fun p => c.store[p]?) from_.toNat to.toNat with
  | none => throw .panic
  | some arr =>
    pure { c with store := arr.foldl (fun st b => st.set b.ptr b) c.store, blocks := arr.map (·.ptr) }

/-- `Code.Address` with the F50 repair (`end - 1 >= a` in `uint64`); `none` = panic -/
def Code.address (c : Code) (a : Nat) : Option (Option Block) :=
  match BasicBlock.search c.store.length (fun i =>
      match c.store[i]? with
      | none => .error .panic
      | some b => .ok (decide ((b.end_ + (M - 1)) % M ≥ a))) with
  | .error _ => none
  | .ok i =>
    if i = c.store.length then some none
    else
      match c.store[i]? with
      | none => none
      | some b => if b.begin > a then some none else some (some b)

/-! ### histories -/

inductive Op where
  | mv (block from_ to : Int)
  | bmv (from_ to : Int)
  | lb (block i : Int)
  | ub (block i : Int)
  | addr (a : Nat)
  | edges (block : Int)
  deriving DecidableEq, Repr

inductive Answer where
  | panic
  | ok
  | err (e : MoveErr)
  | bound (n : Int)
  | addr (r : Option (Block × Option Ins))
  | edges (b : Block)
  deriving Repr

/-- one operation of the harness on the code -/
def Code.step (c : Code) : Op → Code × Answer
  | .mv bi from_ to =>
    match c.index bi with
    | none => (c, .panic)
    | some b =>
      match b.move from_ to with
      | .ok b' => (c.put b', .ok)
      | .error .panic => (c, .panic)
      | .error e => (c, .err e)
  | .bmv from_ to =>
    match c.move from_ to with
    | .ok c' => (c', .ok)
    | .error .panic => (c, .panic)
    | .error e => (c, .err e)
  | .lb bi i =>
    match (c.index bi).bind (·.lowerBound i) with
    | none => (c, .panic)
    | some n => (c, .bound n)
  | .ub bi i =>
    match (c.index bi).bind (·.upperBound i) with
    | none => (c, .panic)
    | some n => (c, .bound n)
  | .addr a =>
    match c.address a with
    | none => (c, .panic)
    | some none => (c, .addr none)
    | some (some b) =>
      match b.address a with
      | none => (c, .panic)
      | some r => (c, .addr (some (b, r)))
  | .edges bi =>
    match c.index bi with
    | none => (c, .panic)
    | some b => (c, .edges b)

/-- the code after a history -/
def Code.run (c : Code) (ops : List Op) : Code := ops.foldl (fun c op => (c.step op).1) c

end Mltwist.Deps
