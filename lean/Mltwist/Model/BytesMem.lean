import Mltwist.Model.Const
import Mltwist.Model.Interval
/-
Value model of `internal/state/memory/bytes.go` (C15): the byte memory as a list of blocks
`(begin, bytes)`.  Addresses are `Nat` (Go: `model.Addr = uint64`; the property only speaks about
ranges whose end is representable, `addr + w < 2^64`, where no `uint64` operation of the code
wraps).  Byte slices are values here; everything that concerns sharing of backing arrays is the
subject of the second, heap-level model `Mltwist.Model.BytesHeap`.

Library stand-ins (trusted base): `sort.Slice` = stable insertion sort by `begin`;
`sort.Search(n, p)` = the least index satisfying `p` or `n` (`List.findIdx`); the builtin
`copy`/`append` on values = `take`/`drop`/`++`.

Every Go operation that can panic is an explicit failure: `Fail.index` (index or slice bounds out of
range), `Fail.overlap` (`dedupBlocks` returns an error: the error of `NewBytes`, and the
`bug: store resulted in byte overlap` panic of `Store`), `Fail.nonConst` (the documented panic of
`Store` for a non-constant expression).  `Fail.fuel` is the only model artefact (the `for len(bs) > 0`
loop of `Store` runs on fuel `len(bs)`; `storeLoop_spec` in `Lemmas/BytesMemOps` proves it is never reported).

The model follows the code after the repairs F32 (element shift by `copy`), F05 (stored bytes are
copied; invisible at value level) and F36 (`NewBytes` skips empty blocks).
-/
namespace Mltwist.BytesMem

/-- `byteBlock{begin, bytes}` -/
abbrev Block := Nat × List UInt8

/-- `byteBlock.end()` -/
def bend (b : Block) : Nat := b.1 + b.2.length

inductive Fail where
  | overlap
  | index
  | nonConst
  | fuel
  deriving DecidableEq, Repr, Inhabited

instance decEqResult {α : Type} [DecidableEq α] : DecidableEq (Except Fail α)
  | .ok a, .ok b => if h : a = b then isTrue (by rw [h]) else isFalse (fun e => by cases e; exact h rfl)
  | .error a, .error b =>
    if h : a = b then isTrue (by rw [h]) else isFalse (fun e => by cases e; exact h rfl)
  | .ok _, .error _ => isFalse (fun e => by cases e)
  | .error _, .ok _ => isFalse (fun e => by cases e)

/-- insertion into a list sorted by `begin`, after all elements with an equal `begin` -/
def insertByBegin (x : Block) : List Block → List Block
  | [] => [x]
  | y :: ys => if x.1 < y.1 then x :: y :: ys else y :: insertByBegin x ys

/-- stable sort by `begin` (stands for `sort.Slice`) -/
def sortByBegin (l : List Block) : List Block := l.foldl (fun acc x => insertByBegin x acc) []

/-- Go slice expression `s[lo:hi]` on a value (`cap = len`); `none` = bounds panic -/
def sliceB (l : List UInt8) (lo hi : Nat) : Option (List UInt8) :=
  if lo ≤ hi ∧ hi ≤ l.length then some ((l.drop lo).take (hi - lo)) else none

/-- the loop of `dedupBlocks` on the array `bs` with its two cursors; the fuel is `len(bs) - i`
(the loop condition `i < len(bs)`).  `j--; continue` followed by the post statement `j+1` leaves
`j` unchanged. -/
def dedupLoop : Nat → List Block → Nat → Nat → Except Fail (List Block)
  | 0, bs, _, j => .ok (bs.take j)
  | fuel + 1, bs, i, j =>
    match bs[j - 1]?, bs[i]? with
    | some p, some c =>
      if bend p > c.1 then .error .overlap
      else if bend p = c.1 then dedupLoop fuel (bs.set (j - 1) (p.1, p.2 ++ c.2)) (i + 1) j
      else dedupLoop fuel (bs.set j c) (i + 1) (j + 1)
    | _, _ => .error .index

/-- `dedupBlocks` -/
def dedupBlocks (bs : List Block) : Except Fail (List Block) :=
  if bs.length < 2 then .ok bs else dedupLoop (bs.length - 1) bs 1 1

/-- `NewBytes`: copy (empty blocks are skipped, F36), sort, `dedupBlocks` -/
def newBytes (l : List Block) : Except Fail (List Block) :=
  dedupBlocks (sortByBegin (l.filter fun b => !b.2.isEmpty))

/-- `Bytes.address`: the index of the block containing `addr` -/
def address (bs : List Block) (addr : Nat) : Option Nat :=
  let idx := bs.findIdx fun b => decide (addr < bend b)
  match bs[idx]? with
  | none => none                                   -- idx == len(b.blocks)
  | some b => if addr < b.1 then none else some idx

/-- `Bytes.Load`; the inner option is the boolean result -/
def load (bs : List Block) (addr w : Nat) : Except Fail (Option (List UInt8)) :=
  let end_ := addr + w
  match address bs addr with
  | none => .ok none
  | some blockIdx =>
    match bs[blockIdx]? with
    | none => .error .index
    | some block =>
      if bend block < end_ then .ok none
      else
        let baseIdx := addr - block.1
        match sliceB block.2 baseIdx (baseIdx + w) with
        | none => .error .index
        | some s => .ok (some (Const.newConst s w))

/-- `if idx != len(b.blocks) && b.blocks[idx].begin < end { end = b.blocks[idx].begin }`;
`next` is `b.blocks[idx]` if `idx != len(b.blocks)` -/
def cutEnd (next : Option Block) (end0 : Nat) : Nat :=
  match next with
  | some nb => if nb.1 < end0 then nb.1 else end0
  | none => end0

/-- `Bytes.store`: writes a prefix of `data` at `addr`, returns the new blocks and the number of
bytes written -/
def store (bs : List Block) (addr : Nat) (data : List UInt8) : Except Fail (List Block × Nat) :=
  match address bs addr with
  | some blockIdx =>
    match bs[blockIdx]? with
    | none => .error .index
    | some block =>
      let beginIdx := addr - block.1
      let endIdx := if beginIdx + data.length > block.2.length then block.2.length
        else beginIdx + data.length
      if beginIdx > endIdx then .error .index          -- block.bytes[beginIdx:endIdx]
      else
        let n := endIdx - beginIdx                       -- copy: min(len dst, len src)
        .ok (bs.set blockIdx
          (block.1, block.2.take beginIdx ++ data.take n ++ block.2.drop endIdx), n)
  | none =>
    let end0 := addr + data.length
    let idx := bs.findIdx fun b => decide (addr < b.1)
    let end_ := cutEnd bs[idx]? end0
    match sliceB data 0 (end_ - addr) with               -- bs[:end-addr]
    | none => .error .index
    | some piece =>
      let grown := bs ++ [((0 : Nat), ([] : List UInt8))] -- append(b.blocks, byteBlock{})
      let shifted := grown.take (idx + 1) ++ bs.drop idx  -- copy(b.blocks[idx+1:], b.blocks[idx:])
      .ok (shifted.set idx (addr, piece), end_ - addr)

/-- the loop `for len(bs) > 0 { n := b.store(addr, bs); bs = bs[n:]; addr += n }` -/
def storeLoop : Nat → List Block → Nat → List UInt8 → Except Fail (List Block)
  | _, bs, _, [] => .ok bs
  | 0, _, _, _ :: _ => .error .fuel
  | fuel + 1, bs, addr, d :: ds =>
    match store bs addr (d :: ds) with
    | .error e => .error e
    | .ok (bs', n) => storeLoop fuel bs' (addr + n) ((d :: ds).drop n)

/-- `Bytes.Store` of a constant with bytes `c` -/
def storeConst (bs : List Block) (addr w : Nat) (c : List UInt8) : Except Fail (List Block) :=
  let data := Const.withWidth c w
  match storeLoop data.length bs addr data with
  | .error e => .error e
  | .ok bs' => dedupBlocks bs'

/-- `Bytes.Store` -/
def storeExpr (bs : List Block) (addr w : Nat) (ex : Expr) : Except Fail (List Block) :=
  match ex with
  | .const c => storeConst bs addr w c
  | _ => .error .nonConst

/-- `Bytes.intervalMap` -/
def intervalMap (bs : List Block) : List Interval.Intv :=
  Interval.newMap (bs.map fun b => ((b.1 : Int), (bend b : Int)))

/-- `Bytes.Missing` -/
def missing (bs : List Block) (addr w : Nat) : List Interval.Intv :=
  Interval.mapComplement (Interval.newMap [((addr : Int), ((addr + w : Nat) : Int))]) (intervalMap bs)

/-- `Bytes.Blocks` -/
def blocks (bs : List Block) : List Interval.Intv := intervalMap bs

/-- a history of constant stores `(addr, w, constant bytes)` -/
def runStores : List Block → List (Nat × Nat × List UInt8) → Except Fail (List Block)
  | bs, [] => .ok bs
  | bs, (a, w, c) :: rest =>
    match storeConst bs a w c with
    | .error e => .error e
    | .ok bs' => runStores bs' rest

end Mltwist.BytesMem
